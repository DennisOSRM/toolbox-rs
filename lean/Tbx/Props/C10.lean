import Tbx.Proofs.AHeapInvRun
/-
C10 — the addressable heap behaves as a min-priority queue with decrease-key.

The registered theorems with their proofs (what the sifts establish, `upHeap_inv` and `delMid_spec`, and the array
facts of each operation live in Tbx/Proofs/AHeapInv*.lean).  Registered in Tbx/Audit/C10.lean.

Vocabulary (defined in Tbx/Proofs/AHeapInvDefs.lean and Tbx/Proofs/AHeapInvRun.lean):
  `Inv s`      representation invariant of the model state (sentinel, weights ≥ min_value, heap
               order, back pointers, forward pointers / `key = 0` iff removed, id-map contract)
  `abs s`      the reference queue `Tbx.PQ.Q` the state stands for (nodes in insertion order,
               `live` iff `key ≠ 0`)
  `Op`, `step` one operation of the model (`none` = the Rust panics), `run` a history
  `Pre`        the precondition of an operation, read in the reference state
  `SpecStep`/`SpecRun`  the reference queue's (nondeterministic in `delete_min`) behaviours
  `ValidFrom`  a history all of whose preconditions hold along the model's own run
  `Valid`      the same, purely on the reference (for every choice of minimum)

`refines_step`, `min_is_minimum` and `flush_post` stand under two names: proved in namespace `Tbx.AHeap` (the first
below, the other two in AHeapInvObs / AHeapInvRun), which is the form other proofs use, and registered in this namespace
as a one-line restatement.  `find_abs` here takes `Inv` where `AHeap.find_abs` takes the id-map contract alone.
-/
namespace Tbx.Props.C10
open Tbx Tbx.AHeap

/-- the D2 witness prefix -/
def ex3 : Heap := insert (insert (insert (init (-100) 100) 1 10 7) 2 20 8) 3 30 9

/-- a history exercising every operation, including the D2 (decrease then extract) and D4
(insert after flush) situations -/
def exOps : List Op :=
  [.ins 1 10 7, .ins 2 20 8, .ins 3 30 9, .dec 3 5, .del, .setd 1 4, .decd 2 6 1, .del,
   .flush, .ins 4 1 1, .clear, .ins 5 2 2, .ins 6 2 3, .del]

instance (wmin wmax : Int) (q : PQ.Q) (op : Op) : Decidable (Pre wmin wmax q op) := by
  cases op <;> unfold Pre <;> infer_instance

def validFromB (s : Heap) : List Op → Bool
  | [] => true
  | op :: ops =>
    decide (Pre s.wmin s.wmax (abs s) op) &&
      (match step s op with
       | none => true
       | some (s', _) => validFromB s' ops)

theorem validFromB_sound (ops : List Op) : ∀ s, validFromB s ops = true → ValidFrom s ops := by
  induction ops with
  | nil => intro _ _; trivial
  | cons op ops ih =>
    intro s h
    simp only [validFromB, Bool.and_eq_true, decide_eq_true_eq] at h
    refine ⟨h.1, ?_⟩
    intro s' r hs
    rw [hs] at h
    exact ih s' h.2

theorem exOps_valid : ValidFrom (init (-100) 100) exOps := validFromB_sound _ _ (by decide +kernel)

/-- the executable minimum check used by the judge is exactly the Spec's `IsMin` -/
theorem judge_isMin_sound (q : PQ.Q) (id : Int) : PQ.isMinB q id = true ↔ PQ.IsMin q id :=
  PQ.isMinB_iff q id

/-- a fresh heap satisfies the invariant and stands for the empty queue -/
theorem inv_init (wmin wmax : Int) : Inv (init wmin wmax) ∧ abs (init wmin wmax) = [] :=
  ⟨init_inv wmin wmax, init_abs wmin wmax⟩

theorem insertedLen_eq (s : Heap) : insertedLen s = PQ.insertedLen (abs s) := by
  simp [insertedLen, PQ.insertedLen, abs]

theorem len_eq (s : Heap) (I : Inv s) : len s = PQ.len (abs s) := by
  have hsz : 1 + (s.heap.size - 1) = s.heap.size := Nat.add_sub_cancel' I.size_pos
  -- the node indices of the slots 1.. and the indices of the live nodes: two duplicate-free lists with the same members
  let L := (List.range' 1 (s.heap.size - 1)).map (fun k => (gt s.heap k).index)
  let R := (List.range s.nodes.size).filter (fun i => (gt s.nodes i).key != 0)
  have hL : L.Nodup := by
    show List.Pairwise _ _
    rw [List.pairwise_map]
    refine List.Pairwise.imp_of_mem ?_ (List.nodup_range' (s := 1) (n := s.heap.size - 1))
    intro a b ha hb hab
    rw [List.mem_range'_1] at ha hb
    intro e
    have ka := (I.back a ha.1 (hsz ▸ ha.2)).2.1
    have kb := (I.back b hb.1 (hsz ▸ hb.2)).2.1
    rw [e] at ka; exact hab (ka.symm.trans kb)
  have hR : R.Nodup := List.Pairwise.filter _ List.nodup_range
  have hperm : L.Perm R := by
    rw [List.perm_ext_iff_of_nodup hL hR]
    intro a
    simp only [L, R, List.mem_map, List.mem_range'_1, List.mem_filter, List.mem_range, bne_iff_ne]
    constructor
    · rintro ⟨k, ⟨k1, k2⟩, rfl⟩
      obtain ⟨c1, c2, _⟩ := I.back k k1 (hsz ▸ k2)
      exact ⟨c1, by rw [c2]; exact Nat.ne_of_gt k1⟩
    · rintro ⟨a1, a2⟩
      obtain ⟨c1, c2⟩ := I.fwd a a1 a2
      exact ⟨_, ⟨Nat.pos_of_ne_zero a2, hsz.symm ▸ c1⟩, c2⟩
  have h1 : L.length = s.heap.size - 1 := by simp [L]
  have h2 : PQ.len (abs s) = R.length := by
    unfold PQ.len
    rw [abs_eq_range, List.filter_map, List.length_map]
    congr 1
    apply List.filter_congr
    intro i _
    simp only [Function.comp, ent]
    by_cases e : (gt s.nodes i).key = 0 <;> simp [e]
  unfold len
  rw [h2, ← hperm.length_eq, h1]

theorem isEmpty_eq (s : Heap) (I : Inv s) : isEmpty s = (PQ.len (abs s) == 0) := by
  unfold isEmpty; rw [len_eq s I]

/-- lookups in the reference queue go through the id map (so the ids in `abs s` are distinct) -/
theorem find_abs (s : Heap) (I : Inv s) (id : Int) :
    PQ.find? (abs s) id = (lookup s.idx id).map (fun i => ent (gt s.nodes i)) :=
  AHeap.find_abs s I.idmap id

theorem weight_eq (s : Heap) (I : Inv s) (id : Int) : weight s id = PQ.weight (abs s) s.wmax id := by
  unfold weight PQ.weight
  rw [find_abs s I]
  cases lookup s.idx id <;> rfl

theorem contains_eq (s : Heap) (I : Inv s) (id : Int) : contains s id = PQ.contains (abs s) id := by
  unfold contains PQ.contains
  rw [find_abs s I]
  cases lookup s.idx id with
  | none => rfl
  | some i =>
    simp only [Option.map_some, ent]
    by_cases e : (gt s.nodes i).key = 0 <;> simp [e]

theorem removed_eq (s : Heap) (I : Inv s) (id : Int) : removed s id = PQ.removed (abs s) id := by
  unfold removed PQ.removed
  rw [find_abs s I]
  cases lookup s.idx id with
  | none => rfl
  | some i =>
    simp only [Option.map_some, ent]
    by_cases e : (gt s.nodes i).key = 0 <;> simp [e]

theorem inserted_eq (s : Heap) (I : Inv s) (id : Int) : inserted s id = PQ.inserted (abs s) id := by
  unfold inserted PQ.inserted
  rw [find_abs s I]
  cases hl : lookup s.idx id with
  | none => rfl
  | some i =>
    obtain ⟨_, i2⟩ := (I.idmap id i).1 hl
    simp [i2]

theorem data_eq (s : Heap) (I : Inv s) (id : Int) : data? s id = PQ.data? (abs s) id := by
  unfold data? PQ.data?
  rw [find_abs s I]
  cases lookup s.idx id <;> rfl

/-- every observer of the model equals the reference queue's observer on `abs s` -/
theorem observers_refine (s : Heap) (I : Inv s) :
    len s = PQ.len (abs s) ∧ isEmpty s = (PQ.len (abs s) == 0) ∧
    insertedLen s = PQ.insertedLen (abs s) ∧
    ∀ id, weight s id = PQ.weight (abs s) s.wmax id ∧ contains s id = PQ.contains (abs s) id ∧
      removed s id = PQ.removed (abs s) id ∧ inserted s id = PQ.inserted (abs s) id ∧
      data? s id = PQ.data? (abs s) id :=
  ⟨len_eq s I, isEmpty_eq s I, insertedLen_eq s, fun id =>
    ⟨weight_eq s I id, contains_eq s I id, removed_eq s I id, inserted_eq s I id, data_eq s I id⟩⟩

/-- `min()` is a contained id whose weight is minimal among the contained ids -/
theorem min_is_minimum (s : Heap) (I : Inv s) (id : Int) (h : min? s = some id) : PQ.IsMin (abs s) id :=
  AHeap.min_is_minimum s I id h

/-- `min()` is undefined (the Rust panics) exactly on the empty queue -/
theorem min_none_iff (s : Heap) (I : Inv s) : min? s = none ↔ PQ.len (abs s) = 0 := by
  rw [← len_eq s I]
  unfold min? len
  split
  · rename_i h; simp; omega
  · rename_i h; simp; omega

/-- `insert` of a fresh id with a weight ≥ `min_value` -/
theorem insert_refines (s : Heap) (I : Inv s) (id w d : Int)
    (hfresh : PQ.inserted (abs s) id = false) (hw : s.wmin ≤ w) :
    Inv (insert s id w d) ∧ abs (insert s id w d) = PQ.insert (abs s) id w d ∧
    (insert s id w d).wmin = s.wmin ∧ (insert s id w d).wmax = s.wmax := by
  have hp := I.size_pos
  have hsz : (insertPre s id w d).heap.size = s.heap.size + 1 := Array.size_push _
  obtain ⟨a, b⟩ := upHeap_inv (m := insertPre s id w d) I s.heap.size w hp
    (Nat.lt_of_lt_of_eq (Nat.lt_succ_self _) hsz.symm)
    (fun k k1 k2 =>
      have k3 := Nat.lt_of_le_of_ne (Nat.le_of_lt_succ (Nat.lt_of_lt_of_eq k1 hsz)) k2
      ⟨k3, gt_push_lt _ _ _ k3⟩)
    (congrArg Elem.weight (gt_push_eq _ _)) rfl hw (fun h => absurd h (Nat.lt_irrefl _))
    (I.ptr.push id w d) (I.idmap.push id _ rfl
      (Option.isNone_iff_eq_none.mp (Option.isSome_eq_false_iff.mp ((inserted_abs s I id).symm.trans hfresh))))
  rw [insert_eq]
  refine ⟨a, b.trans ?_, upHeap_wmin _ _, upHeap_wmax _ _⟩
  show (s.nodes.push _).toList.map ent = _
  unfold abs PQ.insert
  rw [Array.toList_push, List.map_append]
  congr 1
  simp only [List.map_cons, List.map_nil, ent]
  rw [decide_eq_true (Nat.ne_of_gt hp : s.heap.size ≠ 0)]

theorem ex3_inv : Inv ex3 := by
  have I0 := init_inv (-100) 100
  have I1 := (insert_refines _ I0 1 10 7 (by decide) (by decide)).1
  have I2 := (insert_refines _ I1 2 20 8 (by decide) (by decide)).1
  exact (insert_refines _ I2 3 30 9 (by decide) (by decide)).1

example : Inv ex3 ∧ PQ.inserted (abs ex3) 4 = false ∧ ex3.wmin ≤ 1 := ⟨ex3_inv, by decide, by decide⟩

/-- `decrease_key` of a contained id to a weight in `[min_value, current weight]` -/
theorem decreaseKey_refines (s : Heap) (I : Inv s) (id w : Int)
    (hc : PQ.contains (abs s) id = true) (hw1 : s.wmin ≤ w) (hw2 : w ≤ PQ.weight (abs s) s.wmax id) :
    ∃ s', decreaseKey s id w = some s' ∧ Inv s' ∧ abs s' = PQ.decreaseKey (abs s) id w ∧
      s'.wmin = s.wmin ∧ s'.wmax = s.wmax := by
  obtain ⟨i, hl, hk, l3⟩ := lookup_of_contains s I id hc
  refine ⟨upHeap (decPre s i w) (gt s.nodes i).key, by rw [decreaseKey_eq, hl]; rfl, ?_⟩
  obtain ⟨i1, i2⟩ := (I.idmap id i).1 hl
  obtain ⟨f1, f2⟩ := I.fwd i i1 hk
  have b3 := (I.back _ (Nat.pos_of_ne_zero hk) f1).2.2
  rw [f2] at b3
  have hsz : (decPre s i w).nodes.size = s.nodes.size := size_st _ _ _
  have hhsz : (decPre s i w).heap.size = s.heap.size := size_st _ _ _
  obtain ⟨a, b⟩ := upHeap_inv (m := decPre s i w) I (gt s.nodes i).key w (Nat.pos_of_ne_zero hk)
    (Nat.lt_of_lt_of_eq f1 hhsz.symm)
    (fun k k1 k2 => ⟨Nat.lt_of_lt_of_eq k1 hhsz, gt_st_ne _ _ _ _ (Ne.symm k2)⟩)
    (congrArg Elem.weight (gt_st_eq _ _ _ f1)) rfl hw1 (fun _ => b3 ▸ l3 ▸ hw2)
    (hsz ▸ I.ptr.setWeight i1 (Nat.ne_of_lt i1) hk w)
    (I.idmap.frame hsz fun j => gt_st_field Node.id _ _ _ _ rfl)
  refine ⟨a, ?_, upHeap_wmin _ _, upHeap_wmax _ _⟩
  rw [b, ← i2]
  exact abs_st I.idmap i1 _ _ rfl

example : Inv ex3 ∧ PQ.contains (abs ex3) 3 = true ∧ ex3.wmin ≤ 5 ∧ 5 ≤ PQ.weight (abs ex3) ex3.wmax 3 :=
  ⟨ex3_inv, by decide, by decide, by decide⟩

/-- `data_mut(id) = d` on an inserted (contained or removed) id -/
theorem setData_refines (s : Heap) (I : Inv s) (id d : Int) (hi : PQ.inserted (abs s) id = true) :
    ∃ s', setData s id d = some s' ∧ Inv s' ∧ abs s' = PQ.setData (abs s) id d ∧
      s'.wmin = s.wmin ∧ s'.wmax = s.wmax := by
  obtain ⟨i, hl⟩ := Option.isSome_iff_exists.mp ((inserted_abs s I id).symm.trans hi)
  obtain ⟨i1, i2⟩ := (I.idmap id i).1 hl
  refine ⟨{ s with nodes := st s.nodes i { gt s.nodes i with data := d } }, by rw [setData_eq, hl]; rfl,
    ?_, by rw [← i2]; exact abs_st I.idmap i1 _ _ rfl, rfl, rfl⟩
  have hs : (st s.nodes i { gt s.nodes i with data := d }).size = s.nodes.size := size_st _ _ _
  exact Inv.of_ptr I.size_pos I.sentinel I.wlo I.ord
    (hs.symm ▸ I.ptr.of_cols rfl hs (fun _ => rfl) (fun j => gt_st_field Node.key _ _ _ _ rfl) fun k k1 k2 =>
      (gt_st_field Node.weight s.nodes i { gt s.nodes i with data := d } _ rfl).trans (I.back k k1 k2).2.2)
    (I.idmap.frame hs fun j => gt_st_field Node.id _ _ _ _ rfl)

example : Inv ex3 ∧ PQ.inserted (abs ex3) 2 = true := ⟨ex3_inv, by decide⟩

/-- `decrease_key_and_update_data` is `decrease_key`, then `data_mut`: their two refinement steps composed (a contained
id is still inserted after the decrease) -/
theorem decreaseKeyData_refines (s : Heap) (I : Inv s) (id w d : Int)
    (hc : PQ.contains (abs s) id = true) (hw1 : s.wmin ≤ w) (hw2 : w ≤ PQ.weight (abs s) s.wmax id) :
    ∃ s', decreaseKeyData s id w d = some s' ∧ Inv s' ∧
      abs s' = PQ.setData (PQ.decreaseKey (abs s) id w) id d ∧
      s'.wmin = s.wmin ∧ s'.wmax = s.wmax := by
  obtain ⟨s1, e1, I1, a1, m1, M1⟩ := decreaseKey_refines s I id w hc hw1 hw2
  have hi : PQ.inserted (abs s1) id = true := by
    unfold PQ.contains at hc
    unfold PQ.inserted
    rw [a1]; unfold PQ.decreaseKey
    rw [PQ.find_map_upd _ id (fun e => { e with weight := w }) (fun _ => rfl), if_pos rfl, Option.isSome_map]
    cases hf : PQ.find? (abs s) id with
    | none => rw [hf] at hc; cases hc
    | some e => rfl
  obtain ⟨s2, e2, I2, a2, m2, M2⟩ := setData_refines s1 I1 id d hi
  exact ⟨s2, by unfold decreaseKeyData; rw [e1]; exact e2, I2, a1 ▸ a2, m2.trans m1, M2.trans M1⟩

example : Inv ex3 ∧ PQ.contains (abs ex3) 2 = true ∧ ex3.wmin ≤ 20 ∧ 20 ≤ PQ.weight (abs ex3) ex3.wmax 2 :=
  ⟨ex3_inv, by decide, by decide, by decide⟩

/-- `delete_min` on a non-empty queue: it returns a contained id of minimal weight (the one
`min()` reports) and removes exactly that id -/
theorem deleteMin_refines (s : Heap) (I : Inv s) (hne : PQ.len (abs s) ≠ 0) :
    ∃ s' id, deleteMin s = some (s', id) ∧ Inv s' ∧ PQ.IsMin (abs s) id ∧
      abs s' = PQ.remove (abs s) id ∧ min? s = some id ∧ s'.wmin = s.wmin ∧ s'.wmax = s.wmax := by
  have h : 1 < s.heap.size := by rw [← len_eq s I] at hne; unfold len at hne; omega
  obtain ⟨m1, m2, m3, m4, m5, m6⟩ := delMid_spec s I h
  obtain ⟨m7, m8, m9⟩ := delMid_params s
  have m0 : (delMid s).heap.size = s.heap.size - 1 := m1.trans (size_delHeap s)
  obtain ⟨K1, K2⟩ := kill_spec (m := delMid s) (by omega)
    (by rw [m6, m8]; exact (congrArg Elem.weight (gt_delHeap_ne s 0 (by omega) (by omega))).trans I.sentinel)
    (fun k hk => by rw [m8]; exact m5 k (Nat.lt_of_lt_of_eq hk m1)) m2 m3
    (by rw [m7]; exact I.idmap.frame m4.1 m4.id_eq) (Nat.lt_of_lt_of_eq (I.back 1 (by omega) h).1 m4.1.symm)
  refine ⟨_, (gt s.nodes (gt s.heap 1).index).id, ?_, K1, root_isMin s I h,
    K2.trans (congr (congrArg PQ.remove m4.abs_eq) (m4.id_eq _)), ?_, m8, m9⟩
  · rw [deleteMin_eq, if_neg (by omega), setKey_id, m4.id_eq]
  · unfold min?; rw [if_neg (by omega)]

example : Inv ex3 ∧ PQ.len (abs ex3) ≠ 0 := ⟨ex3_inv, by decide⟩

/-- non-vacuity of the observer theorems (their only hypothesis is `Inv s`), with a live and a
removed id: `ex3` after one `delete_min` -/
example : ∃ s id, deleteMin ex3 = some (s, id) ∧ Inv s ∧ contains s 2 = true ∧ removed s 1 = true := by
  obtain ⟨s', id, a, b, _⟩ := deleteMin_refines ex3 ex3_inv (by decide)
  refine ⟨s', id, a, b, ?_⟩
  have : deleteMin ex3 = some ((deleteMin ex3).get (by decide)) := by simp
  rw [this] at a
  cases a
  exact ⟨by decide, by decide⟩

/-- non-vacuity: after the D2 witness history the minimum is the decreased id -/
example : ∃ s, decreaseKey ex3 3 5 = some s ∧ min? s = some 3 := ⟨_, rfl, by decide⟩
example : Inv ex3 ∧ min? ex3 = some 1 := ⟨ex3_inv, by decide⟩

theorem flush_refines (s : Heap) (I : Inv s) :
    Inv (flush s) ∧ abs (flush s) = PQ.flush (abs s) ∧ (flush s).wmin = s.wmin ∧ (flush s).wmax = s.wmax :=
  let r := flush_spec s I
  ⟨r.1, r.2.1, rfl, rfl⟩

/-- `clear` (no hypothesis needed: it even repairs a broken state) -/
theorem clear_refines (s : Heap) :
    Inv (clear s) ∧ abs (clear s) = PQ.clear (abs s) ∧ (clear s).wmin = s.wmin ∧ (clear s).wmax = s.wmax :=
  ⟨init_inv _ _, init_abs _ _, rfl, rfl⟩

theorem _root_.Tbx.AHeap.refines_step (s : Heap) (I : Inv s) (op : Op) (hpre : Pre s.wmin s.wmax (abs s) op) :
    ∃ s' r, step s op = some (s', r) ∧ Inv s' ∧ SpecStep (abs s) op r (abs s') ∧
      s'.wmin = s.wmin ∧ s'.wmax = s.wmax := by
  cases op with
  | ins id w d =>
    obtain ⟨a, b, c, d'⟩ := insert_refines s I id w d hpre.1 hpre.2
    exact ⟨_, none, rfl, a, ⟨rfl, b⟩, c, d'⟩
  | dec id w =>
    obtain ⟨s', a, b, c, d, e⟩ := decreaseKey_refines s I id w hpre.1 hpre.2.1 hpre.2.2
    exact ⟨s', none, by simp [step, a], b, ⟨rfl, c⟩, d, e⟩
  | decd id w d =>
    obtain ⟨s', a, b, c, d', e⟩ := decreaseKeyData_refines s I id w d hpre.1 hpre.2.1 hpre.2.2
    exact ⟨s', none, by simp [step, a], b, ⟨rfl, c⟩, d', e⟩
  | del =>
    obtain ⟨s', id, a, b, c, d, _, e, f⟩ := deleteMin_refines s I hpre
    exact ⟨s', some id, by simp [step, a], b, ⟨id, rfl, c, d⟩, e, f⟩
  | flush =>
    obtain ⟨a, b, c, d⟩ := flush_refines s I
    exact ⟨_, none, rfl, a, ⟨rfl, b⟩, c, d⟩
  | clear =>
    obtain ⟨a, b, c, d⟩ := clear_refines s
    exact ⟨_, none, rfl, a, ⟨rfl, b⟩, c, d⟩
  | setd id d =>
    obtain ⟨s', a, b, c, d', e⟩ := setData_refines s I id d hpre
    exact ⟨s', none, by simp [step, a], b, ⟨rfl, c⟩, d', e⟩

/-- one statement for all operations: every in-domain step of the model is a step of the
reference queue, and the invariant is kept -/
theorem refines_step (s : Heap) (I : Inv s) (op : Op) (hpre : Pre s.wmin s.wmax (abs s) op) :
    ∃ s' r, step s op = some (s', r) ∧ Inv s' ∧ SpecStep (abs s) op r (abs s') ∧
      s'.wmin = s.wmin ∧ s'.wmax = s.wmax :=
  AHeap.refines_step s I op hpre

example : Inv ex3 ∧ Pre ex3.wmin ex3.wmax (abs ex3) .del := ⟨ex3_inv, by decide⟩

theorem inv_step (s : Heap) (I : Inv s) (op : Op) (hpre : Pre s.wmin s.wmax (abs s) op)
    (s' : Heap) (r : Option Int) (h : step s op = some (s', r)) : Inv s' := by
  obtain ⟨s1, r1, h1, I1, _⟩ := AHeap.refines_step s I op hpre
  rw [h] at h1; cases h1; exact I1

/-- non-vacuity of `inv_step`: a decrease that must sift to the root -/
example : Inv ex3 ∧ Pre ex3.wmin ex3.wmax (abs ex3) (.dec 3 5) ∧ (step ex3 (.dec 3 5)).isSome = true :=
  ⟨ex3_inv, by decide, by decide⟩

/-- after `flush` the heap is empty, no id is contained, every id inserted before reports removed
(and still inserted, with its weight) -/
theorem flush_post (s : Heap) (I : Inv s) :
    len (flush s) = 0 ∧
    ∀ id, contains (flush s) id = false ∧ (inserted s id = true → removed (flush s) id = true) ∧
      inserted (flush s) id = inserted s id ∧ weight (flush s) id = weight s id :=
  AHeap.flush_post s I

/-- non-vacuity (the D4 witness): a contained id reports removed, and not contained, after flush -/
example : Inv ex3 ∧ contains ex3 3 = true ∧ removed (flush ex3) 3 = true ∧ contains (flush ex3) 3 = false :=
  ⟨ex3_inv, by decide, by decide, by decide⟩

/-- after `clear` the heap is empty, nothing is inserted/contained/removed, and it equals a fresh heap -/
theorem clear_post (s : Heap) :
    len (clear s) = 0 ∧ insertedLen (clear s) = 0 ∧ clear s = init s.wmin s.wmax ∧
    (∀ id, contains (clear s) id = false ∧ removed (clear s) id = false ∧ inserted (clear s) id = false ∧
           weight (clear s) id = s.wmax) := by
  refine ⟨rfl, rfl, rfl, ?_⟩
  intro id
  simp [clear, init, contains, removed, inserted, weight, lookup]

/-- from any state satisfying the invariant, every in-domain history (of any length) runs to the
end without reaching a panic branch, ends in a state satisfying the invariant, and the sequence of
results is a behaviour of the reference queue that ends in the abstraction of the final state -/
theorem reachable_from (ops : List Op) (s : Heap) (I : Inv s) (V : ValidFrom s ops) :
    ∃ s' rs, run s ops = some (s', rs) ∧ Inv s' ∧ SpecRun (abs s) ops rs (abs s') ∧
      s'.wmin = s.wmin ∧ s'.wmax = s.wmax := by
  induction ops generalizing s with
  | nil => exact ⟨s, [], rfl, I, rfl, rfl, rfl⟩
  | cons op ops ih =>
    obtain ⟨s1, r, h1, I1, S1, m1, M1⟩ := AHeap.refines_step s I op V.1
    obtain ⟨s2, rs, h2, I2, S2, m2, M2⟩ := ih s1 I1 (V.2 s1 r h1)
    refine ⟨s2, r :: rs, ?_, I2, ⟨abs s1, S1, S2⟩, by rw [m2, m1], by rw [M2, M1]⟩
    simp only [run, h1, h2]

/-- every state reachable from `new()` by an in-domain history satisfies the invariant -/
theorem reachable_inv (wmin wmax : Int) (ops : List Op) (V : ValidFrom (init wmin wmax) ops) :
    ∃ s' rs, run (init wmin wmax) ops = some (s', rs) ∧ Inv s' := by
  obtain ⟨s', rs, a, b, _⟩ := reachable_from ops _ (init_inv wmin wmax) V
  exact ⟨s', rs, a, b⟩

/-- … and all its observers are those of a reference queue reached by the same history -/
theorem reachable_refines (wmin wmax : Int) (ops : List Op) (V : ValidFrom (init wmin wmax) ops) :
    ∃ s' rs q, run (init wmin wmax) ops = some (s', rs) ∧ SpecRun [] ops rs q ∧ abs s' = q ∧
      len s' = PQ.len q ∧ isEmpty s' = (PQ.len q == 0) ∧ insertedLen s' = PQ.insertedLen q ∧
      (∀ id, weight s' id = PQ.weight q wmax id ∧ contains s' id = PQ.contains q id ∧
        removed s' id = PQ.removed q id ∧ inserted s' id = PQ.inserted q id ∧
        data? s' id = PQ.data? q id) ∧
      (∀ id, min? s' = some id → PQ.IsMin q id) ∧ (min? s' = none ↔ PQ.len q = 0) := by
  obtain ⟨s', rs, a, I, b, _, M⟩ := reachable_from ops _ (init_inv wmin wmax) V
  rw [init_abs] at b
  have hM : s'.wmax = wmax := M
  obtain ⟨o1, o2, o3, o4⟩ := observers_refine s' I
  refine ⟨s', rs, abs s', a, b, rfl, o1, o2, o3, ?_, fun id h => min_is_minimum s' I id h,
    min_none_iff s' I⟩
  intro id
  rw [← hM]; exact o4 id

/-- non-vacuity of the history theorems: a concrete 14-step history is in-domain -/
example : ValidFrom (init (-100) 100) exOps := exOps_valid

/-- a history that is valid on the reference alone (whatever minima are removed) is in-domain -/
theorem valid_validFrom (ops : List Op) (s : Heap) (I : Inv s) (V : Valid s.wmin s.wmax (abs s) ops) :
    ValidFrom s ops := by
  induction ops generalizing s with
  | nil => trivial
  | cons op ops ih =>
    refine ⟨V.1, ?_⟩
    intro s' r hs
    obtain ⟨s1, r1, h1, I1, S1, m1, M1⟩ := AHeap.refines_step s I op V.1
    rw [hs] at h1
    cases h1
    apply ih s' I1
    rw [m1, M1]
    exact V.2 r (abs s') S1

example : Inv (init 0 9) ∧ Valid (init 0 9).wmin (init 0 9).wmax (abs (init 0 9)) [.ins 1 3 0, .flush] := by
  refine ⟨init_inv 0 9, by decide, ?_⟩
  rintro r q' ⟨rfl, rfl⟩
  exact ⟨trivial, fun _ _ _ => trivial⟩

/-- sift-up establishes heap order (with `w` imagined in the final hole) from heap order with a hole -/
theorem upLoop_keeps_order (fuel : Nat) (h : Array Elem) (ns : Array Node) (key : Nat) (w : Int)
    (hk : key < h.size) (hf : key ≤ fuel) (hs0 : (gt h 0).weight ≤ w)
    (ho : OrdW h key w) (hb : 2 ≤ key → Below h key) :
    OrdW (upLoop fuel h ns key w).1 (upLoop fuel h ns key w).2.2 w ∧
    (2 ≤ (upLoop fuel h ns key w).2.2 →
       (gt (upLoop fuel h ns key w).1 ((upLoop fuel h ns key w).2.2 / 2)).weight ≤ w) :=
  let r := upLoop_spec fuel h ns key w hk hf hs0 ho hb
  ⟨r.2.2.1, r.2.2.2.1⟩

/-- non-vacuity: a concrete heap with a hole satisfies the hypotheses of `upLoop_keeps_order` -/
example : OrdW #[⟨0, -5⟩, ⟨0, 1⟩, ⟨1, 4⟩, ⟨2, 7⟩] 3 0 ∧ (2 ≤ 3 → Below #[(⟨0, -5⟩ : Elem), ⟨0, 1⟩, ⟨1, 4⟩, ⟨2, 7⟩] 3) := by
  constructor
  · intro k h2 hk hne
    have : k = 2 := by simp at hk; omega
    subst this; simp [wt, gt]
  · intro _ k h2 hk he
    simp at hk; omega

/-- sift-down: the symmetric statement for `downLoop` (order except on the edges from the hole to
its children is kept, and on exit the hole's children dominate `w`) -/
theorem downLoop_keeps_order (fuel : Nat) (h : Array Elem) (ns : Array Node) (key : Nat) (w : Int)
    (r x : Nat) (lo : Int) (hf : h.size - key ≤ fuel) (ho : OrdD h key w) (hb : 2 ≤ key → Below h key)
    (P : PInv h ns key r x lo) :
    OrdD (downLoop fuel h ns key w).1 (downLoop fuel h ns key w).2.2 w ∧
    (∀ k, 2 ≤ k → k < h.size → k / 2 = (downLoop fuel h ns key w).2.2 →
        w ≤ (gt (downLoop fuel h ns key w).1 k).weight) :=
  let r := downLoop_spec fuel h ns key w r x lo (Nat.sub_le_iff_le_add'.mp hf) ho hb P rfl
  ⟨r.2.1, r.2.2.1⟩

/-- non-vacuity: the root of the three-element heap `ex3` taken out as the hole, weight 50 imagined -/
example : ex3.heap.size - 1 ≤ ex3.heap.size ∧ OrdD ex3.heap 1 50 ∧ (2 ≤ 1 → Below ex3.heap 1) ∧
    PInv ex3.heap ex3.nodes 1 (gt ex3.heap 1).index ex3.nodes.size ex3.wmin := by
  have hs : ex3.heap.size = 4 := by decide
  refine ⟨by omega, ?_, by omega, PInv.start ex3_inv.ptr 1 (by omega) (by omega) ex3_inv.wlo⟩
  intro k k1 k2 k3
  omega

/-- the fuel the model hands to the two sift loops (`key` resp. `heap.len()`) is sufficient: extra
fuel never changes the result, so the fuelled loops are the Rust `while` loops -/
theorem fuel_sufficient (h : Array Elem) (ns : Array Node) (key : Nat) (w : Int) :
    (∀ fuel, key ≤ fuel → (gt h 0).weight ≤ w →
      upLoop (fuel + 1) h ns key w = upLoop fuel h ns key w) ∧
    (∀ fuel, 1 ≤ key → h.size - key ≤ fuel →
      downLoop (fuel + 1) h ns key w = downLoop fuel h ns key w) :=
  ⟨fun fuel a b => upLoop_fuel fuel h ns key w a b, fun fuel a b => downLoop_fuel fuel h ns key w a (Nat.sub_le_iff_le_add'.mp b)⟩

example : (3 : Nat) ≤ 3 ∧ (gt ex3.heap 0).weight ≤ 5 ∧ (1 : Nat) ≤ 1 ∧ ex3.heap.size - 1 ≤ ex3.heap.size := by
  decide

end Tbx.Props.C10
