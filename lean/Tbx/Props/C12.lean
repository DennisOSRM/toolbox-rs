import Tbx.Model.RTreeHeap
import Tbx.Spec.Nearest
import Tbx.Proofs.RTreeIter
import Tbx.Proofs.RTreeBulk
import Tbx.Proofs.RTreeZOrder
/-
C12 — R-tree nearest iteration yields every element once, nearest first.

The property theorems (the lemmas they share live in Tbx/Proofs/RTree*.lean).  Registered in Tbx/Audit/C12.lean.
`B` = BRANCHING_FACTOR, `L` = LEAF_PACK_FACTOR are parameters (`2 ≤ B`, `1 ≤ L`; /repo has 30 and 30, the
driver uses the values regenerated from source).  `es` is the element list after the Z-order sort.
The priority queue is any implementation of the contract `PQOps.Lawful` (ties free), `dist` and `prio`
are arbitrary functions (the values of `distance_to` / of the boxes' `min_distance`).
-/
namespace Tbx.Props.C12
open Tbx.RTree Tbx.Nearest

/-- chunks of `B` partition `[0, w)`: index `i` lies in exactly one chunk `[B*j, min (B*(j+1)) w)`, and
that chunk exists (`j < ceilDiv w B`) -/
theorem chunks_partition {B : Nat} (hB : 0 < B) (w i : Nat) (hi : i < w) :
    ∃ j, (j < ceilDiv w B ∧ B * j ≤ i ∧ i < min (B * (j + 1)) w) ∧
      ∀ j', B * j' ≤ i → i < min (B * (j' + 1)) w → j' = j := by
  have h1 : B * (i / B) ≤ i := Nat.mul_div_le i B
  have h2 : i < B * (i / B + 1) := by
    have := Nat.lt_mul_div_succ i hB
    simpa [Nat.mul_succ] using this
  refine ⟨i / B, ⟨(lt_ceilDiv_iff hB w _).mpr (by omega), h1, by omega⟩, fun j hj1 hj2 => ?_⟩
  exact (Nat.div_eq_of_lt_le (by rw [Nat.mul_comm]; exact hj1) (by rw [Nat.mul_comm]; omega)).symm

/-- For every element list (also the empty one) the bulk loader terminates (the fuel
the model passes to the level loop suffices: the level width strictly decreases for `B ≥ 2`); the leaves
are the consecutive chunks of `L` elements and partition the list; the search node array consists of
levels as described by `Levels` (leaf group `j` starts at leaf `B*j`, tree node `j` of level `k+1` starts at
child `lstart k + B*j`), topped by at most one node; and every level partitions the level below it into
the child ranges `[B*j, min (B*(j+1)) width)`. -/
theorem pack_partition {α : Type} {B L : Nat} (hB : 2 ≤ B) (hL : 1 ≤ L) (es : List α) :
    ∃ t, bulkLoad B L es = some t ∧
      -- leaves
      t.leaves.flatten = es ∧ t.leaves.length = ceilDiv es.length L ∧
      (∀ j, j < ceilDiv es.length L →
        t.leaves[j]? = some ((es.drop (L * j)).take L) ∧
        ((es.drop (L * j)).take L).length = min (L * (j + 1)) es.length - L * j ∧
        0 < ((es.drop (L * j)).take L).length ∧ ((es.drop (L * j)).take L).length ≤ L) ∧
      -- levels of search nodes
      Levels B t.leaves.length t.nodes t.ends ∧ lwidth t.ends (t.ends.length - 1) ≤ 1 ∧
      -- level 0 partitions the leaves
      (∀ i, i < t.leaves.length → ∃ j, (j < lwidth t.ends 0 ∧ B * j ≤ i ∧ i < min (B * (j + 1)) t.leaves.length) ∧
        ∀ j', B * j' ≤ i → i < min (B * (j' + 1)) t.leaves.length → j' = j) ∧
      -- level k+1 partitions level k
      (∀ k, k + 1 < t.ends.length → ∀ i, i < lwidth t.ends k →
        ∃ j, (j < lwidth t.ends (k + 1) ∧ B * j ≤ i ∧ i < min (B * (j + 1)) (lwidth t.ends k)) ∧
          ∀ j', B * j' ≤ i → i < min (B * (j' + 1)) (lwidth t.ends k) → j' = j) := by
  obtain ⟨s, hs, hnl, hlev, htop⟩ := bulkShape_spec hB hL es.length
  have hlen : (leavesOf L es).length = s.nLeaves := by rw [leaves_length, hnl]
  refine ⟨⟨leavesOf L es, s.nodes, s.ends⟩, by simp [bulkLoad, hs], leaves_flatten (by omega) es,
    leaves_length L es, ?_, by rw [hlen]; exact hlev, htop, ?_, ?_⟩
  · intro j hj
    have := chunk_length (L := L) (by omega) es j hj
    exact ⟨leaves_get L es j hj, this.1, this.2.1, this.2.2⟩
  · intro i hi
    have hw0 : lwidth s.ends 0 = ceilDiv (leavesOf L es).length B := by
      have : lwidth s.ends 0 = lend s.ends 0 := by simp [lwidth, lstart]
      rw [this, hlev.lvl0, hlen]
    show ∃ j, (j < lwidth s.ends 0 ∧ _) ∧ _
    rw [hw0]
    exact chunks_partition (by omega) _ i hi
  · intro k hk i hi
    show ∃ j, (j < lwidth s.ends (k + 1) ∧ _) ∧ _
    rw [hlev.width_succ k hk]
    exact chunks_partition (by omega) _ i hi

/-- non-vacuity: 5 elements, B = L = 2: three leaves, two leaf groups, one root -/
example : bulkShape 2 2 5 = some ⟨3, [⟨0, 0⟩, ⟨0, 2⟩, ⟨1, 0⟩], [2, 3]⟩ := by decide +kernel
/-- the empty input terminates with no search node (this looped forever / underflowed before the D6 fix) -/
example : bulkShape 30 30 0 = some ⟨0, [], [0]⟩ := by decide +kernel
example : bulkShape 30 30 901 = some ⟨31, [⟨0, 0⟩, ⟨0, 30⟩, ⟨1, 0⟩], [2, 3]⟩ := by decide +kernel

/-- For tree node `j` of level `k+1` (stored at `lend k + j`, first child
`lstart k + B*j`) the count `children_count` computes from `level_ends` is the number of nodes of level `k`
that belong to it (`i / B = j`), i.e. the length of `[B*j, min (B*(j+1)) width_k)`; it is at least 1 and
the children lie inside level `k`. -/
theorem children_count_exact {α : Type} {B L : Nat} (hB : 2 ≤ B) (hL : 1 ≤ L) (es : List α) :
    ∀ t, bulkLoad B L es = some t → ∀ k, k + 1 < t.ends.length → ∀ j, j < lwidth t.ends (k + 1) →
      t.nodes[lend t.ends k + j]? = some ⟨1, lstart t.ends k + B * j⟩ ∧
      childrenCount B t.ends (lstart t.ends k + B * j) =
        ((List.range (lwidth t.ends k)).filter fun i => i / B = j).length ∧
      childrenCount B t.ends (lstart t.ends k + B * j) = min (B * (j + 1)) (lwidth t.ends k) - B * j ∧
      1 ≤ childrenCount B t.ends (lstart t.ends k + B * j) ∧
      lstart t.ends k + B * j + childrenCount B t.ends (lstart t.ends k + B * j) ≤ lend t.ends k := by
  intro t ht k hk j hj
  obtain ⟨s, hs, hnl, hlev, _⟩ := bulkShape_spec hB hL es.length
  rw [bulkLoad, hs] at ht
  cases ht
  rw [hnl, ← leaves_length L es] at hlev
  have hB0 : 0 < B := Nat.lt_of_lt_of_le Nat.zero_lt_two hB
  have hcc := childrenCount_levels hB0 hlev k hk j hj
  have hjw : B * j < lwidth s.ends k :=
    (lt_ceilDiv_iff hB0 _ _).mp (hlev.width_succ k hk ▸ hj)
  refine ⟨hlev.inner k hk j hj, ?_, hcc.1, ?_, hcc.2⟩
  · rw [hcc.1, count_chunk hB0 j, Nat.min_eq_left (Nat.le_of_lt hjw)]
  · rw [hcc.1, Nat.mul_succ, ← min_sub_left]
    exact Nat.le_min.mpr ⟨hB0, Nat.sub_pos_of_lt hjw⟩

/-- non-vacuity (`n = 1801`, B = L = 30: 61 leaves, 3 leaf groups, the root has 3 children, not 30) -/
example : (bulkShape 30 30 1801).map (fun s => (s.ends, childrenCount 30 s.ends 0)) = some ([3, 4], 3) := by decide +kernel

/-- Whatever the box priorities are and however the queue breaks ties: the iteration
over the bulk-loaded tree never indexes out of bounds, and when it finishes it has yielded every element
exactly once (a permutation of `es`), each with `dist e`. -/
theorem iter_complete {α Q : Type} {B L : Nat} (hB : 2 ≤ B) (hL : 1 ≤ L) (es : List α)
    (P : PQOps Q) (hP : P.Lawful) (dist : α → Nat) (prio : Nat → Nat) (fuelNext fuel : Nat) :
    ∃ t, bulkLoad B L es = some t ∧
      collect P B t dist prio fuelNext fuel ≠ .panic ∧
      ∀ out, collect P B t dist prio fuelNext fuel = .ok out → CompleteOK es dist out := by
  obtain ⟨t, cov, W, ht, hcov, hroot, _, _⟩ := bulkLoad_spec hB hL es
  obtain ⟨hnp, hok, _⟩ := collect_spec (dist := dist) (prio := prio) (W := W) hP hcov fuelNext fuel
  exact ⟨t, ht, hnp, fun out hout => ⟨hroot ▸ (hok out hout).1, (hok out hout).2.1⟩⟩

/-- There is a function `cov` giving the elements below every search node (it satisfies the
expansion equations `IsCover`, and below the root lies all of `es`); if the priority of every search node
other than the root is a lower bound of the distances of the elements below it (`Admissible`; the root's
own priority is irrelevant, in particular nothing is assumed for trees of a single leaf group), a
finished iteration satisfies the whole specification: every element once, true distances, nondecreasing. -/
theorem iter_sorted {α : Type} {B L : Nat} (hB : 2 ≤ B) (hL : 1 ≤ L) (es : List α) :
    ∃ t cov, bulkLoad B L es = some t ∧ IsCover B t cov ∧ rootCover t cov = es ∧
      ∀ {Q : Type} (P : PQOps Q), P.Lawful → ∀ (dist : α → Nat) (prio : Nat → Nat) (fuelNext fuel : Nat) out,
        Admissible t dist prio cov → collect P B t dist prio fuelNext fuel = .ok out →
        NearestOK es dist out := by
  obtain ⟨t, cov, W, ht, hcov, hroot, _, _⟩ := bulkLoad_spec hB hL es
  refine ⟨t, cov, ht, hcov, hroot, fun P hP dist prio fn fuel out hadm hout => ?_⟩
  obtain ⟨hp, hd, hs⟩ := (collect_spec (W := W) hP hcov fn fuel).2.1 out hout
  exact ⟨hroot ▸ hp, hd, hs hadm⟩

/-- The fuel the driver passes (`#search nodes + #elements + 2`, for both loops) always
suffices: the iteration finishes, and so (with `iter_complete`) it yields every element exactly once with
its distance — for every priority function, every lawful queue. -/
theorem iter_terminates {α Q : Type} {B L : Nat} (hB : 2 ≤ B) (hL : 1 ≤ L) (es : List α)
    (P : PQOps Q) (hP : P.Lawful) (dist : α → Nat) (prio : Nat → Nat) :
    ∃ t out, bulkLoad B L es = some t ∧
      collect P B t dist prio (t.nodes.length + es.length + 2) (t.nodes.length + es.length + 2) = .ok out ∧
      CompleteOK es dist out := by
  obtain ⟨t, cov, W, ht, hcov, hroot, hw, hle⟩ := bulkLoad_spec hB hL es
  obtain ⟨hnp, hok, hnf⟩ := collect_spec (dist := dist) (prio := prio) hP hcov
    (t.nodes.length + es.length + 2) (t.nodes.length + es.length + 2)
  cases hr : collect P B t dist prio (t.nodes.length + es.length + 2) (t.nodes.length + es.length + 2) with
  | ok out => exact ⟨t, out, ht, hr, hroot ▸ (hok out hr).1, (hok out hr).2.1⟩
  | panic => exact absurd hr hnp
  | outOfFuel => exact absurd hr (hnf hw.weight (Nat.min_self _ ▸ Nat.lt_succ_of_le (Nat.le_succ_of_le hle)))

/-- corollary: the first item is a nearest neighbour and the first `k` items are `k` nearest ones -/
theorem first_k_nearest {α : Type} {es : List α} {dist : α → Nat} {out : List (α × Nat)}
    (h : NearestOK es dist out) (k : Nat) :
    (∀ p ∈ out.take k, ∀ r ∈ out.drop k, dist p.1 ≤ dist r.1) ∧
    (∀ p, out.head? = some p → ∀ e ∈ es, dist p.1 ≤ dist e) := by
  refine ⟨h.first_k k, ?_⟩
  intro p hp e he
  cases out with
  | nil => cases hp
  | cons a rest =>
    simp only [List.head?_cons, Option.some.injEq] at hp
    subst hp
    have hmem : e ∈ (a :: rest).map Prod.fst := h.perm.mem_iff.mpr he
    obtain ⟨r, hr, rfl⟩ := List.mem_map.mp hmem
    rcases List.mem_cons.mp hr with rfl | hr'
    · exact Nat.le_refl _
    · have := h.first_k 1 a (by simp) r (by simpa using hr')
      exact this

theorem judge_sound {es : List Nat} {dist : Nat → Nat} {out : List (Nat × Nat)} :
    (nearestB es dist out = true → NearestOK es dist out) ∧
    (completeB es dist out = true → CompleteOK es dist out) :=
  ⟨nearestB_sound, completeB_sound⟩

/-- the two queues of Model/RTreeHeap.lean satisfy the contract the theorems quantify over -/
theorem queues_lawful : listPQ.Lawful ∧ heapPQ.Lawful := ⟨listPQ_lawful, heapPQ_lawful⟩

/-! ### non-vacuity: a concrete tree (B = L = 2, elements 10..50 with `dist e = |e - 32|`) -/

def exTree : Tree Nat := ⟨[[10, 20], [30, 40], [50]], [⟨0, 0⟩, ⟨0, 2⟩, ⟨1, 0⟩], [2, 3]⟩
def exDist (e : Nat) : Nat := if e ≤ 32 then 32 - e else e - 32
def exCov : Nat → List Nat
  | 0 => [10, 20, 30, 40]
  | 1 => [50]
  | 2 => [10, 20, 30, 40, 50]
  | _ => []
/-- admissible: group 0 (10..40) ≥ 2, group 1 (50) ≥ 18; the root's priority (99, not a lower bound) does
not matter: the root is alone in the queue when it is popped -/
def exPrio : Nat → Nat
  | 0 => 1
  | 1 => 15
  | _ => 99
/-- not a lower bound for group 0 (like the corner minimum beside a long box) -/
def exPrioBad : Nat → Nat
  | 0 => 25
  | 1 => 15
  | _ => 99

example : bulkLoad 2 2 [10, 20, 30, 40, 50] = some exTree := rfl
example : Admissible exTree exDist exPrio exCov := by
  intro i hi y hy
  match i, hi with
  | 0, _ => revert y; decide +kernel
  | 1, _ => revert y; decide +kernel
example : collect listPQ 2 exTree exDist exPrio 10 10 = .ok [(30, 2), (40, 8), (20, 12), (50, 18), (10, 22)] := rfl
/-- with the inadmissible priority the element 50 comes out before 30: complete, but not sorted -/
example : collect listPQ 2 exTree exDist exPrioBad 10 10 = .ok [(50, 18), (30, 2), (40, 8), (20, 12), (10, 22)] := rfl
/-- the admissible run satisfies the specification, the inadmissible one only its completeness part -/
example : NearestOK [10, 20, 30, 40, 50] exDist [(30, 2), (40, 8), (20, 12), (50, 18), (10, 22)] :=
  ⟨by decide +kernel, by decide +kernel, by decide +kernel⟩
example : CompleteOK [10, 20, 30, 40, 50] exDist [(50, 18), (30, 2), (40, 8), (20, 12), (10, 22)] ∧
    nondecB ([(50, 18), (30, 2), (40, 8), (20, 12), (10, 22)].map Prod.snd) = false :=
  ⟨⟨by decide +kernel, by decide +kernel⟩, by decide +kernel⟩

/-- both components are i32 values (true of every `FPCoordinate` by its type) -/
def CoordI32 (c : Coord) : Prop := Tbx.Geo.CoordI32 (toGeo c)

instance (c : Coord) : Decidable (CoordI32 c) := by unfold CoordI32; infer_instance

/-- on i32 coordinates the comparison is the comparison of the interleaved (Morton) keys of the sign-flipped
components (`Tbx.Geo.zkey`, proved for the C19 model in `Tbx.Proofs.GeoZOrder` and transported along
`zorderCmp_eq_geo`) -/
theorem zorder_key (a b : Coord) (ha : CoordI32 a) (hb : CoordI32 b) :
    zorderCmp a b = compare (Tbx.Geo.zkey (toGeo a)) (Tbx.Geo.zkey (toGeo b)) := by
  rw [zorderCmp_eq_geo]; exact Tbx.Geo.zorderCmp_eq_key _ _ ha hb

/-- On i32 coordinates `zorder_cmp` is a total preorder (`≠ Greater` is transitive
and total) and answers `Equal` only for identical coordinates, so the stable sort is determined.
The i32 hypothesis is necessary: the model computes the xor / msb on the 32-bit patterns (which wrap) but the
final `compare` on the integers (which do not), so for arbitrary `Int` the statement is false, e.g.
a = (0,0), b = (0,-2^32), c = (0,-1): a ≤ b (equal patterns), b ≤ c, but a > c. -/
theorem zorder_total_preorder (a b c : Coord) (ha : CoordI32 a) (hb : CoordI32 b) (hc : CoordI32 c) :
    (zorderCmp a b ≠ .gt → zorderCmp b c ≠ .gt → zorderCmp a c ≠ .gt) ∧
    (zorderCmp a b ≠ .gt ∨ zorderCmp b a ≠ .gt) ∧
    (zorderCmp a b = .eq ↔ a = b) := by
  rw [zorder_key a b ha hb, zorder_key b c hb hc, zorder_key a c ha hc, zorder_key b a hb ha]
  simp only [Nat.compare_ne_gt, Nat.compare_eq_eq]
  refine ⟨Nat.le_trans, Nat.le_total _ _, ?_, fun h => by rw [h]⟩
  intro h
  have := Tbx.Geo.zkey_inj _ _ ha hb h
  cases a; cases b
  simp only [toGeo, Tbx.Geo.Coord.mk.injEq] at this
  simp [this.1, this.2]

/-- the counterexample of the comment, and an in-range instance across the sign boundary -/
example : zorderCmp ⟨0, 0⟩ ⟨0, -4294967296⟩ ≠ .gt ∧ zorderCmp ⟨0, -4294967296⟩ ⟨0, -1⟩ ≠ .gt ∧
    zorderCmp ⟨0, 0⟩ ⟨0, -1⟩ = .gt := by decide +kernel
example : CoordI32 ⟨-1, 5⟩ ∧ CoordI32 ⟨0, -7⟩ ∧ zorderCmp ⟨-1, 5⟩ ⟨0, -7⟩ = .lt := by decide +kernel

/-- For elements whose centres are i32 coordinates, the first step of `from_elements`
yields a permutation of the input that is sorted by `zorder_cmp`; if the centres of the input are pairwise
distinct it is the only such list (so any correct sort gives the same leaves). -/
theorem zsort_sorted_perm {α : Type} (center : α → Coord) (hc : ∀ e, CoordI32 (center e)) (es : List α) :
    (zsort center es).Perm es ∧
    (zsort center es).Pairwise (fun a b => zorderCmp (center a) (center b) ≠ .gt) ∧
    ((∀ a ∈ es, ∀ b ∈ es, center a = center b → a = b) →
      ∀ out : List α, out.Perm es → out.Pairwise (fun a b => zorderCmp (center a) (center b) ≠ .gt) →
        out = zsort center es) := by
  have hperm : (zsort center es).Perm es := List.mergeSort_perm es _
  have hsorted : (zsort center es).Pairwise (fun a b => zorderCmp (center a) (center b) ≠ .gt) := by
    have := List.pairwise_mergeSort (le := fun a b => zorderCmp (center a) (center b) != .gt)
      (by
        intro a b c h1 h2
        simp only [bne_iff_ne, ne_eq] at h1 h2 ⊢
        exact (zorder_total_preorder _ _ _ (hc a) (hc b) (hc c)).1 h1 h2)
      (by
        intro a b
        simp only [Bool.or_eq_true, bne_iff_ne, ne_eq]
        exact (zorder_total_preorder _ _ _ (hc a) (hc b) (hc a)).2.1) es
    refine this.imp ?_
    intro a b h
    simpa using h
  refine ⟨hperm, hsorted, ?_⟩
  intro hinj out hp hs
  refine List.Perm.eq_of_pairwise ?_ hs hsorted (hp.trans hperm.symm)
  intro a b ha hb h1 h2
  have hae : a ∈ es := hp.mem_iff.mp ha
  have hbe : b ∈ es := hperm.mem_iff.mp hb
  apply hinj a hae b hbe
  -- both `≤`: the keys are equal, hence the coordinates
  have hk1 := h1; have hk2 := h2
  rw [zorder_key _ _ (hc a) (hc b), Nat.compare_ne_gt] at hk1
  rw [zorder_key _ _ (hc b) (hc a), Nat.compare_ne_gt] at hk2
  have heq : zorderCmp (center a) (center b) = .eq := by
    rw [zorder_key _ _ (hc a) (hc b), Nat.compare_eq_eq]; omega
  exact (zorder_total_preorder _ _ _ (hc a) (hc b) (hc a)).2.2.mp heq

/-- non-vacuity: a finite element type with i32 centres that are pairwise distinct -/
example : (∀ e : Fin 3, CoordI32 ((fun i : Fin 3 => (⟨(i.val : Int) - 1, 5 - 6 * (i.val : Int)⟩ : Coord)) e)) ∧
    (∀ a b : Fin 3, (⟨(a.val : Int) - 1, 5 - 6 * (a.val : Int)⟩ : Coord) = ⟨(b.val : Int) - 1, 5 - 6 * (b.val : Int)⟩ → a = b) := by
  decide +kernel

end Tbx.Props.C12
