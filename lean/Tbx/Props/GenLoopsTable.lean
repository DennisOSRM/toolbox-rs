import Tbx.Gen.Loops
import Tbx.Model.Arr
import Tbx.Model.HashTable
import Tbx.Props.C13
/-
Tie between the loop-bearing definition regenerated from /repo on every run (Tbx/Gen/Loops.lean) and the
hand-written model the C13 theorems speak about:
  * `contains_key` (src/medium_size_hash_table.rs) — `Tbx.Gen.Loops.tableContains` vs `Tbx.HashTable.containsKey`
The generated function sees the cell array as two columns (stamps, keys); `tm`/`ks` are those columns of a
model table.  The real table has exactly 65536 cells and 16-bit hash values, which are the hypotheses.
-/
namespace Tbx.Props.GenLoopsTable
open Tbx Tbx.HashTable

theorem aget_eq_gt {α : Type} [Inhabited α] (a : Array α) (i : Nat) : Tbx.Gen.aget a i = Tbx.gt a i := rfl
theorem aset_eq_st {α : Type} (a : Array α) (i : Nat) (x : α) : Tbx.Gen.aset a i x = Tbx.st a i x := rfl

def tm (t : Table) : Array Nat := t.cells.map (·.time)
def ks (t : Table) : Array Nat := t.cells.map (·.key)

/-- reading a column at an in-bounds position is reading the cell (out of bounds the two differ for the stamp
    column: the default cell has stamp u32::MAX, the default of the column is 0) -/
theorem aget_map_lt (cells : Array Cell) (f : Cell → Nat) (i : Nat) (h : i < cells.size) :
    Tbx.Gen.aget (cells.map f) i = f (gt cells i) := by
  simp [Tbx.Gen.aget, gt, Array.getD_eq_getD_getElem?, h]

/-- the probing loop of the generated text, with the fuel as a parameter (state = position) -/
def genProbe (fuel : Nat) (self_time self_keys : Array Nat) (self_stamp key home : Nat) : Nat :=
  Tbx.Gen.whileFuel fuel
      (fun position_2 => (((Tbx.Gen.aget self_time position_2) == self_stamp) && ((Tbx.Gen.aget self_keys position_2) != key)))
      (fun position_2 =>
      let position_3 : Nat := ((position_2 + (1 : Nat)) % (65536 : Nat))
      position_3)
      home

theorem tableContains_unfold (self_time self_keys : Array Nat) (self_stamp key home : Nat) :
    Tbx.Gen.Loops.tableContains self_time self_keys self_stamp key home =
      (if ((Tbx.Gen.aget self_time (genProbe 65536 self_time self_keys self_stamp key home)) == self_stamp) then
        true
      else
        false) := by
  unfold Tbx.Gen.Loops.tableContains
  rfl

theorem genProbe_eq_model_aux (cells : Array Cell) (hsz : cells.size = 65536) (ts key : Nat) :
    ∀ fuel pos p, pos < 65536 → probe 65536 cells ts key fuel pos = some p →
      genProbe fuel (cells.map (·.time)) (cells.map (·.key)) ts key pos = p ∧ p < 65536 := by
  intro fuel
  induction fuel with
  | zero => intro pos p _ h; simp [probe] at h
  | succ n ih =>
    intro pos p hpos h
    have hb : pos < cells.size := by rw [hsz]; exact hpos
    simp only [probe] at h
    simp only [genProbe, Tbx.Gen.whileFuel, aget_map_lt _ _ _ hb]
    by_cases hc : (gt cells pos).time = ts ∧ (gt cells pos).key ≠ key
    · rw [if_pos hc] at h
      have hcb : (((gt cells pos).time == ts) && ((gt cells pos).key != key)) = true := by
        simp [hc.1, hc.2]
      rw [if_pos hcb]
      exact ih _ _ (Nat.mod_lt _ (by decide)) h
    · rw [if_neg hc] at h
      have hcb : ¬ ((((gt cells pos).time == ts) && ((gt cells pos).key != key)) = true) := by
        intro hcb
        apply hc
        simpa using hcb
      rw [if_neg hcb]
      have := Option.some.inj h
      subst this
      exact ⟨rfl, hpos⟩

/-- on a table of 65536 cells and a home slot below 65536, if the model's probe (fuel
    65536, the fuel every model function passes) stops at `p`, the generated probing loop stops at `p` -/
theorem gen_probe_eq_model (t : Table) (key home p : Nat) (hsz : t.cells.size = 65536) (hh : home < 65536) :
    Tbx.HashTable.probe 65536 t.cells t.ts key 65536 home = some p →
      genProbe 65536 (tm t) (ks t) t.ts key home = p := fun h =>
  (genProbe_eq_model_aux t.cells hsz t.ts key 65536 home p hh h).1

theorem containsKey_eq_probe (N : Nat) (h : Nat → Nat) (t : Table) (key : Nat) :
    containsKey N h t key =
      (probe N t.cells t.ts key N (h key)).map fun p => decide ((gt t.cells p).time = t.ts) := by
  simp only [containsKey]
  cases probe N t.cells t.ts key N (h key) with
  | none => rfl
  | some p =>
    by_cases hc : (gt t.cells p).time = t.ts
    · simp only [if_pos hc, Option.map_some, decide_eq_true hc]
    · simp only [if_neg hc, Option.map_some, decide_eq_false hc]

/-- where the model's `contains_key` answers, the regenerated one gives that answer -/
theorem gen_contains_eq_model (h : Nat → Nat) (t : Table) (key : Nat) (hsz : t.cells.size = 65536)
    (hh : h key < 65536) (b : Bool) :
    Tbx.HashTable.containsKey 65536 h t key = some b →
      Tbx.Gen.Loops.tableContains (tm t) (ks t) t.ts key (h key) = b := by
  intro hc
  rw [containsKey_eq_probe] at hc
  rw [tableContains_unfold]
  cases hp : probe 65536 t.cells t.ts key 65536 (h key) with
  | none => rw [hp] at hc; cases hc
  | some p =>
    rw [hp] at hc
    obtain ⟨he, hlt⟩ := genProbe_eq_model_aux t.cells hsz t.ts key 65536 (h key) p hh hp
    have he' : genProbe 65536 (tm t) (ks t) t.ts key (h key) = p := he
    have ha : Tbx.Gen.aget (tm t) p = (gt t.cells p).time := aget_map_lt _ _ _ (by rw [hsz]; exact hlt)
    rw [he', ha, ← Option.some.inj hc]
    by_cases hts : (gt t.cells p).time = t.ts <;> simp [hts]

/-- the table the examples use: 65536 default cells at generation 5, cell 7 live with key 7 and cell 8 live with
    key 65543 (both keys have home slot 7 under `k % 65536`, so the second lookup probes twice) -/
def exTable : Table :=
  { cells := st (st (Array.replicate 65536 default) 7 ⟨5, 7, 1⟩) 8 ⟨5, 65543, 2⟩, ts := 5, length := 2 }

theorem exTable_size : exTable.cells.size = 65536 := by simp [exTable]

theorem exTable_gt (i : Nat) :
    gt exTable.cells i = if i = 8 then ⟨5, 65543, 2⟩ else if i = 7 then ⟨5, 7, 1⟩ else default := by
  simp only [exTable]
  rw [gt_st_lt _ _ _ _ (by simp), gt_st_lt _ _ _ _ (by simp), gt_replicate_default]

theorem default_time : (default : Cell).time = 4294967295 := rfl
theorem exTable_ts : exTable.ts = 5 := rfl

theorem probe_go (N : Nat) (cells : Array Cell) (ts key fuel pos : Nat)
    (hc : (gt cells pos).time = ts ∧ (gt cells pos).key ≠ key) :
    probe N cells ts key (fuel + 1) pos = probe N cells ts key fuel ((pos + 1) % N) := by
  simp only [probe]; rw [if_pos hc]

theorem probe_stop (N : Nat) (cells : Array Cell) (ts key fuel pos : Nat)
    (hc : ¬ ((gt cells pos).time = ts ∧ (gt cells pos).key ≠ key)) :
    probe N cells ts key (fuel + 1) pos = some pos := by
  simp only [probe]; rw [if_neg hc]

/-- the model's probe for the present key 65543 walks 7 → 8 -/
theorem exProbe_present : probe 65536 exTable.cells exTable.ts 65543 65536 7 = some 8 := by
  show probe 65536 exTable.cells 5 65543 (65534 + 1 + 1) 7 = some 8
  rw [probe_go _ _ _ _ _ _ (by simp [exTable_gt]), probe_stop _ _ _ _ _ _ (by simp [exTable_gt])]

/-- the model's probe for the absent key 131079 walks 7 → 8 → 9 -/
theorem exProbe_absent : probe 65536 exTable.cells exTable.ts 131079 65536 7 = some 9 := by
  show probe 65536 exTable.cells 5 131079 (65533 + 1 + 1 + 1) 7 = some 9
  rw [probe_go _ _ _ _ _ _ (by simp [exTable_gt]), probe_go _ _ _ _ _ _ (by simp [exTable_gt]),
    probe_stop _ _ _ _ _ _ (by simp [exTable_gt, default_time])]

/-- non-vacuity of `gen_probe_eq_model`: the chain 7 → 8 is walked -/
example : genProbe 65536 (tm exTable) (ks exTable) exTable.ts 65543 7 = 8 :=
  gen_probe_eq_model exTable 65543 7 8 exTable_size (by decide) exProbe_present

/-- non-vacuity of `gen_contains_eq_model`: a present key behind a collision, and an absent key with the same
    home slot (the probe runs 7 → 8 → 9 and finds a dead cell) -/
example : Tbx.Gen.Loops.tableContains (tm exTable) (ks exTable) exTable.ts 65543 ((· % 65536) 65543) = true :=
  gen_contains_eq_model (· % 65536) exTable 65543 exTable_size (by decide) true (by
    rw [containsKey_eq_probe, show (65543 % 65536 : Nat) = 7 from rfl, exProbe_present, Option.map_some,
      exTable_gt]
    rfl)
example : Tbx.Gen.Loops.tableContains (tm exTable) (ks exTable) exTable.ts 131079 ((· % 65536) 131079) = false :=
  gen_contains_eq_model (· % 65536) exTable 131079 exTable_size (by decide) false (by
    rw [containsKey_eq_probe, show (131079 % 65536 : Nat) = 7 from rfl, exProbe_absent, Option.map_some,
      exTable_gt]
    rfl)

/-- `refines_observers` (Props/C13) for the regenerated `contains_key`: on a table of the real size related to a
    reference map, with 16-bit hash values, it answers exactly whether the key is in the map -/
theorem gen_contains_refines {h : Nat → Nat} {t : Table} {m : FinMap.M} (R : HashTable.Rel 65536 h t m)
    (hh : ∀ k, h k < 65536) (key : Nat) :
    Tbx.Gen.Loops.tableContains (tm t) (ks t) t.ts key (h key) = FinMap.contains m key :=
  gen_contains_eq_model h t key R.inv.size (hh key) _ ((C13.refines_observers R hh).2.1 key)

/-- `refines_map` (Props/C13) for the regenerated `contains_key`: after every history of insert / get_mut / clear
    that keeps fewer live keys than slots, started on a fresh table of the real size, the regenerated function
    answers what the reference map answers -/
theorem gen_contains_refines_map (h : Nat → Nat) (hh : ∀ k, h k < 65536) (ops : List HashTable.Op)
    (hok : HashTable.HistOK 65536 FinMap.clear ops) :
    ∃ t, HashTable.runM 65536 h (HashTable.init 65536) ops = some (t, (HashTable.runS FinMap.clear ops).2) ∧
      ∀ key, Tbx.Gen.Loops.tableContains (tm t) (ks t) t.ts key (h key) =
        FinMap.contains (HashTable.runS FinMap.clear ops).1 key := by
  obtain ⟨t, he, R⟩ := HashTable.run_rel (by decide) hh ops _ _ (HashTable.init_rel 65536 h (by decide)) hok
  exact ⟨t, he, gen_contains_refines R hh⟩

/-- non-vacuity: the fresh table of the real size is related to the empty map under the real hash function, and
    a one-insert history is in the domain -/
example : HashTable.Rel 65536 HashTable.fibHash (HashTable.init 65536) FinMap.clear :=
  HashTable.init_rel 65536 _ (by decide)
example : ∀ k, HashTable.fibHash k < 65536 := fun k => by
  simp only [HashTable.fibHash]; exact Nat.mod_lt _ (by decide)
example : HashTable.HistOK 65536 FinMap.clear [.insert 3 10, .getMut 7, .clear, .insert 7 1] := by
  simp [HashTable.HistOK, HashTable.InDom, HashTable.stepS, FinMap.insert, FinMap.erase, FinMap.contains,
    FinMap.get?, FinMap.len, FinMap.clear]

end Tbx.Props.GenLoopsTable
