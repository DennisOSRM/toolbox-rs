import Tbx.Proofs.LruL0Hist
import Tbx.Proofs.LruL1Ref
import Tbx.Proofs.LruL1Hist
/-
C11 — the LRU cache evicts exactly the least recently used entry and is memory safe.
L0 = abstract recency list (Tbx/Model/LruL0.lean): what the cache means.
L1 = pointer-level model of linked_list.rs + lru.rs (Tbx/Model/LruL1.lean) in which every
     dereference of a freed / never allocated address is an explicit error.
-/
namespace Tbx.Props.C11
open Tbx Tbx.LruL0 Tbx.LruSpec

variable {K V : Type} [DecidableEq K]

/-- the cache never holds more than `cap` entries -/
theorem len_le_cap (cap : Nat) (hc : 1 ≤ cap) (ops : List (Op K V)) :
    len (run (init cap) ops) ≤ cap := by
  have := (inv_run (init cap : Cache K V) ops (by simpa [init] using hc) (inv_init cap)).le_cap
  rwa [cap_run] at this

/-- the bound is tight and needs `cap ≥ 1`: with capacity 0 the Rust/L0 `push` never evicts -/
example : len (run (init 0 : Cache Nat Nat) [.push 1 10, .push 2 20]) = 2 := by decide +kernel
example : len (run (init 2 : Cache Nat Nat) [.push 1 10, .push 2 20, .push 3 30, .get 1, .push 4 40]) = 2 := by decide +kernel

/-- no key is stored twice -/
theorem keys_distinct (cap : Nat) (hc : 1 ≤ cap) (ops : List (Op K V)) :
    (keys (run (init cap) ops)).Nodup :=
  (inv_run (init cap : Cache K V) ops (by simpa [init] using hc) (inv_init cap)).nodup

example : keys (run (init 2 : Cache Nat Nat) [.push 1 10, .push 2 20, .push 1 11, .get 2, .push 1 12]) = [1, 2] := by decide +kernel

/-- `get k` returns the value of the latest `push k` (or front mutation of `k`) that has not been
    evicted since: if `h2` does not write `k` and `k` is still present after `h2`, then `get k`
    answers the pushed value `v`. -/
theorem get_returns_latest_push (cap : Nat) (h1 h2 : List (Op K V)) (k : K) (v : V)
    (hu : Undisturbed (run (init cap) (h1 ++ [.push k v])) h2 k)
    (hpresent : contains (run (init cap) (h1 ++ .push k v :: h2)) k = true) :
    (get (run (init cap) (h1 ++ .push k v :: h2)) k).2 = some v := by
  have e : run (init cap) (h1 ++ .push k v :: h2) = run (run (init cap) (h1 ++ [.push k v])) h2 := by
    simp [run, List.foldl_append]
  rw [e] at hpresent ⊢
  exact get_run_of_undisturbed _ h2 k v (by rw [run_snoc]; exact lookup_push_same _ k v) hu hpresent

/-- `get` answers `none` exactly for absent keys -/
theorem get_none_iff_absent (s : Cache K V) (k : K) : (get s k).2 = none ↔ contains s k = false := by
  rw [get_snd_eq_lookup, ← lookup_isSome_iff]
  cases lookup s k <;> simp

/-- the same for a value written through `get_front_mut` -/
theorem get_returns_front_mutation (s : Cache K V) (h2 : List (Op K V)) (k : K) (v : V)
    (hfront : (getFront s).map (·.1) = some k)
    (hu : Undisturbed (step s (.setFront v)).1 h2 k)
    (hpresent : contains (run (step s (.setFront v)).1 h2) k = true) :
    (get (run (step s (.setFront v)).1 h2) k).2 = some v :=
  get_run_of_undisturbed _ h2 k v ((lookup_setFront s v k).trans (if_pos hfront)) hu hpresent

/-- non-vacuity of `get_returns_front_mutation`: key 2 is at the front, gets value 21 through
    `get_front_mut`, is displaced, and is still there -/
example :
    let s := run (init 2 : Cache Nat Nat) [.push 1 10, .push 2 20]
    (getFront s).map (·.1) = some 2 ∧ Undisturbed (step s (.setFront 21)).1 [.get 1, .contains 2, .setFront 11] 2 ∧
    contains (run (step s (.setFront 21)).1 [.get 1, .contains 2, .setFront 11]) 2 = true ∧
    (get (run (step s (.setFront 21)).1 [.get 1, .contains 2, .setFront 11]) 2).2 = some 21 := by
  decide +kernel

/-- non-vacuity: key 1 is pushed, then read, displaced from the front, observed, and survives an
    eviction (capacity 2) because the `get` refreshed it -/
example : Undisturbed (run (init 2 : Cache Nat Nat) ([.push 7 70] ++ [.push 1 10]))
      [.get 1, .push 2 20, .contains 1, .get 1, .push 3 30, .setFront 31] 1 ∧
    contains (run (init 2 : Cache Nat Nat)
      ([.push 7 70] ++ .push 1 10 :: [.get 1, .push 2 20, .contains 1, .get 1, .push 3 30, .setFront 31])) 1 = true := by
  decide +kernel

/-- `push` puts its entry at the front -/
theorem push_moves_to_front (s : Cache K V) (k : K) (v : V) : getFront (push s k v) = some (k, v) :=
  getFront_push s k v

/-- a hit of `get` moves the entry to the front and keeps all other entries in their order -/
theorem get_moves_to_front (s : Cache K V) (k : K) (hn : (keys s).Nodup) (hc : contains s k = true) :
    keys (get s k).1 = k :: (keys s).filter (fun k' => !(k' == k)) ∧
    ∀ k', lookup (get s k).1 k' = lookup s k' := by
  refine ⟨by rw [keys_get s k, hc]; rfl, fun k' => lookup_get s k k'⟩

/-- a miss of `get`, and `contains`, `get_front`, `len` in any case, change nothing -/
theorem observers_are_pure (s : Cache K V) (k : K) :
    (contains s k = false → (get s k).1 = s) ∧
    (step s (.contains k)).1 = s ∧ (step s .front).1 = s ∧ (step s .len).1 = s :=
  ⟨fun hc => by rw [get_miss s k hc], rfl, rfl, rfl⟩

example : keys (get (run (init 3 : Cache Nat Nat) [.push 1 10, .push 2 20, .push 3 30]) 1).1 = [1, 3, 2] := by decide +kernel

/-- **eviction takes the least recently used key.**  After any history `ops` (from the empty
    cache of capacity `cap ≥ 1`) that leaves the cache full, a push of a key that is not cached
    removes exactly the last entry — every other entry stays, in order, behind the new one — and
    the removed key is the one whose last use (last `push`/`get` of it in `ops`) is older than the
    last use of every other cached key.  `contains`/`front`/`len` never count as uses. -/
theorem evicts_least_recently_used (cap : Nat) (hc : 1 ≤ cap) (ops : List (Op K V)) (k : K) (v : V)
    (hnew : contains (run (init cap) ops) k = false)
    (hfull : len (run (init cap) ops) = cap) :
    ∃ rest victim,
      (run (init cap) ops).items = rest ++ [victim] ∧
      (push (run (init cap) ops) k v).items = (k, v) :: rest ∧
      ∀ k' ∈ rest.map (·.1), UsedBefore ops victim.1 k' := by
  have hrec := rec_run (K := K) (V := V) cap hc ops
  have hcap : (run (init cap : Cache K V) ops).cap = cap := by rw [cap_run]; rfl
  have hne : (run (init cap : Cache K V) ops).items ≠ [] := by
    intro e; simp only [len, e, List.length_nil] at hfull; omega
  refine ⟨(run (init cap) ops).items.dropLast, (run (init cap) ops).items.getLast hne,
    (List.dropLast_concat_getLast hne).symm, ?_, ?_⟩
  · simp only [push, hnew, Bool.false_eq_true, if_false]
    rw [if_pos (by rw [hcap]; exact hfull)]
  · intro k' hk'
    have hord := hrec.ordered
    simp only [keys] at hord
    rw [← List.dropLast_concat_getLast hne, List.map_append, List.pairwise_append] at hord
    exact hord.2.2 k' hk' _ (by simp)

/-- non-vacuity, and a concrete reading: capacity 2, keys 1,2 pushed, then `contains 2` (not a
    use) and `get 1` (a use): the push of 3 evicts 2, whose last use is op 1; key 1's is op 3 -/
example :
    let ops : List (Op Nat Nat) := [.push 1 10, .push 2 20, .contains 2, .get 1]
    contains (run (init 2) ops) 3 = false ∧ len (run (init 2) ops) = 2 ∧
    keys (push (run (init 2) ops) 3 30) = [3, 1] ∧ lastUse ops 2 = some 1 ∧ lastUse ops 1 = some 3 := by
  decide +kernel

/-- `lastUse` means what it says (read this instead of the recursive definition) -/
theorem lastUse_characterisation (ops : List (Op K V)) (k : K) (t : Nat) :
    lastUse ops k = some t ↔
      ∃ h : t < ops.length, isUse ops[t] k = true ∧
        ∀ j (hj : j < ops.length), t < j → isUse ops[j] k = false :=
  lastUse_eq_some_iff ops k t

open Tbx.LruL1

/-- memory safety of the bare list.  Starting from `LinkedList::new()`, every history
    of `push_front`, `move_to_front`, `pop_back`, `get_front_mut`, `clear` that uses
    `move_to_front` only with cursors of nodes currently in the list (and the front only when
    non-empty) runs without reaching ANY error branch of the model — no dereference of a freed or
    never allocated address, no failed unwrap/assertion, no length underflow, no fuel exhaustion —
    and ends in a state whose `front`/`back`/`len` and node links describe a duplicate-free doubly
    linked chain (`WF`) holding exactly what the abstract list functions compute. -/
theorem list_wf {T : Type} (ops : List (LL.Op T)) (hd : InDomainAll ([] : List (Nat × T)) 0 ops) :
    ∃ s, LL.run (LL.new : LL T) ops = .ok s ∧ WF s (absRun [] 0 ops) := by
  have := run_wf (LL.new : LL T) [] ops wf_new (by simpa [LL.new, Mem.empty] using hd)
  simpa [LL.new, Mem.empty] using this

/-- non-vacuity of `InDomainAll`: the tail is moved to the front, the new tail popped, and the cursor used after
    that is of a node still in the list -/
example : InDomainAll ([] : List (Nat × Nat)) 0
    [.pushFront 10, .pushFront 11, .pushFront 12, .moveToFront 0, .popBack, .moveToFront 2, .setFront 13, .clear, .pushFront 14] := by
  simp [InDomainAll, InDomain, absStep, allocs, addrs, LruL0.AList.pushFront, LruL0.AList.moveToFront,
    LruL0.AList.popBack]

/-- what `WF` gives, spelled out: lengths agree, addresses are distinct, every node of the chain is
    live, and nothing else is -/
theorem wf_facts {T : Type} (s : LL T) (ch : List (Nat × T)) (h : WF s ch) :
    s.len = ch.length ∧ (ch.map (·.1)).Nodup ∧ s.front = (ch.head?).map (·.1) ∧
    s.back = (ch.getLast?).map (·.1) ∧
    (∀ a t, (a, t) ∈ ch → ∃ n, gt s.mem.cells a = some n ∧ n.elem = t) ∧
    (∀ a n, gt s.mem.cells a = some n → a ∈ ch.map (·.1)) := by
  refine ⟨h.len, h.nodup, by rw [h.front, headOr_eq_head?], ?_, fun a t hm => seg_mem _ _ _ _ h.seg a t hm, h.live⟩
  rw [h.back, lastOr_eq_getLast?]; simp

/-- non-vacuity of the `WF` hypothesis (used by `wf_facts`, `clear_fuel_ok`): a three-node chain whose
    former tail has been moved to the front -/
example : ∃ s : LL Nat, WF s [(0, 10), (2, 12), (1, 11)] := by
  obtain ⟨s, _, h⟩ := list_wf (T := Nat) [.pushFront 10, .pushFront 11, .pushFront 12, .moveToFront 0]
    (by simp [InDomainAll, InDomain, absStep, allocs, addrs, LruL0.AList.pushFront])
  have e : absRun ([] : List (Nat × Nat)) 0 [.pushFront 10, .pushFront 11, .pushFront 12, .moveToFront 0]
      = [(0, 10), (2, 12), (1, 11)] := by decide +kernel
  exact ⟨s, e ▸ h⟩

/-- the documented misuse really is one: `move_to_front` with the cursor of a popped node on a
    non-empty list is a use after free in the model -/
example : (do
    let (s, c0) ← LL.pushFront (LL.new : LL Nat) 10
    let (s, _) ← LL.pushFront s 11
    let (s, _) ← LL.popBack s
    LL.moveToFront s c0 : Except Err (LL Nat)) matches .error (.uaf 0) := by decide +kernel

/-- For every capacity ≥ 1 and every history, the pointer-level cache runs to
    completion (no error branch), returns exactly the results of the recency list, and ends in a
    state tied to the recency list's state by `Refines` (well-formed chain carrying the same
    entries in the same order; `access_map` binds exactly the cached keys, each to its own node). -/
theorem l1_refines_l0 (cap : Nat) (hc : 1 ≤ cap) (ops : List (Op K V)) :
    ∃ s0 s1 ch, (Lru.new cap : Except Err (Lru K V)) = .ok s0 ∧
      Lru.run s0 ops = .ok (s1, (runOut (init cap) ops).2) ∧
      Refines s1 (run (init cap) ops) ch := by
  obtain ⟨s0, e0, r0⟩ := refines_new (K := K) (V := V) cap hc
  obtain ⟨s1, ch, e1, r1, _⟩ := run_refines s0 _ [] r0 ops
  rw [runOut_fst] at r1
  exact ⟨s0, s1, ch, e0, e1, r1⟩

/-- No history makes the cache dereference a freed or never allocated node (or hit any
    other error branch), and in every reachable state each cursor stored in `access_map` points to
    a live node that carries that very key. -/
theorem no_uaf (cap : Nat) (hc : 1 ≤ cap) (ops : List (Op K V)) :
    ∃ s0 s1 outs, (Lru.new cap : Except Err (Lru K V)) = .ok s0 ∧ Lru.run s0 ops = .ok (s1, outs) ∧
      ∀ k a, s1.amap.get k = some a → ∃ n, gt s1.list.mem.cells a = some n ∧ n.elem.1 = k := by
  obtain ⟨s0, s1, ch, e0, e1, r⟩ := l1_refines_l0 (K := K) (V := V) cap hc ops
  refine ⟨s0, s1, _, e0, e1, ?_⟩
  intro k a hka
  obtain ⟨v, hv⟩ := (r.cursors k a).1 hka
  obtain ⟨n, hn, he⟩ := seg_mem _ _ _ _ r.wf.seg a (k, v) hv
  exact ⟨n, hn, by rw [he]⟩

example : (do
    let s ← (Lru.new 2 : Except Err (Lru Nat Nat))
    let (s, outs) ← Lru.run s [.push 1 10, .push 2 20, .get 1, .push 3 30, .get 2, .get 1, .clear, .push 2 21, .get 2]
    pure (outs, s.dropped) : Except Err _) =
    .ok ([.unit, .unit, .val (some 10), .unit, .val none, .val (some 10), .unit, .unit, .val (some 21)], [20, 30, 10]) := by
  rfl

/-- After any history, `clear` (and `drop`, which is the same code) succeeds and
    leaves a heap in which every address ever allocated (`0 … cells.size-1`) is dead and occurs in
    the `freed` log exactly once; nothing else is in the log.  No node is freed twice, none leaks. -/
theorem freed_once (cap : Nat) (hc : 1 ≤ cap) (ops : List (Op K V)) :
    ∃ s0 s1 outs s2, (Lru.new cap : Except Err (Lru K V)) = .ok s0 ∧ Lru.run s0 ops = .ok (s1, outs) ∧
      Lru.drop s1 = .ok s2 ∧
      s2.list.mem.freed.Nodup ∧
      (∀ a, a ∈ s2.list.mem.freed ↔ a < s2.list.mem.cells.size) ∧
      s2.list.mem.freed.length = s2.list.mem.cells.size ∧
      s2.list.mem.cells.size = s1.list.mem.cells.size ∧
      (∀ a, gt s2.list.mem.cells a = none) := by
  obtain ⟨s0, s1, ch, e0, e1, r⟩ := l1_refines_l0 (K := K) (V := V) cap hc ops
  obtain ⟨s2, e2, r2, hsz, _⟩ := clear_refines s1 _ ch r
  obtain ⟨h1, h2, h3, h4⟩ := freed_once_of_wf_nil s2.list r2.wf
  exact ⟨s0, s1, _, s2, e0, e1, e2, h1, h2, h3, hsz, h4⟩

/-- **every stored value is dropped exactly once.**  `dropped` is the model's log of destructor
    runs (overwritten values, evicted values, values popped by `clear`/`drop`).  After any history,
    log ++ (values still stored) is a permutation of the values handed to the cache (`introduced`:
    one per `push`, one per front mutation of a non-empty cache), so nothing stored has been
    dropped and nothing was dropped twice; and after dropping the cache the log alone is a
    permutation of them: each value's destructor has run exactly once. -/
theorem values_dropped_once (cap : Nat) (hc : 1 ≤ cap) (ops : List (Op K V)) :
    ∃ s0 s1 outs s2 ch, (Lru.new cap : Except Err (Lru K V)) = .ok s0 ∧ Lru.run s0 ops = .ok (s1, outs) ∧
      Refines s1 (run (init cap) ops) ch ∧
      (s1.dropped ++ ch.map (·.2.2)).Perm (introduced (init cap) ops) ∧
      Lru.drop s1 = .ok s2 ∧ s2.dropped.Perm (introduced (init cap) ops) := by
  obtain ⟨s0, e0, r0⟩ := refines_new (K := K) (V := V) cap hc
  obtain ⟨s1, ch, e1, r1, c1⟩ := run_refines s0 _ [] r0 ops
  rw [runOut_fst] at r1
  obtain ⟨s2, e2, _, _, c2⟩ := clear_refines s1 _ ch r1
  have hd0 : s0.dropped = [] := by
    have : ¬ cap = 0 := by omega
    simp only [Lru.new, this, if_false] at e0
    cases e0; rfl
  exact ⟨s0, s1, _, s2, ch, e0, e1, r1, by simpa [Conserved, vals, hd0] using c1, e2,
    by simpa [Conserved, vals, hd0] using c1.trans c2⟩

example : (do
    let s ← (Lru.new 2 : Except Err (Lru Nat Nat))
    let (s, _) ← Lru.run s [.push 1 10, .push 1 11, .setFront 12, .push 2 20, .push 3 30, .get 2]
    let s' ← Lru.drop s
    pure (s.dropped, s'.dropped) : Except Err _) = .ok ([10, 11, 12], [10, 11, 12, 30, 20]) ∧
    introduced (init 2 : Cache Nat Nat) [.push 1 10, .push 1 11, .setFront 12, .push 2 20, .push 3 30, .get 2]
      = [10, 11, 12, 20, 30] := by
  exact ⟨rfl, rfl⟩

/-- the same for the bare list: after any in-domain history, `drop` frees every node exactly once -/
theorem list_freed_once {T : Type} (ops : List (LL.Op T)) (hd : InDomainAll ([] : List (Nat × T)) 0 ops) :
    ∃ s s', LL.run (LL.new : LL T) ops = .ok s ∧
      LL.drop s = .ok (s', ((absRun [] 0 ops).map (·.2)).reverse) ∧
      s'.mem.freed.Nodup ∧ (∀ a, a ∈ s'.mem.freed ↔ a < s'.mem.cells.size) ∧
      s'.mem.cells.size = s.mem.cells.size ∧ (∀ a, gt s'.mem.cells a = none) := by
  obtain ⟨s, e, hwf⟩ := list_wf ops hd
  obtain ⟨s', e', hwf', hsz⟩ := clear_wf s _ hwf
  obtain ⟨h1, h2, _, h4⟩ := freed_once_of_wf_nil s' hwf'
  exact ⟨s, s', e, e', h1, h2, hsz, h4⟩

example : (do
    let s ← LL.run (LL.new : LL Nat) [.pushFront 10, .pushFront 11, .pushFront 12, .moveToFront 0, .popBack, .pushFront 13]
    let (s, dropped) ← LL.drop s
    pure (dropped, s.mem.freed, s.mem.cells.size) : Except Err _) = .ok ([12, 10, 13], [3, 0, 2, 1], 4) := by
  rfl

/-- `clear` never runs out of the fuel the model passes (`len + 1`), i.e. the Rust loop terminates -/
theorem clear_fuel_ok {T : Type} (s : LL T) (ch : List (Nat × T)) (h : WF s ch) :
    ∃ s', LL.clear s = .ok (s', (ch.map (·.2)).reverse) ∧ WF s' [] := by
  obtain ⟨s', e, hwf, _⟩ := clear_wf s ch h
  exact ⟨s', e, hwf⟩

end Tbx.Props.C11
