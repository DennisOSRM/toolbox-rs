import Tbx.Gen.Loops
import Tbx.Model.Fenwick
import Tbx.Props.GenTieFenwick
/-
Tie theorems: the loop-bearing functions of `src/fenwick.rs` as regenerated (statement by statement) into
`Tbx/Gen/Loops.lean` on every check run compute the same function as the hand model `Tbx/Model/Fenwick.lean`
that the property theorems speak about.

The generated loops call the bit trick `Tbx.Gen.fenwickLsb` where the model calls the recursive `lsb`; the two
agree on 64-bit words only, so every tie carries the explicit bound `f.tree.size ≤ 2 ^ 64` (any `Vec` satisfies
it).  No larger bound is needed: the down loops only shrink the index, and the up loop of `update` applies the
bit trick only to an index it has just tested to be `< tree.len()`.

The loop lemmas are stated for arbitrary `cond` / `body` functions characterised pointwise (`hc`, `hb`); at
the use sites the characterisations of the generated lambdas hold by `rfl` (plus the lsb tie), so nothing
depends on the names of the auxiliary matchers the generator's tuple-pattern lambdas elaborate to.
-/
namespace Tbx.Props.GenLoopsFenwick
open Tbx Tbx.Fenwick

theorem aget_eq_gt {α : Type} [Inhabited α] (a : Array α) (i : Nat) : Tbx.Gen.aget a i = Tbx.gt a i := rfl

theorem aset_eq_st {α : Type} (a : Array α) (i : Nat) (x : α) : Tbx.Gen.aset a i x = Tbx.st a i x := rfl

theorem genLsb_eq (n : Nat) (h : n < 2 ^ 64) : Tbx.Gen.fenwickLsb n = lsb n :=
  Tbx.Props.GenTieFenwick.fenwick_lsb_gen_spec n h

/-- the `while index > stop { sum += tree[index]; index -= lsb(index) }` loop (state order of the
    generated code: `(sum, index)`).  The accumulator is read through `g`: the identity for the adding loops, and
    `c - ·` for the second loop of `range`, which subtracts what the model's loop adds -/
theorem whileFuel_down {cond : Int × Nat → Bool} {body : Int × Nat → Int × Nat} (t : Array Int) (stop : Nat)
    (g : Int → Int) (hc : ∀ s i, cond (s, i) = decide (i > stop))
    (hb : ∀ s i, i < 2 ^ 64 → body (g s, i) = (g (s + gt t i), i - lsb i))
    (fuel index : Nat) (sum : Int) (hi : index < 2 ^ 64) :
    Tbx.Gen.whileFuel fuel cond body (g sum, index)
      = (g (downLoop t stop fuel index sum).2, (downLoop t stop fuel index sum).1) := by
  induction fuel generalizing index sum with
  | zero => simp only [Tbx.Gen.whileFuel, downLoop]
  | succ fuel ih =>
    simp only [Tbx.Gen.whileFuel, downLoop, hc]
    by_cases h : index > stop
    · have h' : (index - lsb index) < 2 ^ 64 := Nat.lt_of_le_of_lt (Nat.sub_le _ _) hi
      simp only [h, decide_true, if_true, hb sum index hi]
      exact ih _ _ h'
    · simp only [h, decide_false, if_false, Bool.false_eq_true]

theorem downLoop_acc (t : Array Int) (stop fuel index : Nat) (sum : Int) :
    downLoop t stop fuel index sum
      = ((downLoop t stop fuel index 0).1, sum + (downLoop t stop fuel index 0).2) := by
  induction fuel generalizing index sum with
  | zero => simp [downLoop]
  | succ fuel ih =>
    simp only [downLoop]
    by_cases h : index > stop
    · simp only [h, if_true]
      rw [ih (index - lsb index) (sum + gt t index), ih (index - lsb index) (0 + gt t index)]
      simp only [Int.zero_add, Int.add_assoc]
    · simp [h]

/-- the `while index < tree.len() { tree[index] += value; index += lsb(index) }` loop of `update` -/
theorem whileFuel_up {cond : Array Int × Nat → Bool} {body : Array Int × Nat → Array Int × Nat} (value : Int)
    (hc : ∀ t i, cond (t, i) = decide (i < t.size))
    (hb : ∀ t i, i < 2 ^ 64 → body (t, i) = (st t i (gt t i + value), i + lsb i))
    (fuel index : Nat) (t : Array Int) (hsz : t.size ≤ 2 ^ 64) :
    (Tbx.Gen.whileFuel fuel cond body (t, index)).1 = upLoop value fuel index t := by
  induction fuel generalizing index t with
  | zero => simp only [Tbx.Gen.whileFuel, upLoop]
  | succ fuel ih =>
    simp only [Tbx.Gen.whileFuel, upLoop, hc]
    by_cases h : index < t.size
    · have hi : index < 2 ^ 64 := Nat.lt_of_lt_of_le h hsz
      simp only [h, decide_true, if_true, hb t index hi]
      exact ih _ _ (by rw [size_st]; exact hsz)
    · simp only [h, decide_false, if_false, Bool.false_eq_true]

/-- the `while step > 0` loop of `select` (state order of the generated code: `(value, index, step)`) -/
theorem whileFuel_sel {cond : Int × Nat × Nat → Bool} {body : Int × Nat × Nat → Int × Nat × Nat}
    (t : Array Int)
    (hc : ∀ v i s, cond (v, i, s) = decide (s > 0))
    (hb : ∀ v i s, body (v, i, s)
        = if (decide (i + s < t.size) && decide (gt t (i + s) ≤ v)) then (v - gt t (i + s), i + s, s / 2)
          else (v, i, s / 2))
    (fuel index step : Nat) (value : Int) :
    (Tbx.Gen.whileFuel fuel cond body (value, index, step)).2.1 = selLoop t fuel index step value := by
  induction fuel generalizing index step value with
  | zero => simp only [Tbx.Gen.whileFuel, selLoop]
  | succ fuel ih =>
    simp only [Tbx.Gen.whileFuel, selLoop, hc]
    by_cases h : step > 0
    · simp only [h, decide_true, if_true, hb]
      by_cases h2 : index + step < t.size ∧ gt t (index + step) ≤ value
      · simp only [h2, decide_true, Bool.and_self, if_true, and_self]
        exact ih _ _ _
      · have : (decide (index + step < t.size) && decide (gt t (index + step) ≤ value)) = false := by
          rcases Classical.not_and_iff_not_or_not.mp h2 with h3 | h3 <;> simp [h3]
        simp only [this, h2, if_false, Bool.false_eq_true]
        exact ih _ _ _
    · simp only [h, decide_false, if_false, Bool.false_eq_true]

theorem gen_prevPow2_eq_model (n : Nat) (h : n < 2 ^ 64) :
    Tbx.Gen.Loops.prevPow2 n = Tbx.Fenwick.prevPow2 n := by
  unfold Tbx.Gen.Loops.prevPow2 Tbx.Fenwick.prevPow2 Tbx.Gen.leadingZeros64
  by_cases h0 : n = 0
  · simp only [h0, if_true]
  · simp only [h0, if_false]
    have hl : n.log2 < 64 := (Nat.log2_lt h0).mpr h
    have e : 64 - (63 - n.log2) - 1 = n.log2 := by omega
    rw [e, Nat.one_shiftLeft]

example : Tbx.Gen.Loops.prevPow2 1000 = 512 ∧ Tbx.Fenwick.prevPow2 1000 = 512 :=
  ⟨by rw [gen_prevPow2_eq_model 1000 (by decide)]; decide, by decide⟩

/-- `Fenwick::rank` as regenerated from the source is the model's `rank` (both `none` out of range) -/
theorem gen_rank_eq_model (f : Tbx.Fenwick.FW) (index : Nat) (hsz : f.tree.size ≤ 2 ^ 64) :
    Tbx.Gen.Loops.fenwickRank f.tree index = Tbx.Fenwick.rank f index := by
  unfold Tbx.Gen.Loops.fenwickRank Tbx.Fenwick.rank Tbx.Fenwick.len
  by_cases h : index ≥ f.tree.size - 1
  · simp only [h, decide_true, if_true]
  · have hi : index + 1 < 2 ^ 64 := by omega
    simp only [h, decide_false, if_false, Bool.false_eq_true]
    rw [whileFuel_down f.tree 0 (fun s => s) (fun _ _ => rfl)
      (fun s i hi => by rw [← genLsb_eq i hi]; rfl) (index + 1) (index + 1) 0 hi]

example : Tbx.Gen.Loops.fenwickRank #[0, 3, 4, 5, 13, 7] 3 = some 13 := by
  rw [gen_rank_eq_model ⟨#[0, 3, 4, 5, 13, 7]⟩ 3 (by decide)]
  simp [Tbx.Fenwick.rank, len, downLoop, lsb, gt]
example : Tbx.Gen.Loops.fenwickRank #[0, 3, 4, 5, 13, 7] 3 = some 13
    ∧ Tbx.Gen.Loops.fenwickRank #[0, 3, 4, 5, 13, 7] 5 = none := by decide

/-- `Fenwick::update` as regenerated from the source is the model's `update`: same `Err` domain, same tree -/
theorem gen_update_eq_model (f : Tbx.Fenwick.FW) (index : Nat) (value : Int) (hsz : f.tree.size ≤ 2 ^ 64) :
    Tbx.Fenwick.update f index value
      = (match Tbx.Gen.Loops.fenwickUpdate f.tree index value with
         | (some (), t) => some ⟨t⟩
         | (none, _) => none) := by
  unfold Tbx.Gen.Loops.fenwickUpdate Tbx.Fenwick.update Tbx.Fenwick.len
  by_cases h : index ≥ f.tree.size - 1
  · simp only [h, decide_true, if_true]
  · simp only [h, decide_false, if_false, Bool.false_eq_true]
    generalize hw : Tbx.Gen.whileFuel _ _ _ _ = w
    have key : w.1 = upLoop value f.tree.size (index + 1) f.tree := by
      rw [← hw]
      exact whileFuel_up value (fun _ _ => rfl)
        (fun t i hi => by rw [← genLsb_eq i hi]; rfl) _ _ _ hsz
    obtain ⟨t, i⟩ := w
    simp only at key
    simp only [key]

/-- the same, componentwise -/
theorem gen_update_components (f : Tbx.Fenwick.FW) (index : Nat) (value : Int) (hsz : f.tree.size ≤ 2 ^ 64) :
    ((Tbx.Gen.Loops.fenwickUpdate f.tree index value).1 = none ↔ Tbx.Fenwick.update f index value = none)
    ∧ (∀ f', Tbx.Fenwick.update f index value = some f' →
        (Tbx.Gen.Loops.fenwickUpdate f.tree index value) = (some (), f'.tree)) := by
  rw [gen_update_eq_model f index value hsz]
  rcases Tbx.Gen.Loops.fenwickUpdate f.tree index value with ⟨_ | ⟨⟨⟩⟩, t⟩
  · simp
  · simp only [reduceCtorEq, Option.some.injEq]
    refine ⟨by simp, ?_⟩
    intro f' hf; rw [← hf]

example : Tbx.Gen.Loops.fenwickUpdate #[0, 3, 4, 5, 13, 7] 1 10 = (some (), #[0, 3, 14, 5, 23, 7]) := by
  have h : Tbx.Fenwick.update ⟨#[0, 3, 4, 5, 13, 7]⟩ 1 10 = some ⟨#[0, 3, 14, 5, 23, 7]⟩ := by
    simp [Tbx.Fenwick.update, len, upLoop, lsb, gt, st]
  exact (gen_update_components ⟨#[0, 3, 4, 5, 13, 7]⟩ 1 10 (by decide)).2 _ h
example : Tbx.Gen.Loops.fenwickUpdate #[0, 3, 4, 5, 13, 7] 1 10 = (some (), #[0, 3, 14, 5, 23, 7])
    ∧ Tbx.Gen.Loops.fenwickUpdate #[0, 3, 4, 5, 13, 7] 5 10 = (none, #[0, 3, 4, 5, 13, 7]) := by decide

/-- `Fenwick::range` as regenerated from the source returns the model's value wherever the model does not
    report the out-of-bounds read `tree[j + 1]` -/
theorem gen_range_eq_model (f : Tbx.Fenwick.FW) (i j : Nat) (r : Int) (hsz : f.tree.size ≤ 2 ^ 64)
    (hr : Tbx.Fenwick.range f i j = some r) :
    Tbx.Gen.Loops.fenwickRange f.tree i j = r := by
  unfold Tbx.Fenwick.range at hr
  unfold Tbx.Gen.Loops.fenwickRange
  by_cases h : i ≥ j
  · simp only [h, if_true, Option.some.injEq] at hr
    simp only [h, decide_true, if_true, hr]
  · simp only [h, if_false] at hr
    by_cases h2 : j + 1 ≥ f.tree.size
    · simp only [h2, if_true, reduceCtorEq] at hr
    · simp only [h2, if_false, Option.some.injEq] at hr
      have hj : j + 1 < 2 ^ 64 := by omega
      have hi : i + 1 < 2 ^ 64 := by omega
      simp only [h, decide_false, if_false, Bool.false_eq_true]
      rw [whileFuel_down f.tree i (fun s => s) (fun _ _ => rfl)
        (fun s i hi => by rw [← genLsb_eq i hi]; rfl) (j + 1) (j + 1) 0 hj]
      simp only []
      rw [← Int.sub_zero (downLoop f.tree i (j + 1) (j + 1) 0).2]
      rw [whileFuel_down f.tree (downLoop f.tree i (j + 1) (j + 1) 0).1 (fun s => _ - s) (fun _ _ => rfl)
        (fun s i hi => by rw [← genLsb_eq i hi, ← Int.sub_sub]; rfl) (i + 1) (i + 1) 0 hi]
      simpa using hr

example : Tbx.Gen.Loops.fenwickRange #[0, 3, 4, 5, 13, 7] 1 3 = 9 :=
  gen_range_eq_model ⟨#[0, 3, 4, 5, 13, 7]⟩ 1 3 9 (by decide)
    (by simp [Tbx.Fenwick.range, downLoop, lsb, gt])
example : Tbx.Gen.Loops.fenwickRange #[0, 3, 4, 5, 13, 7] 1 3 = 9 := by decide

/-- `Fenwick::select` as regenerated from the source is the model's `select` -/
theorem gen_select_eq_model (f : Tbx.Fenwick.FW) (value : Int) (hsz : f.tree.size ≤ 2 ^ 64) :
    Tbx.Gen.Loops.fenwickSelect f.tree value = Tbx.Fenwick.select f value := by
  unfold Tbx.Gen.Loops.fenwickSelect Tbx.Fenwick.select Tbx.Fenwick.len
  rw [gen_prevPow2_eq_model (f.tree.size - 1) (by omega)]
  simp only []
  generalize hw : Tbx.Gen.whileFuel _ _ _ _ = w
  have key : w.2.1
      = selLoop f.tree (Tbx.Fenwick.prevPow2 (f.tree.size - 1) + 1) 0
          (Tbx.Fenwick.prevPow2 (f.tree.size - 1)) value := by
    rw [← hw]
    exact whileFuel_sel f.tree (fun _ _ _ => rfl)
      (fun v i s => by
        show (if _ then (_, _, s >>> 1) else (_, _, s >>> 1)) = _
        rw [Nat.shiftRight_eq_div_pow]; rfl) _ _ _ _
  obtain ⟨v, i, s⟩ := w
  simp only at key
  subst key
  simp only [beq_iff_eq]

example : Tbx.Gen.Loops.fenwickSelect #[0, 3, 4, 5, 13, 7] 12 = some 2 := by
  rw [gen_select_eq_model ⟨#[0, 3, 4, 5, 13, 7]⟩ 12 (by decide)]; decide
example : Tbx.Gen.Loops.fenwickSelect #[0, 3, 4, 5, 13, 7] 12 = some 2
    ∧ Tbx.Gen.Loops.fenwickSelect #[0, 3, 4, 5, 13, 7] 2 = none := by decide

end Tbx.Props.GenLoopsFenwick
