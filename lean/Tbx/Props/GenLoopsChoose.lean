import Tbx.Gen.Loops
import Tbx.Model.Choose
import Tbx.Model.Enumerative
import Tbx.Props.C20
/-
Tie theorems: the definitions `Tbx.Gen.Loops.choose` / `Tbx.Gen.Loops.decodeU64`, regenerated from /repo's
`math::choose` and `enumerative_source_coding::decode_u64` on every check run, compute the same function as the
hand models `Tbx.Choose.choose` / `Tbx.Enumerative.decodeU64` wherever the hand model does not report a panic
(`none`).  The C20 theorems about the hand models are then restated for the generated functions.
-/
namespace Tbx.Props.GenLoopsChoose
open Tbx

theorem loop_eq_foldl (lim n cnt i res r : Nat) (h : Choose.loop lim n cnt i res = some r) :
    (List.range' i cnt).foldl (fun result_3 i_4 => (result_3 * ((n - i_4) + (1 : Nat))) / i_4) res = r := by
  induction cnt generalizing i res with
  | zero =>
    simp only [Choose.loop] at h
    simpa using Option.some.inj h
  | succ cnt ih =>
    simp only [Choose.loop] at h
    split at h
    · have := ih (i + 1) _ h
      simpa only [List.range'_succ, List.foldl_cons, Choose.prod] using this
    · cases h

/-- where the hand model of `math::choose` does not panic, the generated function returns its value -/
theorem gen_choose_eq_model (n k r : Nat) : Tbx.Choose.choose n k = some r → Tbx.Gen.Loops.choose n k = r := by
  intro h
  unfold Tbx.Choose.choose at h
  unfold Tbx.Gen.Loops.choose
  by_cases h1 : k > n
  · simp only [h1, if_true, decide_true] at h ⊢
    exact Option.some.inj h
  · simp only [h1, if_false, decide_false] at h ⊢
    by_cases h2 : (k == 0 || k == n) = true
    · simp only [h2, if_true] at h ⊢
      exact Option.some.inj h
    · simp only [h2, Bool.false_eq_true, if_false] at h ⊢
      cases hl : Choose.loop Choose.U128 n (Choose.reduceK n k) 1 1 with
      | none => rw [hl] at h; cases h
      | some v =>
        rw [hl] at h
        have hv := loop_eq_foldl _ _ _ _ _ _ hl
        simp only [Choose.reduceK] at hv
        have h := Option.some.inj h
        simp only [Nat.add_sub_cancel, decide_eq_true_eq]
        rw [hv, ← h]
        rfl

example : Tbx.Gen.Loops.choose 37 17 = 15905368710 :=
  gen_choose_eq_model 37 17 15905368710 (by decide +kernel)

/-- for n ≤ 64 the generated `choose` is the binomial coefficient -/
theorem gen_choose_binomial (n k : Nat) (h : n ≤ 64) : Tbx.Gen.Loops.choose n k = Nat.choose n k := by
  have hc := Tbx.Props.C20.choose_eq n k h
  rw [← hc.2.1]
  exact gen_choose_eq_model n k _ hc.1

example : Tbx.Gen.Loops.choose 64 32 = Nat.choose 64 32 := gen_choose_binomial 64 32 (by decide)

/-- …and it fits the `u64` the Rust returns -/
theorem gen_choose_lt (n k : Nat) (h : n ≤ 64) : Tbx.Gen.Loops.choose n k < 2 ^ 64 := by
  have hc := Tbx.Props.C20.choose_eq n k h
  rw [gen_choose_eq_model n k _ hc.1]
  exact hc.2.2

example : Tbx.Gen.Loops.choose 64 32 < 2 ^ 64 := gen_choose_lt 64 32 (by decide)

/-- the body of the generated `for bit in (0..64).rev()` loop (verbatim from Loops.lean) -/
def decodeBody : Nat × Nat × Nat → Nat → Nat × Nat × Nat :=
  (fun (ordinal_2, result_3, ones_4) bit_5 =>
      let n_ck_9 : Nat := (Tbx.Gen.Loops.choose bit_5 ones_4)
      if (decide (ordinal_2 ≥ n_ck_9)) then
        let ordinal_10 : Nat := (ordinal_2 - n_ck_9)
        let result_11 : Nat := (result_3 ||| ((1 : Nat) <<< bit_5))
        let ones_12 : Nat := (ones_4 - (1 : Nat))
        (ordinal_10, result_11, ones_12)
      else
        (ordinal_2, result_3, ones_4))

theorem gen_decodeU64_unfold (ones ord : Nat) :
    Tbx.Gen.Loops.decodeU64 ones ord =
      ((List.range' 0 64).reverse.foldl decodeBody (ord, 0, ones)).2.1 := by
  unfold Tbx.Gen.Loops.decodeU64 decodeBody
  dsimp only

theorem decodeLoop_eq_foldl (b ones ord res r : Nat) (h : Enumerative.decodeLoop b ones ord res = some r) :
    ((List.range' 0 b).reverse.foldl decodeBody (ord, res, ones)).2.1 = r := by
  induction b generalizing ones ord res with
  | zero =>
    simp only [Enumerative.decodeLoop] at h
    simpa using Option.some.inj h
  | succ b ih =>
    rw [List.range'_concat, List.reverse_append, List.reverse_singleton, List.singleton_append, List.foldl_cons,
      Nat.zero_add, Nat.one_mul]
    unfold Enumerative.decodeLoop at h
    cases hc : Choose.choose b ones with
    | none => rw [hc] at h; cases h
    | some nck =>
      rw [hc] at h
      have hg : Tbx.Gen.Loops.choose b ones = nck := gen_choose_eq_model b ones nck hc
      simp only at h
      by_cases hge : ord ≥ nck
      · simp only [hge, if_true] at h
        by_cases h0 : ones = 0
        · simp only [h0, if_true] at h; cases h
        · simp only [h0, if_false] at h
          have := ih _ _ _ h
          simpa only [decodeBody, hg, hge, decide_true, if_true] using this
      · simp only [hge, if_false] at h
        have := ih _ _ _ h
        simpa only [decodeBody, hg, hge, decide_false, Bool.false_eq_true, if_false] using this

/-- where the hand model of `decode_u64` does not panic, the generated function returns its value -/
theorem gen_decode_eq_model (ones ord r : Nat) :
    Tbx.Enumerative.decodeU64 ones ord = some r → Tbx.Gen.Loops.decodeU64 ones ord = r := by
  intro h
  rw [gen_decodeU64_unfold]
  unfold Tbx.Enumerative.decodeU64 at h
  cases hc : Choose.choose 64 ones with
  | none => rw [hc] at h; cases h
  | some c =>
    rw [hc] at h
    simp only at h
    by_cases hlt : ord < c
    · simp only [hlt, if_true] at h
      exact decodeLoop_eq_foldl 64 ones ord 0 r h
    · simp only [hlt, if_false] at h; cases h

example : Tbx.Gen.Loops.decodeU64 3 21 = 69 := gen_decode_eq_model 3 21 69 (by decide +kernel)

/-- `decode_u64_unrank` of C20 for the generated function: for w ≤ 64 it maps the ordinals below C(64,w)
    strictly monotonically and bijectively onto the 64-bit words of weight w (inverse: `Spec.rank 64`) -/
theorem gen_decode_u64_unrank (w : Nat) (hw : w ≤ 64) :
    (∀ ord, ord < Nat.choose 64 w →
      Tbx.Gen.Loops.decodeU64 w ord < 2 ^ 64 ∧ Spec.popcount 64 (Tbx.Gen.Loops.decodeU64 w ord) = w ∧
        Spec.rank 64 (Tbx.Gen.Loops.decodeU64 w ord) = ord) ∧
    (∀ o1 o2, o1 < o2 → o2 < Nat.choose 64 w →
      Tbx.Gen.Loops.decodeU64 w o1 < Tbx.Gen.Loops.decodeU64 w o2) ∧
    (∀ x, x < 2 ^ 64 → Spec.popcount 64 x = w →
      Spec.rank 64 x < Nat.choose 64 w ∧ Tbx.Gen.Loops.decodeU64 w (Spec.rank 64 x) = x) := by
  have hb : Spec.binom 64 w = Nat.choose 64 w := (Tbx.Props.C20.choose_eq 64 w (by omega)).2.1
  obtain ⟨h1, h2, h3⟩ := Tbx.Props.C20.decode_u64_unrank w hw
  rw [hb] at h1 h2 h3
  refine ⟨?_, ?_, ?_⟩
  · intro ord ho
    obtain ⟨x, hx, hlt, hp, hr⟩ := h1 ord ho
    rw [gen_decode_eq_model w ord x hx]
    exact ⟨hlt, hp, hr⟩
  · intro o1 o2 h12 ho2
    obtain ⟨x1, hx1, _⟩ := h1 o1 (by omega)
    obtain ⟨x2, hx2, _⟩ := h1 o2 ho2
    rw [gen_decode_eq_model w o1 x1 hx1, gen_decode_eq_model w o2 x2 hx2]
    exact h2 o1 o2 x1 x2 h12 ho2 hx1 hx2
  · intro x hx hp
    obtain ⟨hr, hd⟩ := h3 x hx hp
    exact ⟨hr, gen_decode_eq_model w _ x hd⟩

example : (21 < Nat.choose 64 3) ∧ Tbx.Gen.Loops.decodeU64 3 21 = 69 ∧ Spec.popcount 64 69 = 3 ∧
    Spec.rank 64 69 = 21 := by
  refine ⟨by decide +kernel, gen_decode_eq_model 3 21 69 (by decide +kernel), by decide +kernel, by decide +kernel⟩

end Tbx.Props.GenLoopsChoose
