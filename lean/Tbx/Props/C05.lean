import Tbx.Proofs.ChipperHier
import Tbx.Proofs.ChipperPar
import Tbx.Proofs.ChipperStepC03
/-
C05 — chipper emits the exact recursive inertial-flow hierarchy for every node.

Theorems about the model `Tbx.Chipper.chipper` (Model/Chipper.lean), for ANY bisection step `step` that
satisfies `Tbx.Chipper.StepSpec` (left ++ right of a reported result has no duplicates, lies inside the cell,
contains every edge source, both sides non-empty — C03's theorems about `Tbx.InertialFlow.subStep`;
`subStep_stepSpec` below shows that the real step model is such a step) and any size-of-contraction
function.  Ids are built with the child / descendant functions REGENERATED from src/partition_id.rs.
-/
namespace Tbx.Props.C05
open Tbx Tbx.Chipper Tbx.Hierarchy Tbx.InertialFlow Tbx.Gen

/-- `Lt a b` ("a strictly better than b") is: smaller flow, or equal flow and strictly larger balance, the
    balances min(|L|,|R|)/(|L|+|R|) compared exactly by cross multiplication -/
theorem lt_def (a b : FlowRes) :
    Lt a b ↔ (a.flow < b.flow ∨
      (a.flow = b.flow ∧ balanceNum b * balanceDen a < balanceNum a * balanceDen b)) := Iff.rfl

/-- `flow_cmp(a, b) == Greater` iff b is strictly better than a -/
theorem flowCmp_gt (a b : FlowRes) : flowCmp a b = .gt ↔ Lt b a := flowCmp_gt_iff a b

/-- `min_by(flow_cmp)` returns the LEFTMOST minimum: an element with only strictly worse elements before it
    and no strictly better element after it -/
theorem minBy_leftmost_min (xs : List FlowRes) (x : FlowRes) (hpos : ∀ y ∈ xs, 0 < balanceDen y) :
    minBy xs = some x ↔
      ∃ l r, xs = l ++ x :: r ∧ (∀ y ∈ l, Lt x y) ∧ (∀ y ∈ r, ¬ Lt y x) :=
  ⟨split_of_minBy hpos, minBy_of_split hpos⟩

/-- The best of four: the reported result comes from an axis `a` run to completion under the cell's node
    count as bound; no axis reports a strictly better (flow, balance); every lower axis that completes reports
    a strictly worse one.  So the winner is the minimum of (flow, −balance, axis). -/
theorem flowCmp_lex (n : Nat) (step : Step) (kOf : Nat → Nat) (hstep : StepSpec n step kOf)
    (job : Job) (hjob : JobOK n job) (x : FlowRes) (h : bestSeq step kOf job = .some x) :
    ∃ a, a < 4 ∧ step job.edges job.ids a (kOf job.ids.length) job.ids.length = .ok x ∧
      (∀ a', a' < 4 → ∀ y, step job.edges job.ids a' (kOf job.ids.length) job.ids.length = .ok y → ¬ Lt y x) ∧
      (∀ a', a' < a → ∀ y, step job.edges job.ids a' (kOf job.ids.length) job.ids.length = .ok y → Lt x y) := by
  apply bestOf_axis_lex 4 (fun a => step job.edges job.ids a (kOf job.ids.length) job.ids.length) x
  · exact fun a _ y hy => hstep.balanceDen_pos hjob hy
  · exact h

/-- After the child steps `bits` from the root (0 = left, 1 = right; `idOfSides` folds the generated
    `pidMakeLeftChild` / `pidMakeRightChild`) and `make_leftmost/rightmost_descendant k`:
    the id is 2^(j+k) + bits·2^k (+ 2^k − 1), its level is j + k, and it fits 32 bits when j + k ≤ 31. -/
theorem id_path (bits : List Bool) (k : Nat) :
    pidLeftmostDescendant (idOfSides bits) k = 2 ^ (bits.length + k) + bitsVal bits * 2 ^ k ∧
    pidRightmostDescendant (idOfSides bits) k = 2 ^ (bits.length + k) + bitsVal bits * 2 ^ k + (2 ^ k - 1) ∧
    (bits.length + k ≤ 31 →
      pidLevel (pidLeftmostDescendant (idOfSides bits) k) = bits.length + k ∧
      pidLevel (pidRightmostDescendant (idOfSides bits) k) = bits.length + k ∧
      pidRightmostDescendant (idOfSides bits) k < 2 ^ 32) := by
  have hlen : ∀ b, (bits ++ List.replicate k b).length = bits.length + k := fun b => by
    rw [List.length_append, List.length_replicate]
  refine ⟨?_, ?_, fun h => ?_⟩
  · rw [leftmost_eq, idOfSides_eq, bitsVal_append, bitsVal_replicate_false, hlen, List.length_replicate, Nat.add_zero]
  · rw [rightmost_eq, idOfSides_eq, bitsVal_append, bitsVal_replicate_true, hlen, List.length_replicate,
      Nat.add_assoc]
  · rw [leftmost_eq, rightmost_eq, level_idOfSides _ (hlen false ▸ h), level_idOfSides _ (hlen true ▸ h), hlen, hlen]
    exact ⟨rfl, rfl, idOfSides_fits _ (hlen true ▸ h)⟩

/-- The Spec's executable form (what the judge runs, `best` evaluated once per cell) lists, for every node,
    exactly the sides of the per-node definition `specSides` - for any `best` whose two sides are disjoint
    sub-lists of the cell. -/
theorem specAll_sound (best : Cell → Option (List Nat × List Nat)) (m : Nat) (hb : BestSides best)
    (d : Nat) (c : Cell) (p : Nat × List Bool) (h : p ∈ specAll best m d c) :
    p.1 ∈ c.ids ∧ p.2 = specSides best m d c p.1 :=
  specAll_spec best m hb d c p h

/-- reading an id top-down gives back the sides it was built from -/
theorem id_reads_back (s : List Bool) : sidesOf (idOfSides s) = s := sidesOf_idOfSides s

/-- The reports: an edge is in the cut file iff the ids of its end points differ, in file order; the rows of
    both files are the Spec's (`expectedCut`, `expectedAssignment`) for the ids in the array. -/
theorem reports_consistent (edges : List Chipper.Edge) (pid : Array Nat) (coord : Nat → Coord) :
    (∀ e, e ∈ cutEdges edges pid ↔ e ∈ edges ∧ gt pid e.1 ≠ gt pid e.2) ∧
    (cutEdges edges pid).Sublist edges ∧
    (cutRows edges pid coord).map (fun r => (pairOf r.1, pairOf r.2)) =
      expectedCut edges pid.toList (fun i => pairOf (coord i)) ∧
    (assignmentRows pid coord).map (fun r => (r.1, (pairOf r.2).1, (pairOf r.2).2)) =
      expectedAssignment pid.toList (fun i => pairOf (coord i)) :=
  ⟨cutEdges_iff edges pid, List.filter_sublist, cutRows_eq edges pid coord, assignmentRows_eq pid coord⟩

/-- The hierarchy: for every node x the id chipper writes is the id whose top-down reading is
    `specSides`: left/right as chosen by the best bisection of each cell containing x, a cell of at most m nodes
    is not split and x gets the leftmost / rightmost descendant. -/
theorem hierarchy (step : Step) (cfg : Cfg) (edges : List Chipper.Edge) (n : Nat)
    (hm : 1 ≤ cfg.m) (hn : 2 ≤ n) (hsrc : ∀ e ∈ edges, e.1 < n)
    (hsmall : 2 * edges.length + 6 < Tbx.Flow.INV) (hstep : StepSpec n step cfg.kOf)
    (out : Array Nat × List (List Job)) (h : chipper step cfg edges n = some out) :
    ∀ x, x < n →
      gt out.1 x = idOfSides (specSides (specBest (bestSeq step cfg.kOf)) cfg.m cfg.r
        { edges := edges, ids := List.range n } x) ∧
      sidesOf (gt out.1 x) = specSides (specBest (bestSeq step cfg.kOf)) cfg.m cfg.r
        { edges := edges, ids := List.range n } x := by
  intro x hx
  have := run_hier cfg (bestSeq step cfg.kOf) edges n hm hn hsrc hsmall (bestSeq_ok n step cfg.kOf hstep) out h x hx
  unfold specId at this
  exact ⟨this, by rw [this, sidesOf_idOfSides]⟩

/-- Levels: if the four-axis search of every well-formed job whose nodes all have an outgoing edge reports a
    result (no job loses all four axes to the bound), every node of the input has an outgoing edge (true for
    symmetric connected graphs) and r ≤ 31, then every id has level exactly r. -/
theorem level_exact (step : Step) (cfg : Cfg) (edges : List Chipper.Edge) (n : Nat)
    (hm : 1 ≤ cfg.m) (hn : 2 ≤ n) (hr : cfg.r ≤ 31) (hsrc : ∀ e ∈ edges, e.1 < n)
    (hsmall : 2 * edges.length + 6 < Tbx.Flow.INV)
    (hout : ∀ x, x < n → ∃ e ∈ edges, e.1 = x)
    (hstep : StepSpec n step cfg.kOf)
    (hfin : ∀ job, JobOK n job → JobFull job → ∃ res, bestSeq step cfg.kOf job = .some res)
    (out : Array Nat × List (List Job)) (h : chipper step cfg edges n = some out) :
    ∀ x, x < n → pidLevel (gt out.1 x) = cfg.r := by
  intro x hx
  have hb := bestSeq_ok n step cfg.kOf hstep
  have hid := run_hier cfg (bestSeq step cfg.kOf) edges n hm hn hsrc hsmall hb out h x hx
  have hroot := (root_queueOK edges n hn hsrc hsmall).jobs _ (List.mem_singleton.mpr rfl)
  have hfull : JobFull { edges := edges, ids := List.range n } := by
    intro y hy
    exact hout y (List.mem_range.mp hy)
  have hlen := specSides_length cfg (bestSeq step cfg.kOf) n hm hb hfin cfg.r
    { edges := edges, ids := List.range n } x hroot hfull (List.mem_range.mpr hx)
  rw [hid]
  unfold specId
  have hlen' : (specSides (specBest (bestSeq step cfg.kOf)) cfg.m cfg.r
      { edges := edges, ids := List.range n } x).length = cfg.r := hlen
  rw [level_idOfSides _ (by omega), hlen']

/-- `Tbx.InertialFlow.subStep` is a step in the sense of `StepSpec`, for every size-of-contraction function in
    range — by C03's `sides_nodup_subset`, `sides_cover`, `sides_nonempty` -/
theorem subStep_stepSpec (coord : Nat → Coord) (n : Nat) (kOf : Nat → Nat)
    (hk : ∀ s, 2 ≤ s → 1 ≤ kOf s ∧ 2 * kOf s ≤ s) :
    StepSpec n (fun e ids a k β => subStep e ids coord a k β) kOf :=
  Tbx.Chipper.subStep_stepSpec coord n kOf hk

/-- `hierarchy` for the model of the real `sub_step`: no assumption left beyond the input conditions -/
theorem hierarchy_subStep (coord : Nat → Coord) (cfg : Cfg) (edges : List Chipper.Edge) (n : Nat)
    (hm : 1 ≤ cfg.m) (hn : 2 ≤ n) (hsrc : ∀ e ∈ edges, e.1 < n)
    (hsmall : 2 * edges.length + 6 < Tbx.Flow.INV)
    (hk : ∀ s, 2 ≤ s → 1 ≤ cfg.kOf s ∧ 2 * cfg.kOf s ≤ s)
    (out : Array Nat × List (List Job))
    (h : chipper (fun e ids a k β => subStep e ids coord a k β) cfg edges n = some out) :
    ∀ x, x < n →
      sidesOf (gt out.1 x) =
        specSides (specBest (bestSeq (fun e ids a k β => subStep e ids coord a k β) cfg.kOf)) cfg.m cfg.r
          { edges := edges, ids := List.range n } x :=
  fun x hx => (hierarchy _ cfg edges n hm hn hsrc hsmall (subStep_stepSpec coord n cfg.kOf hk) out h x hx).2

/-- In the hierarchy of the real step model, "the best bisection of a cell" is the property's: the reported
    sides come from an axis whose step result is `Tbx.Bisection.Valid` (C03: the minimum cut between the
    contracted ends with the inclusion-minimal source side), minimal in (flow, −balance, axis). -/
theorem best_is_valid_min (coord : Nat → Coord) (n : Nat) (kOf : Nat → Nat)
    (hk : ∀ s, 2 ≤ s → 1 ≤ kOf s ∧ 2 * kOf s ≤ s)
    (job : Job) (hjob : JobOK n job) (x : FlowRes)
    (h : bestSeq (fun e ids a k β => subStep e ids coord a k β) kOf job = .some x) :
    ∃ a, a < 4 ∧
      Tbx.Bisection.Valid job.edges (sortIds job.ids coord a) (kOf job.ids.length) x.flow x.left x.right ∧
      (∀ a', a' < 4 → ∀ y, subStep job.edges job.ids coord a' (kOf job.ids.length) job.ids.length = .ok y → ¬ Lt y x) ∧
      (∀ a', a' < a → ∀ y, subStep job.edges job.ids coord a' (kOf job.ids.length) job.ids.length = .ok y → Lt x y) := by
  obtain ⟨a, ha, hok, h1, h2⟩ := flowCmp_lex n _ kOf (subStep_stepSpec coord n kOf hk) job hjob x h
  obtain ⟨hk1, hk2⟩ := hk job.ids.length hjob.two
  exact ⟨a, ha, Tbx.Props.C03.sub_step_valid job.edges job.ids coord a _ _ x hjob.nodup hjob.two hk1 hk2
    (fun e he => hjob.src e he) hjob.small hok, h1, h2⟩

/-- totality of `Tbx.InertialFlow.subStep` on well-formed jobs: it completes under some bound and never
    reaches a panic / out-of-fuel branch (C03 `sub_step_total`, from C01/C02's total correctness of Dinic) -/
theorem subStep_total (coord : Nat → Coord) (n : Nat) (kOf : Nat → Nat)
    (hk : ∀ s, 2 ≤ s → 1 ≤ kOf s ∧ 2 * kOf s ≤ s) :
    StepTotal n (fun e ids a k β => subStep e ids coord a k β) kOf :=
  Tbx.Chipper.subStep_total coord n kOf hk

/-- `level_exact` for the real step model: if in every well-formed cell whose nodes all have
    an outgoing edge SOME axis has a cut of at most the cell's node count ("every cut stays below the cell's
    node count" of the property's domain, needed for one axis only), every id has level exactly r. -/
theorem level_exact_subStep (coord : Nat → Coord) (cfg : Cfg) (edges : List Chipper.Edge) (n : Nat)
    (hm : 1 ≤ cfg.m) (hn : 2 ≤ n) (hr : cfg.r ≤ 31) (hsrc : ∀ e ∈ edges, e.1 < n)
    (hsmall : 2 * edges.length + 6 < Tbx.Flow.INV)
    (hout : ∀ x, x < n → ∃ e ∈ edges, e.1 = x)
    (hk : ∀ s, 2 ≤ s → 1 ≤ cfg.kOf s ∧ 2 * cfg.kOf s ≤ s)
    (hcut : ∀ job, JobOK n job → JobFull job → ∃ a, a < 4 ∧ ∃ (β : Int) (r : FlowRes),
      subStep job.edges job.ids coord a (cfg.kOf job.ids.length) β = .ok r ∧ r.flow ≤ (job.ids.length : Int))
    (out : Array Nat × List (List Job))
    (h : chipper (fun e ids a k β => subStep e ids coord a k β) cfg edges n = some out) :
    ∀ x, x < n → pidLevel (gt out.1 x) = cfg.r := by
  have htotal := subStep_total coord n cfg.kOf hk
  apply level_exact _ cfg edges n hm hn hr hsrc hsmall hout (subStep_stepSpec coord n cfg.kOf hk) ?_ out h
  intro job hjob hfull
  obtain ⟨a, ha, β, r, hok, hle⟩ := hcut job hjob hfull
  obtain ⟨hk1, hk2⟩ := hk job.ids.length hjob.two
  have hpre := Tbx.Props.C03.preOK_sortIds job.edges job.ids coord a (cfg.kOf job.ids.length) hjob.nodup hjob.two
    hk1 hk2 (fun e he => hjob.src e he)
  have hok' := (Tbx.Props.C03.ok_bound_irrelevant job.edges _ _ hpre hjob.small β (job.ids.length : Int) r hok hle).1
  exact bestSeq_exists (fun a' ha' => htotal.2 job a' _ hjob ha' (Int.natCast_nonneg _)) ha hok'

/-- splits off the first id of the cell (flow 0) -/
def toyStep : Step := fun _ ids _ _ _ =>
  match ids with
  | x :: y :: rest => .ok { flow := 0, left := [x], right := y :: rest }
  | _ => .panic

theorem toyStep_spec (n : Nat) (kOf : Nat → Nat) : StepSpec n toyStep kOf where
  res := by
    intro job a β r hjob h
    unfold toyStep at h
    split at h
    · rename_i x y rest hids
      cases h
      refine ⟨⟨?_, ?_, ?_⟩, by simp, by simp⟩
      · simpa [hids] using hjob.nodup
      · intro z hz; rw [hids]; simpa using hz
      · intro e he; have := hjob.src e he; rw [hids] at this; simpa using this
    · cases h

theorem toyStep_ok {ids : List Nat} (h2 : 2 ≤ ids.length) :
    ∃ r : FlowRes, r.flow = 0 ∧ ∀ e a k β, toyStep e ids a k β = .ok r :=
  match ids, h2 with
  | x :: y :: rest, _ => ⟨{ flow := 0, left := [x], right := y :: rest }, rfl, fun _ _ _ _ => rfl⟩

/-- the side condition of `level_exact` holds for the toy step: every well-formed job gets a result -/
theorem toyStep_fin (n : Nat) (kOf : Nat → Nat) :
    ∀ job, JobOK n job → JobFull job → ∃ res, bestSeq toyStep kOf job = .some res := by
  intro job hjob _
  obtain ⟨r, _, hr⟩ := toyStep_ok hjob.two
  exact bestSeq_exists (fun a _ h => by rw [hr] at h; cases h) (Nat.zero_lt_succ 3) (hr _ 0 _ _)

def exCfg : Cfg := { r := 2, m := 1, kOf := fun _ => 1 }
def exEdges : List Chipper.Edge := [(0, 1), (1, 0), (1, 2), (2, 1), (2, 3), (3, 2)]

example : (chipper toyStep exCfg exEdges 4).map (fun o => o.1.toList) = some [4, 6, 7, 7] := by decide +kernel
example : ∀ e ∈ exEdges, e.1 < 4 := by decide +kernel
/-- `level_exact` and `hierarchy` applied to the concrete run -/
example (out : Array Nat × List (List Job)) (h : chipper toyStep exCfg exEdges 4 = some out) :
    ∀ x, x < 4 → pidLevel (gt out.1 x) = 2 :=
  level_exact toyStep exCfg exEdges 4 (by decide) (by decide) (by decide) (by decide) (by decide) (by decide)
    (toyStep_spec 4 _) (toyStep_fin 4 _) out h
example (out : Array Nat × List (List Job)) (h : chipper toyStep exCfg exEdges 4 = some out) :
    sidesOf (gt out.1 1) = specSides (specBest (bestSeq toyStep exCfg.kOf)) 1 2 { edges := exEdges, ids := List.range 4 } 1 :=
  (hierarchy toyStep exCfg exEdges 4 (by decide) (by decide) (by decide) (by decide) (toyStep_spec 4 _) out h 1 (by decide)).2
example : ∀ x, x < 4 → ∃ e ∈ exEdges, e.1 = x := by decide +kernel
example : pidLeftmostDescendant (idOfSides [true, false]) 3 = 2 ^ 5 + 2 * 2 ^ 3 ∧
    pidLevel (pidRightmostDescendant (idOfSides [true, false]) 3) = 5 := by decide +kernel
example : minBy [⟨2, [1], [2, 3]⟩, ⟨1, [1], [2, 3, 4]⟩, ⟨1, [1, 2], [3, 4]⟩, ⟨1, [3, 4], [1, 2]⟩] =
    some ⟨1, [1, 2], [3, 4]⟩ := by decide +kernel
example : specAll (specBest (bestSeq toyStep exCfg.kOf)) 1 2 { edges := exEdges, ids := [0, 1, 2, 3] } =
    [(0, [false, false]), (1, [true, false]), (2, [true, true]), (3, [true, true])] := by decide +kernel
example : cutEdges exEdges #[4, 6, 7, 7] = [(0, 1), (1, 0), (1, 2), (2, 1)] := by decide +kernel

end Tbx.Props.C05
