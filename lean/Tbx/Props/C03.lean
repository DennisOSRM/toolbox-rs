import Tbx.Proofs.InertialFlowTotal
import Tbx.Proofs.InertialFlowSort
import Tbx.Props.C02
/-
C03 — one inertial-flow bisection step returns a valid, minimum, balanced cut.

Registered in Tbx/Audit/C03.lean.

Spec: `Tbx.Bisection.Valid edges sorted k flow left right` (Spec/Bisection.lean).  Subject: the executable
model `Tbx.InertialFlow.subStepSorted` / `subStep` of `inertial_flow::sub_step` (Model/InertialFlow.lean).
The theorems are proved RELATIVE TO the C01/C02 theorems about the Dinic model — which are proved
(`Tbx.Flow.solvers_return_canonical_cut`: the run returns and its assignment is the canonical minimum cut; it enters
through `InertialFlow.solve_spec`), so nothing is left as a hypothesis.  The quantifier of the property is
`Bisection.preOK` (distinct ids, n ≥ 2, 1 ≤ k, 2k ≤ n, every edge's source in the cell; targets may lie outside) plus
`2·|edges| + 6 < usize::MAX`.
-/
namespace Tbx.Props.C03
open Tbx Tbx.Flow Tbx.FlowSpec Tbx.FlowTheory Tbx.InertialFlow Tbx.Bisection Tbx.BisectionCore
  Tbx.BisectionTheory

/-- a non-trivial instance used for non-vacuity:
six nodes 0..5 in key order, k = 2: first end {0,1}, last end {4,5}; the contraction merges 0→2 and 1→2
into capacity 2, the minimum cut is the single edge 2→3, which touches neither contracted end; node 9 is
outside the cell (edge 2→9), node 7 too (edge 3→7) -/
def exEdges : List (Nat × Nat) :=
  [(0,1),(1,0),(0,2),(1,2),(2,1),(2,3),(3,2),(3,4),(4,3),(3,5),(4,5),(5,4),(2,9),(3,7)]
def exIds : List Nat := [0,1,2,3,4,5]
def exRes : FlowRes := { flow := 1, left := [0,1,2], right := [3,4,5] }

theorem ex_ok : subStepSorted exEdges exIds 2 1000 = .ok exRes := by decide +kernel
theorem ex_pre : preOK exEdges exIds 2 = true := by decide
theorem ex_sz : 2 * exEdges.length + 6 < INV := by decide

/-- whenever the model of `sub_step` returns `Ok`, its result satisfies the whole
    statement of the property (disjoint, cover, ends, flow = #edges left→right, minimum, left minimal) -/
theorem step_valid (edges : List (Nat × Nat)) (sorted : List Nat) (k : Nat) (bound : Int)
    (hpre : preOK edges sorted k = true) (hsz : 2 * edges.length + 6 < INV) (r : FlowRes)
    (h : subStepSorted edges sorted k bound = .ok r) : Valid edges sorted k r.flow r.left r.right := by
  obtain ⟨r0, hv, _, hall⟩ := subStepSorted_spec edges sorted k hpre hsz
  rcases hall bound with h0 | h0
  · cases h.symm.trans h0; exact hv
  · cases h.symm.trans h0

example : Valid exEdges exIds 2 1 [0,1,2] [3,4,5] := step_valid exEdges exIds 2 1000 ex_pre ex_sz exRes ex_ok

theorem ends (edges : List (Nat × Nat)) (sorted : List Nat) (k : Nat) (bound : Int)
    (hpre : preOK edges sorted k = true) (hsz : 2 * edges.length + 6 < INV) (r : FlowRes)
    (h : subStepSorted edges sorted k bound = .ok r) :
    (∀ x, x ∈ sorted.take k → x ∈ r.left) ∧ (∀ x, x ∈ sorted.drop (sorted.length - k) → x ∈ r.right) :=
  let v := step_valid edges sorted k bound hpre hsz r h
  ⟨v.endsL, v.endsR⟩

example : (∀ x, x ∈ exIds.take 2 → x ∈ exRes.left) := (ends exEdges exIds 2 1000 ex_pre ex_sz exRes ex_ok).1

/-- left ∩ right = ∅ and left ∪ right = exactly the cell ids that were contracted or are
    touched by an edge -/
theorem partition (edges : List (Nat × Nat)) (sorted : List Nat) (k : Nat) (bound : Int)
    (hpre : preOK edges sorted k = true) (hsz : 2 * edges.length + 6 < INV) (r : FlowRes)
    (h : subStepSorted edges sorted k bound = .ok r) :
    (∀ x, x ∈ r.left → x ∉ r.right) ∧
    (∀ x, (x ∈ r.left ∨ x ∈ r.right) ↔
      (x ∈ sorted ∧ (x ∈ sorted.take k ∨ x ∈ sorted.drop (sorted.length - k) ∨ touched edges x = true))) :=
  let v := step_valid edges sorted k bound hpre hsz r h
  ⟨v.disjoint, v.cover⟩

example : ∀ x, x ∈ exRes.left → x ∉ exRes.right := (partition exEdges exIds 2 1000 ex_pre ex_sz exRes ex_ok).1

/-- the exact rational the judge holds the reported balance against: `balanceNum r / balanceDen r` is
    min(|L|,|R|) / (|L|+|R|) of the returned lists, by definition.  The model has no balance field: the f64 the
    code returns is compared by the judge with the correctly rounded quotient (`Bisection.balanceBits`) -/
theorem balance_eq (r : FlowRes) :
    balanceNum r = min r.left.length r.right.length ∧ balanceDen r = r.left.length + r.right.length :=
  ⟨rfl, rfl⟩

example : balanceNum exRes = 3 ∧ balanceDen exRes = 6 := by decide

/-- after the renumbering loop the table maps exactly the first end to 0, exactly the last
    end to 1, every other bound id injectively into [2, current_id); it binds exactly the contracted ids
    and the end points of edges; and the edge list handed to `Dinic::from_edge_list` is the contracted
    cell graph of this renumbering (unit capacities, self-loops dropped) -/
theorem renumber_inj (edges : List (Nat × Nat)) (sorted : List Nat) (k : Nat)
    (hnd : sorted.Nodup) (hk : 2 * k ≤ sorted.length) :
    let p := prep edges sorted k
    (∀ x, p.table.find x = some 0 ↔ x ∈ sorted.take k) ∧
    (∀ x, p.table.find x = some 1 ↔ x ∈ sorted.drop (sorted.length - k)) ∧
    (∀ x q, p.table.find x = some q → q < p.curId) ∧
    (∀ x y q, 2 ≤ q → p.table.find x = some q → p.table.find y = some q → x = y) ∧
    (∀ y, p.table.containsKey y = true ↔
      (y ∈ sorted.take k ∨ y ∈ sorted.drop (sorted.length - k) ∨ touched edges y = true)) ∧
    p.edges.map toE = contractBy p.table.get edges ∧ p.curId ≤ 2 + 2 * edges.length := by
  intro p
  have hdisj := take_drop_disjoint sorted k hnd hk
  obtain ⟨tw, dom, _, hcur⟩ := prep_table edges sorted k hdisj
  exact ⟨tw.zero, tw.one, tw.lt, tw.inj, dom, prep_edges edges sorted k hdisj, hcur⟩

example : (prep exEdges exIds 2).curId = 6 ∧ (prep exEdges exIds 2).table.get 9 = 4 := by decide +kernel

/-- the reported flow equals the number of input edges leading from the left set to the
    right set — the property's sentence, literally.  Edges to nodes outside the cell never count: an
    outside node has no outgoing edge, so the left set with all outside nodes added is a side whose cut is the
    cell edges leaving the left set, each of them a cut edge of the minimum cut (`BisectionCore.valid_of_mincut`);
    hence the flow also equals the number of edges from the left set to cell nodes that are not in the left set -/
theorem flow_counts (edges : List (Nat × Nat)) (sorted : List Nat) (k : Nat) (bound : Int)
    (hpre : preOK edges sorted k = true) (hsz : 2 * edges.length + 6 < INV) (r : FlowRes)
    (h : subStepSorted edges sorted k bound = .ok r) :
    r.flow = (crossLR edges r.left r.right : Int) ∧
    r.flow = (crossCell edges sorted (fun x => r.left.contains x) : Int) := by
  have v := step_valid edges sorted k bound hpre hsz r h
  exact ⟨v.flowCounts, by rw [v.flowCounts, crossLR_eq_crossCell v.disjoint v.cover]⟩

example : (1 : Int) = (crossLR exEdges [0,1,2] [3,4,5] : Int) :=
  (flow_counts exEdges exIds 2 1000 ex_pre ex_sz exRes ex_ok).1

/-- the reported flow is the minimum, over ALL sides `L` of the cell that contain the
    first end and avoid the last end, of the number of cell edges leaving `L` -/
theorem flow_minimal (edges : List (Nat × Nat)) (sorted : List Nat) (k : Nat) (bound : Int)
    (hpre : preOK edges sorted k = true) (hsz : 2 * edges.length + 6 < INV) (r : FlowRes)
    (h : subStepSorted edges sorted k bound = .ok r) (L : Nat → Bool)
    (hL0 : ∀ x, x ∈ sorted.take k → L x = true)
    (hL1 : ∀ x, x ∈ sorted.drop (sorted.length - k) → L x = false) :
    r.flow ≤ (crossCell edges sorted L : Int) :=
  (step_valid edges sorted k bound hpre hsz r h).minimal L hL0 hL1

/-- e.g. the side {0,1} alone has two leaving edges -/
example : (1 : Int) ≤ (crossCell exEdges exIds (fun x => x < 2) : Int) :=
  flow_minimal exEdges exIds 2 1000 ex_pre ex_sz exRes ex_ok (fun x => x < 2) (by decide) (by decide)

theorem left_minimal (edges : List (Nat × Nat)) (sorted : List Nat) (k : Nat) (bound : Int)
    (hpre : preOK edges sorted k = true) (hsz : 2 * edges.length + 6 < INV) (r : FlowRes)
    (h : subStepSorted edges sorted k bound = .ok r) (L : Nat → Bool)
    (hL0 : ∀ x, x ∈ sorted.take k → L x = true)
    (hL1 : ∀ x, x ∈ sorted.drop (sorted.length - k) → L x = false)
    (heq : (crossCell edges sorted L : Int) = r.flow) : ∀ x, x ∈ r.left → L x = true :=
  (step_valid edges sorted k bound hpre hsz r h).leftMinimal L hL0 hL1 heq

/-- the side {0,1,2} attains the minimum (one leaving edge), and indeed contains the left set -/
example : ∀ x, x ∈ exRes.left → decide (x < 3) = true :=
  left_minimal exEdges exIds 2 1000 ex_pre ex_sz exRes ex_ok (fun x => x < 3) (by decide) (by decide) (by decide)

/-- `run_with_upper_bound(b)` with `b` ≥ the final flow performs exactly the
    unbounded `run` and publishes the flow (`fetch_min`) -/
theorem run_bounded_eq_run (es : List Edge) (s t : Nat) (hnn : ∀ e, e ∈ es → 0 ≤ e.cap) (hst : s ≠ t)
    (hN : nNodes (es.map toE) + 2 < INV) (d : Dinic) (hd : Dinic.fromEdgeList es s t = some d)
    (fuel : Nat) (d' : Dinic) (h : d.run fuel = some d') (bound : Int) (hle : d'.maxFlow ≤ bound) :
    runBounded d fuel bound = some (d', min bound d'.maxFlow) :=
  let ⟨_, hr, heq⟩ := runBounded_of_run es s t hnn hst hN d hd fuel d' h bound
  heq hle ▸ hr

example : ((Dinic.fromEdgeList Props.C02.d1Edges 0 4).bind fun d => (runBounded d 100 10).map (·.2)) = some 10 := by
  decide +kernel

/-- a bounded run either aborts (`finished` stays false — `max_flow()` is `Err` —
    and the bound is untouched) or is the unbounded run, lowers the bound to the flow, and (for a
    non-negative bound) its flow does not exceed the bound -/
theorem run_bounded_cases (d : Dinic) (hf : d.finished = false) (fuel : Nat) (bound : Int) (d' : Dinic)
    (b' : Int) (h : runBounded d fuel bound = some (d', b')) :
    (d'.finished = false ∧ b' = bound) ∨
    (d'.finished = true ∧ d.run fuel = some d' ∧ b' = min bound d'.maxFlow ∧
      (0 ≤ bound → d'.maxFlow ≤ bound)) :=
  runBounded_spec d hf fuel bound d' b' h

/-- with bound 2 the run on D1's witness (flow 10) is aborted after the first phase -/
example : ((Dinic.fromEdgeList Props.C02.d1Edges 0 4).bind fun d => (runBounded d 100 2).map
    fun r => (r.1.finished, r.2)) = some (false, 2) := by decide +kernel

/-- coordinates for the example: node i at (lat, lon) = (10·i, 3·i), ids given in shuffled order -/
def exCoord : Nat → Coord := fun i => { lat := 10 * i, lon := 3 * i }
def exShuffled : List Nat := [3,0,5,1,4,2]
theorem ex_sub : subStep exEdges exShuffled exCoord 2 2 1000 = .ok exRes := by
  have h : sortIds exShuffled exCoord 2 = exIds := by decide +kernel
  rw [subStep, h]; exact ex_ok

theorem ok_flow_le_bound (edges : List (Nat × Nat)) (ids : List Nat) (coord : Nat → Coord) (axis k : Nat)
    (b : Int) (hb : 0 ≤ b) (r : FlowRes) (h : subStep edges ids coord axis k b = .ok r) : r.flow ≤ b := by
  obtain ⟨flow, bits, b1, hs, rfl, _⟩ := subStepSorted_ok h
  exact solve_flow_le _ b hb flow bits b1 hs

example : exRes.flow ≤ 1000 := ok_flow_le_bound exEdges exShuffled exCoord 2 2 1000 (by decide) exRes ex_sub

/-- the result does not depend on the bound as long as the bound is at least the
    flow; the bound afterwards is min(bound, flow) -/
theorem ok_bound_irrelevant (edges : List (Nat × Nat)) (sorted : List Nat) (k : Nat)
    (hpre : preOK edges sorted k = true) (hsz : 2 * edges.length + 6 < INV) (b b' : Int) (r : FlowRes)
    (h : subStepSorted edges sorted k b = .ok r) (hle : r.flow ≤ b') :
    subStepSorted edges sorted k b' = .ok r ∧ boundAfter edges sorted k b' = min b' r.flow := by
  obtain ⟨r0, _, hge, hall⟩ := subStepSorted_spec edges sorted k hpre hsz
  unfold subStepSorted boundAfter
  rcases hall b with h0 | h0
  · cases h.symm.trans h0
    rw [hge b' hle]
    exact ⟨rfl, rfl⟩
  · cases h.symm.trans h0

example : subStepSorted exEdges exIds 2 1 = .ok exRes :=
  (ok_bound_irrelevant exEdges exIds 2 ex_pre ex_sz 1000 1 exRes ex_ok (by decide)).1

theorem aborted_flow_gt_bound (edges : List (Nat × Nat)) (sorted : List Nat) (k : Nat)
    (hpre : preOK edges sorted k = true) (hsz : 2 * edges.length + 6 < INV) (b b' : Int) (r : FlowRes)
    (ha : subStepSorted edges sorted k b = .aborted) (h : subStepSorted edges sorted k b' = .ok r) :
    b < r.flow := by
  by_contra hn
  have := (ok_bound_irrelevant edges sorted k hpre hsz b' b r h (by omega)).1
  rw [ha] at this; cases this

example : subStepSorted exEdges exIds 2 0 = .aborted := by decide +kernel

theorem sides_nonempty (edges : List (Nat × Nat)) (ids : List Nat) (coord : Nat → Coord) (axis k : Nat)
    (b : Int) (r : FlowRes) (h : subStep edges ids coord axis k b = .ok r) : r.left ≠ [] ∧ r.right ≠ [] :=
  let s := subStepSorted_sides edges _ k b r h
  ⟨s.1, s.2.1⟩

example : exRes.left ≠ [] ∧ exRes.right ≠ [] := sides_nonempty exEdges exShuffled exCoord 2 2 1000 exRes ex_sub

theorem sides_nodup_subset (edges : List (Nat × Nat)) (ids : List Nat) (coord : Nat → Coord) (axis k : Nat)
    (b : Int) (r : FlowRes) (hnd : ids.Nodup) (h : subStep edges ids coord axis k b = .ok r) :
    (r.left ++ r.right).Nodup ∧ ∀ x, x ∈ r.left ++ r.right → x ∈ ids := by
  obtain ⟨_, _, sl, sr, hd⟩ := subStepSorted_sides edges _ k b r h
  have hp := sortIds_perm ids coord axis
  have hnd' : (sortIds ids coord axis).Nodup := hp.nodup_iff.mpr hnd
  refine ⟨List.nodup_append.mpr ⟨sl.nodup hnd', sr.nodup hnd', ?_⟩, ?_⟩
  · intro x hx y hy hxy; subst hxy; exact hd x hx hy
  · intro x hx
    rcases List.mem_append.mp hx with h' | h'
    · exact hp.mem_iff.mp (sl.subset h')
    · exact hp.mem_iff.mp (sr.subset h')

example : (exRes.left ++ exRes.right).Nodup :=
  (sides_nodup_subset exEdges exShuffled exCoord 2 2 1000 exRes (by decide) ex_sub).1

/-- the quantifier of the property for `subStep`, from facts about the unsorted id list -/
theorem preOK_sortIds (edges : List (Nat × Nat)) (ids : List Nat) (coord : Nat → Coord) (axis k : Nat)
    (hnd : ids.Nodup) (hn : 2 ≤ ids.length) (hk1 : 1 ≤ k) (hk2 : 2 * k ≤ ids.length)
    (hsrc : ∀ e, e ∈ edges → e.1 ∈ ids) : preOK edges (sortIds ids coord axis) k = true := by
  have hp := sortIds_perm ids coord axis
  rw [preOK_iff, hp.length_eq]
  exact ⟨hp.nodup_iff.mpr hnd, hn, hk1, hk2, fun e he => hp.mem_iff.mpr (hsrc e he)⟩

example : preOK exEdges (sortIds exShuffled exCoord 2) 2 = true :=
  preOK_sortIds exEdges exShuffled exCoord 2 2 (by decide) (by decide) (by decide) (by decide) (by decide)

theorem sides_cover (edges : List (Nat × Nat)) (ids : List Nat) (coord : Nat → Coord) (axis k : Nat)
    (b : Int) (r : FlowRes) (hnd : ids.Nodup) (hn : 2 ≤ ids.length) (hk1 : 1 ≤ k)
    (hk2 : 2 * k ≤ ids.length) (hsrc : ∀ e, e ∈ edges → e.1 ∈ ids) (hsz : 2 * edges.length + 6 < INV)
    (h : subStep edges ids coord axis k b = .ok r) :
    ∀ x, x ∈ r.left ++ r.right ↔
      (x ∈ ids ∧ (x ∈ (sortIds ids coord axis).take k ∨
        x ∈ (sortIds ids coord axis).drop (ids.length - k) ∨ touched edges x = true)) := by
  intro x
  have hp := sortIds_perm ids coord axis
  have v := step_valid edges _ k b (preOK_sortIds edges ids coord axis k hnd hn hk1 hk2 hsrc) hsz r h
  rw [List.mem_append, v.cover x, hp.mem_iff]
  unfold firstK lastK
  rw [hp.length_eq]

/-- node 2 is not contracted but touched by an edge: it is in one of the lists -/
example : 2 ∈ exRes.left ++ exRes.right :=
  (sides_cover exEdges exShuffled exCoord 2 2 1000 exRes (by decide) (by decide) (by decide) (by decide)
    (by decide) ex_sz ex_sub 2).mpr (by decide +kernel)

theorem sub_step_valid (edges : List (Nat × Nat)) (ids : List Nat) (coord : Nat → Coord) (axis k : Nat)
    (b : Int) (r : FlowRes) (hnd : ids.Nodup) (hn : 2 ≤ ids.length) (hk1 : 1 ≤ k)
    (hk2 : 2 * k ≤ ids.length) (hsrc : ∀ e, e ∈ edges → e.1 ∈ ids) (hsz : 2 * edges.length + 6 < INV)
    (h : subStep edges ids coord axis k b = .ok r) :
    Valid edges (sortIds ids coord axis) k r.flow r.left r.right :=
  step_valid edges _ k b (preOK_sortIds edges ids coord axis k hnd hn hk1 hk2 hsrc) hsz r h

example : Valid exEdges (sortIds exShuffled exCoord 2) 2 1 [0,1,2] [3,4,5] :=
  sub_step_valid exEdges exShuffled exCoord 2 2 1000 exRes (by decide) (by decide) (by decide) (by decide)
    (by decide) ex_sz ex_sub

/-- `sort_unstable_by_key` may return any key-sorted permutation; when the keys of the
    ids are pairwise distinct there is only one, the list `sortIds` computes — so `subStep` is then THE
    result the Rust has to produce -/
theorem sort_unique (ids : List Nat) (coord : Nat → Coord) (axis : Nat) (l : List Nat)
    (hperm : l.Perm ids) (hsorted : l.Pairwise (fun a b => axisKey axis (coord a) ≤ axisKey axis (coord b)))
    (hdist : ∀ a b, a ∈ ids → b ∈ ids → axisKey axis (coord a) = axisKey axis (coord b) → a = b) :
    l = sortIds ids coord axis := by
  have hp := sortIds_perm ids coord axis
  exact List.Perm.eq_of_pairwise (le := fun a b => axisKey axis (coord a) ≤ axisKey axis (coord b))
    (fun a b ha hb h1 h2 => hdist a b (hperm.mem_iff.mp ha) (hp.mem_iff.mp hb) (Int.le_antisymm h1 h2)) hsorted
    (sortIds_sorted ids coord axis) (hperm.trans hp.symm)

example : [0,1,2,3,4,5] = sortIds exShuffled exCoord 2 :=
  sort_unique exShuffled exCoord 2 [0,1,2,3,4,5] (by decide) (by decide +kernel)
    (by
      intro a b ha hb h
      simp only [axisKey, exCoord] at h
      omega)
example : sortIds exShuffled exCoord 3 = [0,1,2,3,4,5] := by decide +kernel

/-- on the property's quantifier the model never reaches a panic branch and never runs out
    of fuel (`phaseFuel` = |flow-graph edges| + 2 suffices), whatever the bound; and there is ONE result
    `r`, `0 ≤ r.flow`, that the step returns for every bound ≥ r.flow, leaving min(bound, flow) in the
    shared bound.  From the total correctness of the Dinic model (C01/C02:
    `Tbx.Flow.solvers_return_canonical_cut`), lifted to the bounded phase loop -/
theorem step_total (edges : List (Nat × Nat)) (sorted : List Nat) (k : Nat)
    (hpre : preOK edges sorted k = true) (hsz : 2 * edges.length + 6 < INV) :
    (∀ b : Int, subStepSorted edges sorted k b ≠ .panic) ∧
    ∃ r : FlowRes, 0 ≤ r.flow ∧ ∀ b : Int, r.flow ≤ b →
      subStepSorted edges sorted k b = .ok r ∧ boundAfter edges sorted k b = min b r.flow := by
  obtain ⟨r, hv, hge, hall⟩ := subStepSorted_spec edges sorted k hpre hsz
  refine ⟨fun b hp => ?_, r, by rw [hv.flowCounts]; omega, fun b hb => ?_⟩
  · rcases hall b with h0 | h0
    · cases hp.symm.trans h0
    · cases hp.symm.trans h0
  · unfold subStepSorted boundAfter
    rw [hge b hb]
    exact ⟨rfl, rfl⟩

example : ∀ b : Int, subStepSorted exEdges exIds 2 b ≠ .panic := (step_total exEdges exIds 2 ex_pre ex_sz).1

/-- the form C05/C06 use: for distinct ids, n ≥ 2, 1 ≤ k, 2k ≤ n, sources in the
    cell: some non-negative bound yields `Ok` with a non-negative flow, and no non-negative (indeed no)
    bound yields a panic -/
theorem sub_step_total (edges : List (Nat × Nat)) (ids : List Nat) (coord : Nat → Coord) (axis k : Nat)
    (hnd : ids.Nodup) (hn : 2 ≤ ids.length) (hk1 : 1 ≤ k) (hk2 : 2 * k ≤ ids.length)
    (hsrc : ∀ e, e ∈ edges → e.1 ∈ ids) (hsz : 2 * edges.length + 6 < INV) :
    (∃ (b : Int) (r : FlowRes), 0 ≤ b ∧ 0 ≤ r.flow ∧ subStep edges ids coord axis k b = .ok r) ∧
    (∀ b : Int, subStep edges ids coord axis k b ≠ .panic) := by
  obtain ⟨hnp, r, h0, hr⟩ := step_total edges (sortIds ids coord axis) k
    (preOK_sortIds edges ids coord axis k hnd hn hk1 hk2 hsrc) hsz
  exact ⟨⟨r.flow, r, h0, h0, (hr r.flow (Int.le_refl _)).1⟩, hnp⟩

example : ∃ (b : Int) (r : FlowRes), 0 ≤ b ∧ 0 ≤ r.flow ∧ subStep exEdges exShuffled exCoord 2 2 b = .ok r :=
  (sub_step_total exEdges exShuffled exCoord 2 2 (by decide) (by decide) (by decide) (by decide) (by decide)
    ex_sz).1

/-- whatever the judge's executable check accepts — on the REAL output of every
    executed case — satisfies the property's statement -/
theorem checker_sound (edges : List (Nat × Nat)) (sorted : List Nat) (k : Nat) (flow : ℤ)
    (left right : List Nat) (res : List E) (tree : List (Nat × Nat))
    (h : checkerOK edges sorted k flow left right res tree = true) :
    Valid edges sorted k flow left right :=
  BisectionTheory.checker_sound edges sorted k flow left right res tree h

/-- a residual graph of a maximum flow of the example's contracted graph, and a reachability tree -/
def exResidual : List E :=
  [(0,4,1),(1,5,2),(4,0,2),(4,5,0),(4,11,1),(5,1,1),(5,4,2),(5,9,1),(9,5,0),(11,4,0)]
def exTree : List (Nat × Nat) := [(0,4),(4,11)]
example : contract (firstK exIds 2) (lastK exIds 2) exEdges =
    [(0,4,1),(0,4,1),(4,0,1),(4,5,1),(5,4,1),(5,1,1),(1,5,1),(5,1,1),(4,11,1),(5,9,1)] := by decide +kernel
theorem ex_checker : checkerOK exEdges exIds 2 1 [0,1,2] [3,4,5] exResidual exTree = true := by decide +kernel
example : checkerOK exEdges exIds 2 1 [0,1,2] [3,4,5] exResidual exTree = true := ex_checker
/-- {0,1,2,3} is rejected: not a minimum cut -/
example : checkerOK exEdges exIds 2 1 [0,1,2,3] [4,5] exResidual exTree = false := by decide +kernel
/-- {0,1} with flow 3 is rejected: not the maximum flow -/
example : checkerOK exEdges exIds 2 3 [0,1] [2,3,4,5] exResidual exTree = false := by decide +kernel

/-- the check the judge executes (`checkerFast`, tabulated capacities) is `checkerOK` -/
theorem judge_check_eq (edges : List (Nat × Nat)) (sorted : List Nat) (k : Nat) (flow : ℤ)
    (left right : List Nat) (res : List E) (tree : List (Nat × Nat)) :
    checkerFast edges sorted k flow left right res tree = checkerOK edges sorted k flow left right res tree :=
  checkerFast_eq edges sorted k flow left right res tree

example : checkerFast exEdges exIds 2 1 [0,1,2] [3,4,5] exResidual exTree = true :=
  (judge_check_eq ..).trans ex_checker

/-- the certificate part alone (Finset level, same shape as C02's `minCutOK_sound`) -/
theorem cut_cert_sound (es : List E) (s t : Nat) (res : List E) (x : ℤ) (inA : Nat → Bool)
    (tree : List (Nat × Nat)) (h : cutCertOK es s t res x inA tree = true) :
    ∃ (hs : s < nNodes es) (ht : t < nNodes es),
      IsMaxFlowValue (cF es (nNodes es)) ⟨s, hs⟩ ⟨t, ht⟩ x ∧
      ⟨s, hs⟩ ∈ setOf (nNodes es) inA ∧ ⟨t, ht⟩ ∉ setOf (nNodes es) inA ∧
      cutCap (cF es (nNodes es)) (setOf (nNodes es) inA) = x ∧
      (∀ S' : Finset (Fin (nNodes es)), ⟨s, hs⟩ ∈ S' → ⟨t, ht⟩ ∉ S' →
        cutCap (cF es (nNodes es)) (setOf (nNodes es) inA) ≤ cutCap (cF es (nNodes es)) S') ∧
      (∀ S' : Finset (Fin (nNodes es)), ⟨s, hs⟩ ∈ S' → ⟨t, ht⟩ ∉ S' →
        cutCap (cF es (nNodes es)) S' = x → setOf (nNodes es) inA ⊆ S') :=
  let ⟨hs, ht, hm, c⟩ := cutCertOK_sound es s t res x inA tree h
  ⟨hs, ht, hm, c.src, c.tgt, c.val, c.min, c.canon⟩

/-- the example's certificate (the Finset-level facts then hold for the contracted graph) -/
theorem ex_cert : cutCertOK (contract (firstK exIds 2) (lastK exIds 2) exEdges) 0 1 exResidual 1
    (sideOf exEdges exIds 2 [0,1,2]) exTree = true := by
  -- the certificate is the last conjunct of the accepted check; the contracted graph is not empty
  have h := ex_checker
  simp only [checkerOK, Bool.and_eq_true] at h
  rw [← h.2, if_neg (by decide)]
example : ∃ (hs : 0 < nNodes (contract (firstK exIds 2) (lastK exIds 2) exEdges))
    (ht : 1 < nNodes (contract (firstK exIds 2) (lastK exIds 2) exEdges)),
    IsMaxFlowValue (cF (contract (firstK exIds 2) (lastK exIds 2) exEdges)
      (nNodes (contract (firstK exIds 2) (lastK exIds 2) exEdges))) ⟨0, hs⟩ ⟨1, ht⟩ 1 :=
  let ⟨hs, ht, h, _⟩ := cut_cert_sound _ 0 1 exResidual 1 _ exTree ex_cert
  ⟨hs, ht, h⟩

/-- the tabulated certificate check the judge executes is the reference one -/
theorem judge_checker_eq (es : List E) (s t : Nat) (res : List E) (x : ℤ) (inA : Nat → Bool)
    (tree : List (Nat × Nat)) : cutCertFast es s t res x inA tree = cutCertOK es s t res x inA tree :=
  cutCertFast_eq es s t res x inA tree

example : cutCertFast (contract (firstK exIds 2) (lastK exIds 2) exEdges) 0 1 exResidual 1
    (sideOf exEdges exIds 2 [0,1,2]) exTree = true := by rw [judge_checker_eq]; exact ex_cert

/-- two accepted outputs for the same cell are the same flow and the same left set: what the D-line
    comparison between code and model relies on -/
theorem accepted_agree (edges : List (Nat × Nat)) (sorted : List Nat) (k : Nat) (f1 f2 : ℤ)
    (l1 r1 l2 r2 : List Nat) (v1 : Valid edges sorted k f1 l1 r1) (v2 : Valid edges sorted k f2 l2 r2) :
    f1 = f2 ∧ (∀ x, x ∈ l1 ↔ x ∈ l2) ∧ (∀ x, x ∈ r1 ↔ x ∈ r2) := by
  obtain ⟨h12, k12⟩ := v1.le v2
  obtain ⟨h21, k21⟩ := v2.le v1
  have hf := Int.le_antisymm h12 h21
  exact ⟨hf, fun x => ⟨(k12 hf).1 x, (k21 hf.symm).1 x⟩, fun x => ⟨(k21 hf.symm).2 x, (k12 hf).2 x⟩⟩

/-- the model's result and what the checker accepts for the example cell agree (they are both `Valid`) -/
example : (1 : ℤ) = 1 ∧ (∀ x, x ∈ exRes.left ↔ x ∈ [0,1,2]) ∧ (∀ x, x ∈ exRes.right ↔ x ∈ [3,4,5]) :=
  accepted_agree exEdges exIds 2 1 1 exRes.left exRes.right [0,1,2] [3,4,5]
    (step_valid exEdges exIds 2 1000 ex_pre ex_sz exRes ex_ok)
    (checker_sound exEdges exIds 2 1 [0,1,2] [3,4,5] exResidual exTree ex_checker)

/- Defect D22 (fixed in /repo): cells whose flow graph is empty, nodes outside the flow graph.
Before the fix `sub_step` handed the empty edge list to `Dinic::from_edge_list` (debug_assert / index panic)
and indexed the assignment with solver ids beyond the flow graph.  The model mirrors the fixed code; the
three witnesses of corpus/C03/d22-*.case: -/

/-- (a) two nodes, no edges: no solver runs (the constructor would refuse the list), flow 0 -/
example : (prep [] [0,1] 1).edges = [] ∧ Dinic.fromEdgeList (prep [] [0,1] 1).edges 0 1 = none ∧
    subStepSorted [] [0,1] 1 1000 = .ok { flow := 0, left := [0], right := [1] } ∧
    boundAfter [] [0,1] 1 1000 = 0 := by decide +kernel

/-- (b) all edges inside the two contracted ends, the middle node in neither set -/
example : subStepSorted [(0,1),(1,0),(3,4),(4,3)] [0,1,2,3,4] 2 1000 =
    .ok { flow := 0, left := [0,1], right := [3,4] } := by decide +kernel

/-- (c) node 1 has only a self-loop: solver id 2 lies outside the 2-node flow graph, it goes right -/
example : subStepSorted [(1,1),(0,2)] [0,1,2] 1 1000 = .ok { flow := 1, left := [0], right := [1,2] } := by
  decide +kernel
example : Valid [(1,1),(0,2)] [0,1,2] 1 1 [0] [1,2] :=
  step_valid [(1,1),(0,2)] [0,1,2] 1 1000 (by decide) (by decide) { flow := 1, left := [0], right := [1,2] }
    (by decide +kernel)

end Tbx.Props.C03
