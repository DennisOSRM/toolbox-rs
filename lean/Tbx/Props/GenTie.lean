import Tbx.Gen.Fns
import Tbx.Model.PartitionID
import Tbx.Model.Cross
import Tbx.Model.BBox
/-
Ties the hand-written models (about which the property theorems of C19/C20 are proved) to the
definitions that tools/translate.py regenerates from the Rust source on every run: on the domain where
Rust's fixed-width arithmetic does not wrap, hand model and generated text denote the same function.
An edit of the Rust source that changes the function breaks these theorems at build time.
-/
namespace Tbx.Props.GenTie
open Tbx.Gen

theorem pid_parent (x : Nat) : PartitionID.parent x = pidParent x := rfl

theorem pid_left_child (x : Nat) (h : x < 2 ^ 31) : PartitionID.leftChild x = pidLeftChild x := by
  simp only [PartitionID.leftChild, pidLeftChild, PartitionID.U32, Nat.shiftLeft_eq]
  omega

theorem pid_right_child (x : Nat) (h : x < 2 ^ 31) : PartitionID.rightChild x = pidRightChild x := by
  simp only [PartitionID.rightChild, pidRightChild, PartitionID.U32, Nat.shiftLeft_eq]
  omega

theorem pid_is_left (x : Nat) : PartitionID.isLeftChild x = pidIsLeftChild x := rfl
theorem pid_is_right (x : Nat) : PartitionID.isRightChild x = pidIsRightChild x := rfl

theorem pid_level (x : Nat) (h1 : 1 ≤ x) (h2 : x < 2 ^ 32) : PartitionID.level x = some (pidLevel x) := by
  have hl : Nat.log2 x < 32 := (Nat.log2_lt (by omega)).mpr h2
  have hz : PartitionID.leadingZeros x = 31 - Nat.log2 x := by
    simp only [PartitionID.leadingZeros]; rw [if_neg (by omega)]
  have hg : leadingZeros32 x = 31 - Nat.log2 x := by
    simp only [leadingZeros32]; rw [if_neg (by omega)]
  simp only [PartitionID.level, pidLevel, hz, hg]
  rw [if_pos (by omega)]

theorem pid_leftmost (x k : Nat) (hk : k < 32) (h : x * 2 ^ k < 2 ^ 32) :
    PartitionID.makeLeftmostDescendant x k = some (pidLeftmostDescendant x k) := by
  simp only [PartitionID.makeLeftmostDescendant, pidLeftmostDescendant, PartitionID.U32, Nat.shiftLeft_eq, hk, if_true]
  congr 1
  exact Nat.mod_eq_of_lt (by simpa using h)

/-- the hull model's turn test is the generated `is_clock_wise_turn` (unbounded integers on both sides;
    that the i64 arithmetic of the Rust does not overflow on valid coordinates is
    `Tbx.Props.GenFns.cross_product_fits_i64`) -/
theorem cross_model_eq_gen (o a b : Geo.Coord) :
    Geo.isCW o a b = isClockWiseTurn o.lat o.lon a.lat a.lon b.lat b.lon := by
  simp only [Geo.isCW, isClockWiseTurn]

theorem bbox_contains_model_eq_gen (b : Geo.BoxCorners) (q : Geo.Coord) :
    Geo.boxContains b q = bboxContains b.minLat b.minLon b.maxLat b.maxLon q.lat q.lon := by
  simp only [Geo.boxContains, bboxContains]

end Tbx.Props.GenTie
