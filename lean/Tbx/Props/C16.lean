import Tbx.Proofs.C16Cycle
import Tbx.Proofs.C16KruskalMin
import Tbx.Proofs.C16TarjanTotal
import Tbx.Proofs.C16GabowTotal
import Tbx.Proofs.C16Csr
/-
C16 — component, cycle and spanning-tree analyses agree with their definitions: the property
theorems, each from the lemmas of Tbx/Proofs/C16*.lean, with their non-vacuity and regression examples.
-/
namespace Tbx.Props.C16
open Tbx Tbx.Csr Tbx.Comp

/-! ## a run on a used object equals a run on a fresh object (D11, D12) -/

/-- `Tarjan::run` clears `dfs_state` and `tarjan_stack` first: whatever an earlier run left in the
    object, labels AND the state left behind are those of a fresh object. -/
theorem tarjan_rerun_eq_fresh (s : Tarjan.State) (g : Graph) :
    Tarjan.run s g = Tarjan.run Tarjan.State.fresh g := rfl

/-- same for `PathBasedScc::run` (bounds, stack, component re-initialised; `scc` cleared, then resized) -/
theorem gabow_rerun_eq_fresh (s : Gabow.State) (g : Graph) :
    Gabow.run s g = Gabow.run Gabow.State.fresh g := rfl

/-- any history of runs on one object: every run returns what a fresh object returns -/
theorem tarjan_history_eq_fresh (s : Tarjan.State) (gs : List Graph) (s' : Tarjan.State)
    (ls : List (Array Nat)) (h : Tarjan.runSeq s gs = some (s', ls)) :
    ls.length = gs.length ∧
    ∀ i (hi : i < gs.length) (hl : i < ls.length), ∃ t, Tarjan.run Tarjan.State.fresh gs[i] = some (t, ls[i]) :=
  history_eq_fresh Tarjan.run Tarjan.runSeq _ (fun _ => rfl)
    (fun s g gs => by
      rw [Tarjan.runSeq]
      rcases Tarjan.run s g with _ | ⟨s1, a⟩
      · rfl
      · dsimp only; cases Tarjan.runSeq s1 gs <;> rfl)
    tarjan_rerun_eq_fresh s gs s' ls h

theorem gabow_history_eq_fresh (s : Gabow.State) (gs : List Graph) (s' : Gabow.State)
    (ls : List (Array Nat)) (h : Gabow.runSeq s gs = some (s', ls)) :
    ls.length = gs.length ∧
    ∀ i (hi : i < gs.length) (hl : i < ls.length), ∃ t, Gabow.run Gabow.State.fresh gs[i] = some (t, ls[i]) :=
  history_eq_fresh Gabow.run Gabow.runSeq _ (fun _ => rfl)
    (fun s g gs => by
      rw [Gabow.runSeq]
      rcases Gabow.run s g with _ | ⟨s1, a⟩
      · rfl
      · dsimp only; cases Gabow.runSeq s1 gs <;> rfl)
    gabow_rerun_eq_fresh s gs s' ls h

def gA : Graph := ofEdges [(0, 1)]
def gB : Graph := ofEdges [(0, 1), (1, 0)]

/-- non-vacuity: a used object (it analysed `gA`) analyses `gB` and both nodes get the same label -/
example : (Tarjan.runSeq Tarjan.State.fresh [gA, gB]).map (fun r => r.2.map Array.toList) = some [[2, 1], [1, 1]] := by
  decide +kernel
example : (Gabow.runSeq Gabow.State.fresh [gA, gB]).map (fun r => r.2.map Array.toList) = some [[0, 1], [1, 1]] := by
  decide +kernel

/-- regression (D11): without the `clear`, the second run returns `usize::MAX` for every node -/
example : ((Tarjan.legacyRun Tarjan.State.fresh gA).bind fun r => Tarjan.legacyRun r.1 gB).map (fun r => r.2.toList)
    = some [maxU, maxU] := by decide +kernel
/-- regression (D12): without the `clear`, the second graph gets the first graph's labels -/
example : ((Gabow.legacyRun Gabow.State.fresh gA).bind fun r => Gabow.legacyRun r.1 gB).map (fun r => r.2.toList)
    = some [0, 1] := by decide +kernel

/-! ## the judge's closure checker is sound and complete -/

theorem closure_checker_exact (es : Edges) (u : Nat) (R : List Nat) (h : reachSet es u = some R) (x : Nat) :
    x ∈ R ↔ Reach es u x := reachSet_spec es u R h x

theorem cycle_checker_exact (es : Edges) (b : Bool) (h : hasCycleB es = some b) : b = true ↔ HasCycle es :=
  hasCycleB_spec es b h

theorem acyclic_checker_exact (F : Edges) (b : Bool) (h : acyclicB F = some b) : b = true ↔ Acyclic F :=
  acyclicB_spec F b h

/-- undirected connectivity as defined (reachability over both directions) is the equivalence closure -/
theorem conn_is_equivalence_closure (ps : Edges) (a b : Nat) : Conn ps a b ↔ EqvClosure ps a b :=
  conn_iff_eqvClosure ps a b

example : reachSet [(0, 1), (1, 2), (3, 0)] 0 = some [2, 1, 0] := by decide
example : hasCycleB [(0, 1), (1, 2), (2, 1)] = some true := by decide
example : hasCycleB [(0, 1), (1, 2), (0, 2)] = some false := by decide

/-! ## union-find refines the equivalence closure of the union pairs -/

open Tbx.UF in
/-- For every state reachable from `UnionFind::new(n)` by `find`/`union` on elements `< n`, with `ps` the
    union pairs so far: the parent forest is acyclic (every element reaches exactly one root), two elements
    have the same root iff they are related by the equivalence closure of `ps`, `number_of_sets` is the
    number of roots, and every class contains exactly one root (so it is the number of classes). -/
theorem uf_refines {n : Nat} {u : UF.UF} {ps : Edges} (h : Reachable n u ps) :
    u.parent.size = n ∧
    (∀ i, i < n → ∃ r, RootOf u.parent i r ∧ r < n ∧ ∀ r', RootOf u.parent i r' → r' = r) ∧
    (∀ i j, i < n → j < n → (Cls u.parent i j ↔ EqvClosure ps i j)) ∧
    u.numSets = countRoots u.parent ∧
    (∀ i, i < n → ∃ r, r < n ∧ gt u.parent r = r ∧ EqvClosure ps i r ∧
      ∀ r', r' < n → gt u.parent r' = r' → EqvClosure ps i r' → r' = r) := by
  obtain ⟨hinv, hsz, hcls⟩ := reachable_refines h
  have hroot : ∀ i, i < n → ∃ r, RootOf u.parent i r ∧ r < n := fun i hi => by
    obtain ⟨r, hr⟩ := hinv.exists_root i (hsz ▸ hi)
    exact ⟨r, hr, hsz ▸ hr.is_root.1⟩
  refine ⟨hsz, fun i hi => ?_, fun i j hi hj => by rw [hcls i j hi hj, conn_iff_eqvClosure], hinv.nsets,
    fun i hi => ?_⟩
  · obtain ⟨r, hr, hrn⟩ := hroot i hi
    exact ⟨r, hr, hrn, fun r' hr' => hr'.functional hr⟩
  · obtain ⟨r, hr, hrn⟩ := hroot i hi
    refine ⟨r, hrn, hr.is_root.2, ?_, ?_⟩
    · rw [← conn_iff_eqvClosure, ← hcls i r hi hrn]; exact hr.cls
    · intro r' hr'n hr'root hc
      rw [← conn_iff_eqvClosure, ← hcls i r' hi hr'n] at hc
      obtain ⟨q, h1, h2⟩ := hc
      exact (h2.of_root hr'root).symm.trans (h1.functional hr)

open Tbx.UF in
/-- `find` terminates without panic, returns the root of its argument's class (a member of the class),
    and path halving changes no element's root -/
theorem uf_find_correct {n : Nat} {u : UF.UF} {ps : Edges} (h : Reachable n u ps) (x : Nat) (hx : x < n) :
    ∃ u' r, UF.find u x = some (u', r) ∧ Reachable n u' ps ∧ RootOf u.parent x r ∧ EqvClosure ps x r ∧
      u'.numSets = u.numSets ∧ ∀ j r', RootOf u'.parent j r' ↔ RootOf u.parent j r' := by
  obtain ⟨hinv, hsz, hcls⟩ := reachable_refines h
  obtain ⟨u', r, hf, _, hS, hr⟩ := find_spec hinv x (hsz ▸ hx)
  refine ⟨u', r, hf, .find h hx hf, hr, ?_, hS.numSets, hS.rootOf⟩
  rw [← conn_iff_eqvClosure, ← hcls x r hx (hsz ▸ hr.is_root.1)]
  exact hr.cls

open Tbx.UF in
/-- "union-find reports two elements equal iff they were joined" -/
theorem uf_same_iff_joined {n : Nat} {u : UF.UF} {ps : Edges} (h : Reachable n u ps) (x y : Nat) (hx : x < n) (hy : y < n) :
    ∃ u1 rx u2 ry, UF.find u x = some (u1, rx) ∧ UF.find u1 y = some (u2, ry) ∧ (rx = ry ↔ EqvClosure ps x y) := by
  obtain ⟨u1, rx, hf1, hr1, hrx, _, _, hiff1⟩ := uf_find_correct h x hx
  obtain ⟨u2, ry, hf2, _, hry, _, _, _⟩ := uf_find_correct hr1 y hy
  have hry' := (hiff1 _ _).mp hry
  obtain ⟨_, _, hcls⟩ := reachable_refines h
  refine ⟨u1, rx, u2, ry, hf1, hf2, ?_⟩
  rw [← conn_iff_eqvClosure, ← hcls x y hx hy]
  constructor
  · rintro rfl; exact ⟨rx, hrx, hry'⟩
  · rintro ⟨r, a, b⟩; exact (hrx.functional a).trans (b.functional hry')

open Tbx.UF in
/-- `union` terminates without panic and lowers `number_of_sets` by one iff the two elements were not yet
    joined; by `uf_refines` the classes afterwards are the closure of the pairs including `(x, y)` -/
theorem uf_union_correct {n : Nat} {u : UF.UF} {ps : Edges} (h : Reachable n u ps) (x y : Nat) (hx : x < n) (hy : y < n) :
    ∃ u', UF.union u x y = some u' ∧ Reachable n u' (ps ++ [(x, y)]) ∧
      (EqvClosure ps x y → u'.numSets = u.numSets) ∧ (¬ EqvClosure ps x y → u'.numSets + 1 = u.numSets) := by
  obtain ⟨hinv, hsz, hcls⟩ := reachable_refines h
  obtain ⟨u', hu, _, _, _, h1, h2⟩ := union_spec hinv x y (hsz ▸ hx) (hsz ▸ hy)
  refine ⟨u', hu, .union h hx hy hu, ?_, ?_⟩
  · intro hc; exact h1 ((hcls x y hx hy).mpr ((conn_iff_eqvClosure _ _ _).mpr hc))
  · intro hc; exact h2 fun hh => hc ((conn_iff_eqvClosure _ _ _).mp ((hcls x y hx hy).mp hh))

/-- non-vacuity: a history with two rank-1 trees joined (depth 2), then a find that halves a path -/
example : ((UF.union (UF.new 4) 0 1).bind fun u => (UF.union u 2 3).bind fun u => (UF.union u 0 2).bind fun u =>
    (UF.find u 3).map fun r => (r.2, r.1.numSets, r.1.parent.toList, u.parent.toList))
    = some (0, 1, [0, 0, 0, 0], [0, 0, 0, 2]) := by decide +kernel

/-! ## Kruskal returns a spanning forest of the input and its cost -/

/-- For every edge list whose total weight fits `u32`, `kruskal` terminates without panic and returns a
    sub-multiset of the input that is cycle-free and connects exactly what the input connects, together
    with the sum of its weights.  (Minimality is `kruskal_minimal`.) -/
theorem kruskal_forest_spanning (inp : List WEdge) (htot : cost inp < 4294967296) :
    ∃ c mst, Kruskal.kruskal inp = some (c, mst) ∧ SpanningForest inp mst ∧ c = cost mst := by
  obtain ⟨c, mst, hk, hc, hsf, _⟩ := Kruskal.kruskal_min inp htot
  exact ⟨c, mst, hk, hsf, hc⟩

/-- non-vacuity: ties, a duplicate edge, a self-loop and two components -/
example : Kruskal.kruskal [(0, 1, 2), (1, 2, 2), (2, 0, 1), (0, 1, 2), (3, 3, 1), (4, 5, 3)]
    = some (6, [(2, 0, 1), (0, 1, 2), (4, 5, 3)]) := by decide +kernel

/-- … and the returned forest has minimal total weight among ALL spanning forests of the input (proof by
    exchange: `Proofs/C16KruskalMin.lean`). -/
theorem kruskal_minimal (inp : List WEdge) (htot : cost inp < 4294967296) :
    ∃ c mst, Kruskal.kruskal inp = some (c, mst) ∧ c = cost mst ∧ MinSpanningForest inp mst :=
  Kruskal.kruskal_min inp htot

/-- non-vacuity of the minimum: a triangle with weights 1, 2, 3 has spanning trees of cost 3, 4 and 5 -/
example : (Kruskal.kruskal [(0, 1, 3), (1, 2, 1), (2, 0, 2)]).map (·.1) = some 3 := by decide +kernel

/-! ## every node gets a label in range -/

/-- On every well-formed CSR graph with fewer than `usize::MAX` nodes, on a fresh or a used object, both
    SCC routines terminate without reaching a panic branch (no index out of bounds, no `expect` on an empty
    stack, no underflow of `component`; the fuel the models pass to their loops suffices) and give every
    node a label in range: Tarjan a component number in `1..=n` (never `usize::MAX`: when a root's loop
    breaks the Tarjan stack is empty again), PathBasedScc a number below `n`. -/
theorem scc_labels_total (g : Graph) (hwf : WF g) (hn : numNodes g < maxU) :
    (∀ s : Tarjan.State, ∃ s' a, Tarjan.run s g = some (s', a) ∧ a.size = numNodes g ∧
      ∀ v, v < numNodes g → 1 ≤ gt a v ∧ gt a v ≤ numNodes g) ∧
    (∀ s : Gabow.State, ∃ s' a, Gabow.run s g = some (s', a) ∧ a.size = numNodes g ∧
      ∀ v, v < numNodes g → gt a v < numNodes g) :=
  ⟨fun s => by
      obtain ⟨s', a, h⟩ := Tarjan.run_returns s g hwf hn
      exact ⟨s', a, h, (Tarjan.run_sound s g hn s' a h).1, (Tarjan.run_sound s g hn s' a h).2.1⟩,
    fun s => by
      obtain ⟨s', h⟩ := Gabow.run_returns s g hwf hn
      exact ⟨s', _, h, (Gabow.run_sound s g hn s' _ h).1, (Gabow.run_sound s g hn s' _ h).2.1⟩⟩

/-- non-vacuity: a well-formed graph with a 2-cycle, a tail and a self-loop -/
example : wfB (ofEdges [(0, 1), (1, 0), (1, 2), (2, 2)]) = true ∧
    (Tarjan.run Tarjan.State.fresh (ofEdges [(0, 1), (1, 0), (1, 2), (2, 2)])).map (fun r => r.2.toList) = some [2, 2, 1] ∧
    (Gabow.run Gabow.State.fresh (ofEdges [(0, 1), (1, 0), (1, 2), (2, 2)])).map (fun r => r.2.toList) = some [1, 1, 2] := by
  decide +kernel

/-! ## the cycle check is exact -/

/-- On every well-formed CSR graph `cycle_check` terminates without reaching a panic branch (the fuel the
    model passes suffices) and answers `true` iff some edge `u → v` is closed by a path `v ⇝ u`.
    The proof covers the non-textbook stack discipline: nodes pushed twice, and the second greying of an
    already black node when its lower copy reaches the top of the stack. -/
theorem cycle_exact (g : Graph) (hwf : WF g) :
    ∃ b, CycleCheck.cycleCheck g = some b ∧ (b = true ↔ HasCycle (edgesOf g)) := by
  have hw : ∀ x, gt (Array.replicate (numNodes g) CycleCheck.Color.white) x = .white := gt_replicate_default _
  refine CycleCheck.outer_spec g hwf (numNodes g) 0 _ []
    ⟨by simp, fun x => ?_, fun x hx => ?_, .nil, fun x hx => nomatch hx⟩
    (Nat.zero_add _) (fun u hu => absurd hu (Nat.not_lt_zero u))
  · rw [hw]; exact ⟨CycleCheck.Color.noConfusion, fun h => nomatch h⟩
  · rw [hw] at hx; cases hx

/-- non-vacuity: a well-formed DAG in which node 1 is pushed twice (and greyed twice), and a graph with a cycle -/
example : wfB (ofEdges [(0, 1), (0, 2), (2, 1), (1, 3)]) = true ∧
    CycleCheck.cycleCheck (ofEdges [(0, 1), (0, 2), (2, 1), (1, 3)]) = some false := by decide +kernel
example : wfB (ofEdges [(0, 1), (1, 2), (2, 1)]) = true ∧
    CycleCheck.cycleCheck (ofEdges [(0, 1), (1, 2), (2, 1)]) = some true := by decide +kernel

/-! ## the headline clause: same label iff mutually reachable -/

/-- On every well-formed CSR graph with fewer than `usize::MAX` nodes, on a fresh or a used object,
    `Tarjan::run` returns, and two nodes carry the same component number iff each is reachable from the
    other.  (The proof reads the state during the DFS of a root as a state of `Scc.AX`, `Proofs/C16Scc.lean`; the
    candidate roots are kept lazily in the lowlinks, `Tarjan.CandT`.) -/
theorem tarjan_exact (s : Tarjan.State) (g : Graph) (hwf : WF g) (hn : numNodes g < maxU) :
    ∃ s' a, Tarjan.run s g = some (s', a) ∧ a.size = numNodes g ∧
      ∀ u v, u < numNodes g → v < numNodes g → (gt a u = gt a v ↔ SameSCC (edgesOf g) u v) := by
  obtain ⟨s', a, h⟩ := Tarjan.run_returns s g hwf hn
  exact ⟨s', a, h, (Tarjan.run_sound s g hn s' a h).1, (Tarjan.run_sound s g hn s' a h).2.2⟩

/-- The same for `PathBasedScc::run`.  (The same invariant `Scc.AX`; the candidate roots are the nodes whose position
    is recorded in `bounds`, `Gabow.Cand`.) -/
theorem gabow_exact (s : Gabow.State) (g : Graph) (hwf : WF g) (hn : numNodes g < maxU) :
    ∃ s' a, Gabow.run s g = some (s', a) ∧ a.size = numNodes g ∧
      ∀ u v, u < numNodes g → v < numNodes g → (gt a u = gt a v ↔ SameSCC (edgesOf g) u v) := by
  obtain ⟨s', h⟩ := Gabow.run_returns s g hwf hn
  exact ⟨s', _, h, (Gabow.run_sound s g hn s' _ h).1, (Gabow.run_sound s g hn s' _ h).2.2⟩

/-- non-vacuity: a well-formed graph with the components {0,1,2}, {3,4}, {5}, cross edges and a self-loop;
    both routines separate exactly these -/
example : wfB (ofEdges [(0, 1), (1, 2), (2, 0), (2, 3), (3, 4), (4, 3), (4, 5), (0, 5), (5, 5)]) = true ∧
    (Tarjan.run Tarjan.State.fresh (ofEdges [(0, 1), (1, 2), (2, 0), (2, 3), (3, 4), (4, 3), (4, 5), (0, 5), (5, 5)])).map
      (fun r => r.2.toList) = some [3, 3, 3, 2, 2, 1] ∧
    (Gabow.run Gabow.State.fresh (ofEdges [(0, 1), (1, 2), (2, 0), (2, 3), (3, 4), (4, 3), (4, 5), (0, 5), (5, 5)])).map
      (fun r => r.2.toList) = some [3, 3, 3, 4, 4, 5] := by
  decide +kernel

/-! ## from CSR graphs to arbitrary edge lists -/

/-- The model of `StaticGraph::new` (sort, offsets, sentinel) builds a well-formed graph with exactly the
    input's edges, so the three digraph clauses hold for EVERY edge list (nodes `0..=max id`, self-loops and
    parallel edges allowed), with reachability taken over the input edge list itself. -/
theorem digraph_analyses_exact (es : List (Nat × Nat)) (hn : numNodes (ofEdges es) < maxU) :
    (∀ s : Tarjan.State, ∃ s' a, Tarjan.run s (ofEdges es) = some (s', a) ∧ a.size = numNodes (ofEdges es) ∧
      ∀ u v, u < numNodes (ofEdges es) → v < numNodes (ofEdges es) → (gt a u = gt a v ↔ SameSCC es u v)) ∧
    (∀ s : Gabow.State, ∃ s' a, Gabow.run s (ofEdges es) = some (s', a) ∧ a.size = numNodes (ofEdges es) ∧
      ∀ u v, u < numNodes (ofEdges es) → v < numNodes (ofEdges es) → (gt a u = gt a v ↔ SameSCC es u v)) ∧
    (∃ b, CycleCheck.cycleCheck (ofEdges es) = some b ∧ (b = true ↔ HasCycle es)) := by
  have hwf := ofEdges_wf es
  refine ⟨fun s => ?_, fun s => ?_, ?_⟩
  · obtain ⟨s', a, h1, h2, h3⟩ := tarjan_exact s (ofEdges es) hwf hn
    exact ⟨s', a, h1, h2, fun u v hu hv => (h3 u v hu hv).trans (sameSCC_ofEdges es u v)⟩
  · obtain ⟨s', a, h1, h2, h3⟩ := gabow_exact s (ofEdges es) hwf hn
    exact ⟨s', a, h1, h2, fun u v hu hv => (h3 u v hu hv).trans (sameSCC_ofEdges es u v)⟩
  · obtain ⟨b, h1, h2⟩ := cycle_exact (ofEdges es) hwf
    exact ⟨b, h1, h2.trans (hasCycle_ofEdges es)⟩

example : numNodes (ofEdges [(0, 1), (1, 0), (1, 2), (2, 2), (1, 0)]) = 3 := by decide +kernel

end Tbx.Props.C16
