import Tbx.Proofs.Bound
/-
C04 — sharing an upper bound between concurrent flow runs never changes the winner.

All theorems hold for every number of processes N, every phase list, every initial bound and
every schedule, including schedules in which loads return stale values (`Admissible`).
-/
namespace Tbx.Props.C04
open Tbx.Bound

/-- invariant of every reachable state: the bound is below the initial bound and below every
    finished flow, is attained by one of them, never exceeds a value it held before, and is at
    least any number below the initial bound and all true flows -/
theorem reachable_inv {N} (P : Fin N → Proc) (B0 : Int) (sched : List (Fin N × Int)) :
    Inv P B0 (run P (init B0) sched) :=
  inv_run P B0 (init B0) sched (inv_init P B0)

/-- afterwards the bound equals the minimum of its initial value and all completed flows -/
theorem final_bound_eq_min {N} (P : Fin N → Proc) (B0 : Int) (sched : List (Fin N × Int)) :
    (run P (init B0) sched).bound ≤ B0 ∧
    (∀ i, (run P (init B0) sched).st i = .finished → (run P (init B0) sched).bound ≤ (P i).F) ∧
    ((run P (init B0) sched).bound = B0 ∨
      ∃ i, (run P (init B0) sched).st i = .finished ∧ (run P (init B0) sched).bound = (P i).F) :=
  final_bound P B0 sched

/-- a computation whose true flow is the smallest one and does not exceed the initial bound is never aborted,
    whatever the interleaving and however stale the loaded values are -/
theorem minimal_never_aborted {N} (P : Fin N → Proc) (hP : WF P) (B0 : Int) (i : Fin N)
    (hmin : ∀ j, (P i).F ≤ (P j).F) (hB : (P i).F ≤ B0)
    (sched : List (Fin N × Int)) (hadm : Admissible P (init B0) sched) :
    (run P (init B0) sched).st i ≠ .aborted :=
  minimal_never_aborts P hP B0 i hmin hB (init B0) sched (inv_init P B0) hadm (by simp [init])

/-- hence in every maximal schedule (no computation still running) it has completed -/
theorem minimal_complete {N} (P : Fin N → Proc) (hP : WF P) (B0 : Int) (i : Fin N)
    (hmin : ∀ j, (P i).F ≤ (P j).F) (hB : (P i).F ≤ B0)
    (sched : List (Fin N × Int)) (hadm : Admissible P (init B0) sched)
    (hmax : ∀ pc, (run P (init B0) sched).st i ≠ .running pc) :
    (run P (init B0) sched).st i = .finished := by
  have h := minimal_never_aborted P hP B0 i hmin hB sched hadm
  cases hs : (run P (init B0) sched).st i with
  | running pc => exact absurd hs (hmax pc)
  | aborted => exact absurd hs h
  | finished => rfl

/-- a computation only completes after executing every one of its phases: nothing is skipped,
    so the value it reports is the flow of its unbounded run (the true maximum flow by C01) -/
theorem step_finishes_only_at_end {N} (P : Fin N → Proc) (s : St N) (i j : Fin N) (v : Int)
    (h : (step P s i v).st j = .finished) :
    s.st j = .finished ∨ (j = i ∧ s.st i = .running (P i).phases.length ∨
                          j = i ∧ ∃ pc, s.st i = .running pc ∧ (P i).phases.length ≤ pc) := by
  revert h
  refine step_elim (motive := fun s' => s'.st j = .finished → _) P s i v (fun _ h => Or.inl h)
    (fun pc _ _ _ h => ?_) (fun pc _ _ _ h => ?_) (fun pc hst hpc h => ?_)
  · dsimp only at h; split at h
    · cases h
    · exact Or.inl h
  · dsimp only at h; split at h
    · cases h
    · exact Or.inl h
  · dsimp only at h; split at h
    · rename_i e; exact Or.inr (Or.inr ⟨e, pc, hst, hpc⟩)
    · exact Or.inl h

/-- `k` events of the only process, each load observing the current bound -/
def seqRun (P : Fin 1 → Proc) : Nat → St 1 → St 1
  | 0, s => s
  | k + 1, s => seqRun P k (step P s 0 s.bound)

/-- `sequential` from any program counter `pc`, in terms of the phases still to run: `hk` leaves exactly the events that
    run them and publish -/
theorem seq_run_aux (P : Fin 1 → Proc) (B0 : Int) (k pc : Nat) (s : St 1)
    (hb : s.bound = B0) (hs : s.st 0 = .running pc) (hk : pc + k = (P 0).phases.length + 1)
    (hle : pc ≤ (P 0).phases.length) :
    ((∃ x ∈ (P 0).phases.drop pc, x > B0) →
        (seqRun P k s).st 0 = .aborted ∧ (seqRun P k s).bound = B0) ∧
    ((∀ x ∈ (P 0).phases.drop pc, x ≤ B0) →
        (seqRun P k s).st 0 = .finished ∧ (seqRun P k s).bound = min B0 (P 0).F) := by
  induction k generalizing pc s with
  | zero => omega
  | succ k ih =>
    simp only [seqRun]
    by_cases hpc : pc < (P 0).phases.length
    · rw [List.drop_eq_getElem_cons hpc]
      by_cases hgt : (P 0).phases[pc] > B0
      · -- aborts now; later events do nothing
        have hfix : ∀ n (t : St 1), t.st 0 = .aborted → seqRun P n t = t := by
          intro n; induction n with
          | zero => intro t _; rfl
          | succ n ihn =>
            intro t ht
            rw [seqRun, step_idle P t 0 _ (fun pc h => by rw [ht] at h; cases h)]; exact ihn t ht
        rw [step_abort P s 0 _ hs hpc (hb ▸ hgt), hfix k _ rfl]
        exact ⟨fun _ => ⟨rfl, hb⟩, fun hall => absurd hgt (Int.not_lt.mpr (hall _ List.mem_cons_self))⟩
      · rw [step_advance P s 0 _ hs hpc (hb ▸ hgt)]
        obtain ⟨ih1, ih2⟩ := ih (pc + 1) { s with st := fun j => if j = 0 then .running (pc + 1) else s.st j } hb rfl
          (by omega) hpc
        exact ⟨fun ⟨x, hx, hxx⟩ => ih1 ⟨x, (List.mem_cons.mp hx).resolve_left fun e => hgt (e ▸ hxx), hxx⟩,
          fun hall => ih2 fun x hx => hall x (List.mem_cons_of_mem _ hx)⟩
    · -- all phases done: fetch_min; then k = 0
      have hk0 : k = 0 := by omega
      subst hk0
      rw [step_publish P s 0 _ hs (Nat.not_lt.mp hpc), seqRun, List.drop_eq_nil_of_le (Nat.not_lt.mp hpc)]
      exact ⟨fun ⟨_, hx, _⟩ => (nomatch hx), fun _ => ⟨rfl, by rw [← hb]⟩⟩

/-- Sequentially: with a bound below the true flow the run ends without a result and leaves the bound
    untouched; with a bound at or above it the run completes and lowers the bound to the flow.
    (`hlast`: the last phase's accumulated flow is the true flow; `hP`: no phase exceeds it; `hempty`: a
    computation without phases has a flow within the bound.) -/
theorem sequential (P : Fin 1 → Proc) (hP : WF P) (B0 : Int)
    (hlast : (P 0).phases ≠ [] → (P 0).phases.getLast? = some (P 0).F)
    (hempty : (P 0).phases = [] → (P 0).F ≤ B0) :
    let s := seqRun P ((P 0).phases.length + 1) (init B0)
    (B0 < (P 0).F → s.st 0 = .aborted ∧ s.bound = B0) ∧
    ((P 0).F ≤ B0 → s.st 0 = .finished ∧ s.bound = (P 0).F) := by
  intro s
  obtain ⟨h1, h2⟩ := seq_run_aux P B0 ((P 0).phases.length + 1) 0 (init B0) rfl (by simp [init]) (by omega) (Nat.zero_le _)
  constructor
  · intro hlt
    by_cases he : (P 0).phases = []
    · have := hempty he; omega
    · exact h1 ⟨_, List.mem_of_getLast? (hlast he), hlt⟩
  · intro hle
    have := h2 fun x hx => Int.le_trans (hP.le_F 0 x hx) hle
    exact ⟨this.1, this.2.trans (Int.min_eq_right hle)⟩

/-- non-vacuity: two processes with flows 3 and 5 (two phases each), initial bound 4 -/
def exP : Fin 2 → Proc := fun i => if i = 0 then ⟨[1, 3], 3⟩ else ⟨[2, 5], 5⟩
example : WF exP := ⟨by decide +kernel⟩
example : Admissible exP (init 4) [(1, 4), (0, 4), (0, 4), (0, 4), (1, 4)] := by
  simp only [Admissible]; decide +kernel
example : (run exP (init 4) [(1, 4), (0, 4), (0, 4), (0, 4), (1, 4)]).bound = 3 := by
  decide +kernel

end Tbx.Props.C04
