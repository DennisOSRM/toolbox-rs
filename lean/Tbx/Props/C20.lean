import Tbx.Proofs.ZigzagBij
import Tbx.Proofs.PolylineRoundtrip
import Tbx.Proofs.PartitionIDLaws
import Tbx.Proofs.ChooseUnrank
import Tbx.Proofs.HuffmanCodes
import Tbx.Proofs.HuffmanOptSorted
import Tbx.Proofs.HuffmanOptHeap
import Tbx.Proofs.HuffmanOptLower
/-
C20 — codes and identifiers: round trips hold and tree-id arithmetic is consistent.

Registered in Tbx/Audit/C20.lean.  The optimality clauses are written as `def …_statement : Prop` and then
proved as theorems of that type.
-/
namespace Tbx.Props.C20
open Tbx

/-- the encoder of /repo and the standard decoder are inverse bijections of the 32-bit words -/
theorem zigzag_bij :
    (∀ v : BitVec 32, Spec.zigzagDecode (Zigzag.zigzagEncode v) = v) ∧
    (∀ n : BitVec 32, Zigzag.zigzagEncode (Spec.zigzagDecode n) = n) :=
  ⟨Proofs.Zigzag.decode_encode, Proofs.Zigzag.encode_decode⟩

/-- the encoder is the arithmetic interleaving 0, -1, 1, -2, … ↦ 0, 1, 2, 3, … (what the judge checks) -/
theorem zigzag_encode_arith (v : BitVec 32) : (Zigzag.zigzagEncode v).toNat = Spec.zigzagNat v.toInt := by
  unfold Zigzag.zigzagEncode Spec.zigzagNat
  rw [Proofs.Zigzag.sshift31, BitVec.toInt_eq_msb_cond, BitVec.msb_eq_decide]
  have hlt := v.isLt
  by_cases h : 2 ^ (32 - 1) ≤ v.toNat
  · -- negative: `!(v << 1)` is `2^32 - 1 - (2·n - 2^32)`
    rw [decide_eq_true h, if_pos rfl, show BitVec.fill 32 true = BitVec.allOnes 32 by decide, BitVec.xor_allOnes,
      BitVec.toNat_not, BitVec.toNat_shiftLeft, Nat.shiftLeft_eq, if_neg (by omega)]
    omega
  · rw [decide_eq_false h, if_neg Bool.false_ne_true, show BitVec.fill 32 false = 0#32 by decide, BitVec.xor_zero,
      BitVec.toNat_shiftLeft, Nat.shiftLeft_eq, if_pos (by omega)]
    omega

example : Zigzag.zigzagEncodeInt (-2147483648) = 4294967295 ∧ Zigzag.zigzagEncodeInt (-2) = 3 ∧
    Spec.zigzagDecode 3#32 = BitVec.ofInt 32 (-2) := by decide +kernel

/-- for every sequence (of any length) of rounded coordinates in the lat/lon range at
    precision ≤ 6, `encode` does not overflow and `decode` of its output returns the sequence -/
theorem polyline_int_roundtrip (xs : List (Int × Int)) (h : ∀ p ∈ xs, Polyline.InRange p) :
    ∃ cs, Polyline.encodeInts xs = some cs ∧ Polyline.decodeInts cs = some xs :=
  Proofs.Polyline.polyline_int_roundtrip xs h

/-- conformance of the encoder with the format's own description (the function the judge applies to the real
    encoder's output): what `encode` emits means the input sequence -/
theorem polyline_encode_means (xs : List (Int × Int)) (h : ∀ p ∈ xs, Polyline.InRange p) :
    ∃ cs, Polyline.encodeInts xs = some cs ∧ Spec.polylineMeaning cs = some xs := by
  refine ⟨_, Proofs.Polyline.encodeLine_eq xs (0, 0) (by decide) h, ?_⟩
  have hl := Proofs.Polyline.length_le_bytesOf (Proofs.Polyline.deltas xs (0, 0))
  rw [Spec.polylineMeaning, Proofs.Polyline.numbers_bytesOf _ _ hl]
  exact Proofs.Polyline.accumulate_deltas xs (0, 0)

/-- non-vacuity: Google's example at precision 5 and the extreme corners at precision 6 are in range and
    encode to the documented string -/
example : (∀ p ∈ [((3850000 : Int), (-12020000 : Int)), (4070000, -12095000), (4325200, -12645300)], Polyline.InRange p) ∧
    (Polyline.encodeInts [(3850000, -12020000), (4070000, -12095000), (4325200, -12645300)]).map
      (fun l => String.ofList (l.map Char.ofNat)) = some "_p~iF~ps|U_ulLnnqC_mqNvxq`@" := by
  constructor
  · decide +kernel
  · decide +kernel
example : ∀ p ∈ [((90000000 : Int), (180000000 : Int)), (-90000000, -180000000)], Polyline.InRange p := by decide +kernel

/-- a child's parent is the id (below bit 31, where the children exist) -/
theorem parent_child (x : Nat) (h1 : 1 ≤ x) (h31 : x < 2 ^ 31) :
    PartitionID.parent (PartitionID.leftChild x) = x ∧ PartitionID.parent (PartitionID.rightChild x) = x :=
  ⟨Proofs.PartitionID.parent_leftChild x h1 h31, Proofs.PartitionID.parent_rightChild x h1 h31⟩

example : PartitionID.parent (PartitionID.leftChild 12345) = 12345 ∧ PartitionID.parent (PartitionID.rightChild 2147483647) = 2147483647 ∧
    PartitionID.parent (PartitionID.leftChild 2147483648) ≠ 2147483648 := by decide +kernel

/-- levels grow by one -/
theorem level_child (x : Nat) (h1 : 1 ≤ x) (h31 : x < 2 ^ 31) :
    ∃ l, PartitionID.level x = some l ∧ PartitionID.level (PartitionID.leftChild x) = some (l + 1) ∧
      PartitionID.level (PartitionID.rightChild x) = some (l + 1) :=
  ⟨Nat.log2 x, Proofs.PartitionID.level_eq x h1 (by omega), Proofs.PartitionID.level_leftChild x h1 h31,
    Proofs.PartitionID.level_rightChild x h1 h31⟩

example : PartitionID.level 21845 = some 14 ∧ PartitionID.level (PartitionID.rightChild 21845) = some 15 ∧ PartitionID.level 0 = none := by
  decide +kernel

/-- `is_left_child` / `is_right_child` after the respective step (any id, also with bit 31 set), and they exclude
    each other -/
theorem child_sides (x : Nat) :
    PartitionID.isLeftChild (PartitionID.leftChild x) = true ∧
    PartitionID.isRightChild (PartitionID.rightChild x) = true ∧
    PartitionID.isLeftChild x = !PartitionID.isRightChild x :=
  ⟨Proofs.PartitionID.isLeftChild_leftChild x, Proofs.PartitionID.isRightChild_rightChild x,
    Proofs.PartitionID.isLeft_xor_isRight x⟩

/-- leftmost / rightmost descendant k levels down = k-fold left / right child (32-bit wrap included), no panic for k < 32 -/
theorem descendants_kfold (x k : Nat) (hx : x < 2 ^ 32) (hk : k < 32) :
    PartitionID.makeLeftmostDescendant x k = some (Proofs.PartitionID.kfold PartitionID.leftChild k x) ∧
    PartitionID.makeRightmostDescendant x k = some (Proofs.PartitionID.kfold PartitionID.rightChild k x) :=
  ⟨Proofs.PartitionID.makeLeftmostDescendant_eq x k hx hk, Proofs.PartitionID.makeRightmostDescendant_eq x k hx hk⟩

example : PartitionID.makeRightmostDescendant 5 3 = some 47 ∧ Proofs.PartitionID.kfold PartitionID.rightChild 3 5 = 47 ∧
    PartitionID.makeLeftmostDescendant 3221225472 2 = some 0 ∧ PartitionID.makeLeftmostDescendant 1 32 = none := by decide +kernel

/-- …and these are the k-fold children `x·2^k`, `x·2^k + 2^k − 1` of the tree on the naturals, reduced to 32 bits -/
theorem descendants_spec (x k : Nat) (hx : x < 2 ^ 32) (hk : k < 32) :
    PartitionID.makeLeftmostDescendant x k = some (Spec.IdTree.leftK k x % 2 ^ 32) ∧
    PartitionID.makeRightmostDescendant x k = some (Spec.IdTree.rightK k x % 2 ^ 32) := by
  have hx' : x = x % PartitionID.U32 := (Nat.mod_eq_of_lt hx).symm
  exact ⟨(Proofs.PartitionID.makeLeftmostDescendant_eq x k hx hk).trans
      (congrArg some (Proofs.PartitionID.kfold_leftChild k x x hx')),
    (Proofs.PartitionID.makeRightmostDescendant_eq x k hx hk).trans
      (congrArg some (Proofs.PartitionID.kfold_rightChild k x x hx'))⟩

/-- on non-zero 32-bit ids `lowest_common_ancestor` terminates without panic, its result is an
    ancestor of both, and every common ancestor is an ancestor of it -/
theorem lca_deepest (x y : Nat) (hx1 : 1 ≤ x) (hx : x < 2 ^ 32) (hy1 : 1 ≤ y) (hy : y < 2 ^ 32) :
    ∃ a, PartitionID.lowestCommonAncestor x y = some a ∧ Spec.IdTree.IsLCA a x y :=
  Proofs.PartitionID.lca_isLCA x y hx1 hx hy1 hy

example : PartitionID.lowestCommonAncestor 8 5 = some 2 ∧ PartitionID.lowestCommonAncestor 4294967295 2147483648 = some 1 := by
  decide +kernel

/-- `parent_at_level` clears the low `l` bits (for levels up to the id's own), `extract_bit` reads a bit -/
theorem masks (x l : Nat) (hl : l < 32) (hx : x < 2 ^ 32) (hpos : 1 ≤ x / 2 ^ l) :
    PartitionID.parentAtLevel x l = some (x / 2 ^ l * 2 ^ l) ∧ PartitionID.extractBit x l = some (x.testBit l) :=
  ⟨Proofs.PartitionID.parentAtLevel_eq x l hl hx hpos, Proofs.PartitionID.extractBit_eq x l hl⟩

example : PartitionID.parentAtLevel 4294967295 9 = some 4294966784 ∧ PartitionID.extractBit 9 3 = some true ∧
    PartitionID.parentAtLevel 1 1 = none := by decide +kernel

/-- the judge's LCA checker is sound -/
theorem judge_isLCA_sound (a x y : Nat) (hx : x < 2 ^ 64) (hy : y < 2 ^ 64)
    (h : Spec.IdTree.isLCAB a x y = true) : Spec.IdTree.IsLCA a x y :=
  Spec.IdTree.isLCAB_sound a x y hx hy h

/-- for n ≤ 64 the loop returns the binomial coefficient (`Spec.binom` is Pascal's rule and equals
    Mathlib's `Nat.choose`): no u128 overflow, and the final `as u64` is the identity -/
theorem choose_eq (n k : Nat) (hn : n ≤ 64) :
    Choose.choose n k = some (Spec.binom n k) ∧ Spec.binom n k = Nat.choose n k ∧ Spec.binom n k < 2 ^ 64 :=
  ⟨Proofs.ChooseUnrank.choose_eq n k hn, Proofs.ChooseUnrank.binom_eq_choose n k,
    Proofs.ChooseUnrank.binom_eq_choose n k ▸ Proofs.ChooseUnrank.nat_choose_lt n k hn⟩

example : Choose.choose 37 17 = some 15905368710 ∧ Choose.choose 5 7 = some 0 := by decide +kernel

/-- every intermediate product is below 2^128, equals `binom n (i-1) · (n-i+1)`, and is divided exactly -/
theorem choose_intermediates (n k : Nat) (hn : n ≤ 64) (hk : k ≤ n) :
    ∀ ip ∈ Choose.trace n (Choose.reduceK n k) 1 1,
      ip.2 < 2 ^ 128 ∧ ip.2 = Spec.binom n (ip.1 - 1) * (n - ip.1 + 1) ∧ ip.1 ∣ ip.2 ∧ 1 ≤ ip.1 ∧
        ip.1 ≤ Choose.reduceK n k := by
  intro ip hip
  have := Proofs.ChooseUnrank.trace_inv n hn (Choose.reduceK n k) 0
    (by rw [Nat.zero_add]; exact Proofs.ChooseUnrank.reduceK_le n k hk) ip
    (by rw [Nat.zero_add, Nat.choose_zero_right]; exact hip)
  simp only [Nat.zero_add] at this
  rwa [Proofs.ChooseUnrank.binom_eq_choose]

/-- D18: the pre-fix loop (u64 intermediate) fails on the witness, the current one does not -/
theorem d18_witness : Choose.chooseLegacy 64 32 = none ∧ Choose.choose 64 32 = some 1832624140942590534 := by
  decide +kernel

example : (Choose.trace 64 (Choose.reduceK 64 32) 1 1).length = 32 := by decide +kernel

/-- for w ≤ 64 and ordinal < C(64,w) the code does not panic, the result is a 64-bit word
    of weight w, strictly increasing in the ordinal, and every 64-bit word of weight w is hit (by its rank):
    a monotone bijection onto the weight-w words -/
theorem decode_u64_unrank (w : Nat) (hw : w ≤ 64) :
    (∀ ord, ord < Spec.binom 64 w →
      ∃ x, Enumerative.decodeU64 w ord = some x ∧ x < 2 ^ 64 ∧ Spec.popcount 64 x = w ∧ Spec.rank 64 x = ord) ∧
    (∀ o1 o2 x1 x2, o1 < o2 → o2 < Spec.binom 64 w →
      Enumerative.decodeU64 w o1 = some x1 → Enumerative.decodeU64 w o2 = some x2 → x1 < x2) ∧
    (∀ x, x < 2 ^ 64 → Spec.popcount 64 x = w →
      Spec.rank 64 x < Spec.binom 64 w ∧ Enumerative.decodeU64 w (Spec.rank 64 x) = some x) := by
  refine ⟨?_, ?_, ?_⟩
  · intro ord h
    exact ⟨_, Proofs.ChooseUnrank.decodeU64_eq w ord h, Proofs.ChooseUnrank.unrank_spec 64 w ord h⟩
  · intro o1 o2 x1 x2 h12 h2 e1 e2
    rw [Proofs.ChooseUnrank.decodeU64_eq w o1 (by omega)] at e1
    rw [Proofs.ChooseUnrank.decodeU64_eq w o2 h2] at e2
    cases e1; cases e2
    exact Proofs.ChooseUnrank.unrank_strictMono 64 w o1 o2 h12 h2
  · intro x hx hp
    have := Proofs.ChooseUnrank.unrank_rank 64 x hx
    rw [hp] at this
    exact ⟨this.1, by rw [Proofs.ChooseUnrank.decodeU64_eq w _ this.1, this.2]⟩

example : Enumerative.decodeU64 3 21 = some 69 ∧ 21 < Spec.binom 64 3 := by decide +kernel

/-- the bit-weight iterator yields the words of weight w in increasing order (`unrank 0, unrank 1, …`) and ends
    exactly after C(64,w) items -/
theorem bwiter_enumerates (w cnt : Nat) (hw : w ≤ 64) :
    (Enumerative.withWeight w).bind (Enumerative.take cnt) =
      some ((List.range (min cnt (Spec.binom 64 w))).map (Spec.unrank 64 w)) := by
  rw [Enumerative.withWeight, Proofs.ChooseUnrank.choose_eq 64 w (by omega)]
  simp only [Option.map_some, Option.bind_some]
  rw [Proofs.ChooseUnrank.take_eq w cnt 0, List.range_eq_range']
  simp

example : (Enumerative.withWeight 63).bind (Enumerative.take 2) = some [9223372036854775807, 13835058055282163711] := by
  decide +kernel

/-- row `n` of the judge's Pascal table holds `binom n 0 … binom n n` -/
theorem judge_tables_sound (n : Nat) : Spec.pascalRow n = (List.range (n + 1)).map (Spec.binom n) :=
  Proofs.ChooseUnrank.pascalRow_eq n

/-- both constructions: whatever they return is a prefix-free code -/
theorem codes_prefix_free (v : List (Nat × Int)) (book : Huffman.Book)
    (h : Huffman.fromSorted v = some book ∨ Huffman.fromUnsorted v = some book) :
    Spec.Huff.PrefixFree (book.map (·.2)) := by
  rcases h with h | h
  · exact Huffman.bookOf_prefix_free (Huffman.fromSorted_eq v ▸ h)
  · exact Huffman.bookOf_prefix_free (Huffman.fromUnsorted_eq v ▸ h)

example : Huffman.fromSorted [(0, 1), (1, 1), (2, 2), (3, 2)] =
      some [(2, [true, true]), (1, [true, false, true]), (0, [true, false, false]), (3, [false])] ∧
    Spec.Huff.prefixFreeB [[true, true], [true, false, true], [true, false, false], [false]] = true ∧
    Spec.Huff.prefixFreeB [[true], [true, false]] = false := by decide +kernel

/-- `all_symbols_coded`, two-queue construction: no panic unless the table has exactly one symbol, and every
    symbol gets exactly one code word -/
theorem all_symbols_coded_sorted (v : List (Nat × Int)) (hv : v.length ≠ 1) :
    ∃ book, Huffman.fromSorted v = some book ∧ (book.map (·.1)).Perm (v.map (·.1)) :=
  Huffman.fromSorted_eq v ▸ Huffman.bookOf_all_coded fun h0 =>
    (Huffman.sortedTree_some (fun _ _ => True) (fun _ _ _ => trivial) v h0 hv trivial).imp fun _ h => ⟨h.1, h.2.1⟩

/-- `all_symbols_coded`, heap construction: every table -/
theorem all_symbols_coded_unsorted (v : List (Nat × Int)) :
    ∃ book, Huffman.fromUnsorted v = some book ∧ (book.map (·.1)).Perm (v.map (·.1)) :=
  Huffman.fromUnsorted_eq v ▸ Huffman.bookOf_all_coded fun h0 =>
    (Huffman.unsortedTree_some (fun _ => True) (fun _ _ _ _ _ => trivial) v h0 trivial).imp fun _ h => ⟨h.1, h.2.1⟩

/-- the documented non-defect: the two-queue construction panics on a one-symbol table -/
example : Huffman.fromSorted [(7, 3)] = none ∧ Huffman.fromUnsorted [(7, 3)] = some [(7, [])] := by decide +kernel

/-- the heap's sift loops, which do not answer `none` on exhaustion, never stop early: any larger fuel gives the
    same arrays -/
theorem heap_fuel_sufficient (a : Array Huffman.Tree) (x : Huffman.Tree) (pos extra : Nat) (hpos : pos < a.size) :
    Huffman.siftUp 0 (a.size + 1 + extra) (a.push x) a.size = Huffman.heapPush a x ∧
    Huffman.siftUp pos (a.size + extra) (Huffman.siftDownLoop a.size (a.size + extra) a pos).1
      (Huffman.siftDownLoop a.size (a.size + extra) a pos).2 = Huffman.siftDownToBottom a pos := by
  constructor
  · exact Huffman.siftUp_fuel 0 extra _ _ _ (Nat.le_succ _)
  · unfold Huffman.siftDownToBottom
    rw [Huffman.siftDownLoop_fuel a.size extra a.size a pos (Nat.le_add_left _ _)]
    exact Huffman.siftUp_fuel pos extra _ _ _ (Nat.le_of_lt (Huffman.siftDownLoop_pos a.size a.size a pos hpos))

/-- the judge's prefix-freeness checker is exact -/
theorem judge_prefixFree_sound (cs : List Spec.Huff.Code) : Spec.Huff.prefixFreeB cs = true ↔ Spec.Huff.PrefixFree cs :=
  Spec.Huff.prefixFreeB_iff cs

/-- the code book of either construction has minimal weighted length among all prefix-free
    codes for the table (positive frequencies, distinct symbols; sorted input for the two-queue construction) -/
def huffman_minimal_statement : Prop :=
  ∀ (v : List (Nat × Int)) (book : Huffman.Book), (∀ e ∈ v, 1 ≤ e.2) → (v.map (·.1)).Nodup →
    (Huffman.fromUnsorted v = some book ∨ (v.Pairwise (fun a b => a.2 ≤ b.2) ∧ Huffman.fromSorted v = some book)) →
    ∀ book' : Huffman.Book, (book'.map (·.1)).Perm (v.map (·.1)) → Spec.Huff.PrefixFree (book'.map (·.2)) →
      Spec.Huff.cost v book ≤ Spec.Huff.cost v book'

/-- on a sorted table both constructions reach the same weighted length -/
def two_queue_eq_heap_cost_statement : Prop :=
  ∀ (v : List (Nat × Int)) (bs bu : Huffman.Book), (∀ e ∈ v, 1 ≤ e.2) → (v.map (·.1)).Nodup →
    v.Pairwise (fun a b => a.2 ≤ b.2) → Huffman.fromSorted v = some bs → Huffman.fromUnsorted v = some bu →
    Spec.Huff.cost v bs = Spec.Huff.cost v bu

/-- the judge's reference optimum (repeated merge of the two smallest weights) is the minimum over all
    prefix-free codes -/
def greedy_cost_optimal_statement : Prop :=
  ∀ (v : List (Nat × Int)), 2 ≤ v.length → (∀ e ∈ v, 1 ≤ e.2) → (v.map (·.1)).Nodup →
    (∀ book' : Huffman.Book, (book'.map (·.1)).Perm (v.map (·.1)) → Spec.Huff.PrefixFree (book'.map (·.2)) →
      Spec.Huff.optCost (v.map (·.2)) ≤ Spec.Huff.cost v book') ∧
    (∃ book' : Huffman.Book, (book'.map (·.1)).Perm (v.map (·.1)) ∧ Spec.Huff.PrefixFree (book'.map (·.2)) ∧
      Spec.Huff.cost v book' = Spec.Huff.optCost (v.map (·.2)))

/-- lower bound: prefix-free ⇒ Kraft ⇒ (exchange and
    merge induction) cost ≥ greedy; attained by the heap construction's code book -/
theorem greedy_cost_optimal : greedy_cost_optimal_statement := by
  intro v _ hpos hnd
  have hnn : ∀ e ∈ v, 0 ≤ e.2 := fun e he => by have := hpos e he; omega
  refine ⟨Huffman.cost_lower_bound v hnn hnd, ?_⟩
  obtain ⟨book, hb, hp⟩ := all_symbols_coded_unsorted v
  exact ⟨book, hp, codes_prefix_free v book (.inr hb), Huffman.fromUnsorted_cost v book hnd hb⟩

theorem huffman_minimal : huffman_minimal_statement := by
  intro v book hpos hnd h book' hp hf
  have hnn : ∀ e ∈ v, 0 ≤ e.2 := fun e he => by have := hpos e he; omega
  have hc : Spec.Huff.cost v book = Spec.Huff.optCost (v.map (·.2)) := by
    rcases h with h | ⟨hs, h⟩
    · exact Huffman.fromUnsorted_cost v book hnd h
    · exact Huffman.fromSorted_cost v book hnn hnd hs h
  exact hc ▸ Huffman.cost_lower_bound v hnn hnd book' hp hf

theorem two_queue_eq_heap_cost : two_queue_eq_heap_cost_statement := by
  intro v bs bu hpos hnd hs h1 h2
  have hnn : ∀ e ∈ v, 0 ≤ e.2 := fun e he => by have := hpos e he; omega
  rw [Huffman.fromSorted_cost v bs hnn hnd hs h1, Huffman.fromUnsorted_cost v bu hnd h2]

/-- non-vacuity: a sorted table with ties, positive weights and distinct symbols; both constructions return a
    book of cost 12 = the greedy optimum, and a strictly worse prefix-free code exists -/
example :
    let v : List (Nat × Int) := [(0, 1), (1, 1), (2, 2), (3, 2)]
    (∀ e ∈ v, 1 ≤ e.2) ∧ (v.map (·.1)).Nodup ∧ v.Pairwise (fun a b => a.2 ≤ b.2) ∧
    (Huffman.fromSorted v).map (Spec.Huff.cost v) = some 12 ∧ (Huffman.fromUnsorted v).map (Spec.Huff.cost v) = some 12 ∧
    Spec.Huff.optCost (v.map (·.2)) = 12 ∧
    Spec.Huff.cost v [(0, [true]), (1, [false, true]), (2, [false, false, true]), (3, [false, false, false])] = 15 := by
  decide +kernel

end Tbx.Props.C20
