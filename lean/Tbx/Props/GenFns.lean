import Tbx.Gen.Fns
import Mathlib.Tactic.Linarith
/-
Theorems about definitions that tools/translate.py REGENERATES from /repo's Rust source on every check
run (lean/Tbx/Gen/Fns.lean).  An edit of partition_id.rs / geometry.rs / bounding_box.rs changes the
subject of these theorems; the kernel re-checks them against what the code says now.
Arithmetic is unbounded `Nat`/`Int`; the bounds under which Rust's fixed-width arithmetic agrees are
explicit hypotheses (`x < 2^31` for a child step of a 32-bit id).
-/
namespace Tbx.Props.GenFns
open Tbx.Gen

theorem leftChild_eq (x : Nat) : pidLeftChild x = 2 * x := by
  show x <<< 1 = 2 * x
  rw [Nat.shiftLeft_eq, Nat.pow_one, Nat.mul_comm]

theorem rightChild_eq (x : Nat) : pidRightChild x = 2 * x + 1 := congrArg (· + 1) (leftChild_eq x)

theorem parent_eq (x : Nat) : pidParent x = max 1 (x / 2) := by
  show max 1 (x >>> 1) = _
  rw [Nat.shiftRight_eq_div_pow, Nat.pow_one]

theorem parent_left_child (x : Nat) (h : 1 ≤ x) : pidParent (pidLeftChild x) = x := by
  rw [leftChild_eq, parent_eq, Nat.mul_div_cancel_left x Nat.zero_lt_two]
  exact Nat.max_eq_right h

theorem parent_right_child (x : Nat) (h : 1 ≤ x) : pidParent (pidRightChild x) = x := by
  rw [rightChild_eq, parent_eq, Nat.mul_add_div Nat.zero_lt_two, Nat.add_zero]
  exact Nat.max_eq_right h

theorem root_parent : pidParent 1 = 1 := by decide

theorem left_child_is_left (x : Nat) : pidIsLeftChild (pidLeftChild x) = true ∧ pidIsRightChild (pidLeftChild x) = false := by
  unfold pidIsLeftChild pidIsRightChild
  rw [leftChild_eq, Nat.mul_mod_right]
  exact ⟨rfl, rfl⟩

theorem right_child_is_right (x : Nat) : pidIsRightChild (pidRightChild x) = true ∧ pidIsLeftChild (pidRightChild x) = false := by
  unfold pidIsLeftChild pidIsRightChild
  rw [rightChild_eq, Nat.mul_add_mod]
  exact ⟨rfl, rfl⟩

theorem make_left_child_eq (x : Nat) : pidMakeLeftChild x = pidLeftChild x := rfl

theorem make_right_child_eq (x : Nat) : pidMakeRightChild x = pidRightChild x := rfl

theorem leftmost_descendant_iter (x k : Nat) : pidLeftmostDescendant x k = pidLeftChild^[k] x := by
  induction k generalizing x with
  | zero => rfl
  | succ k ih =>
    rw [Function.iterate_succ_apply, ← ih]
    show x <<< (k + 1) = (x <<< 1) <<< k
    rw [Nat.add_comm, Nat.shiftLeft_add]

theorem rightmost_descendant_iter (x k : Nat) : pidRightmostDescendant x k = pidRightChild^[k] x := by
  induction k generalizing x with
  | zero => rfl
  | succ k ih =>
    rw [Function.iterate_succ_apply, ← ih, rightChild_eq]
    show x <<< (k + 1) + (1 <<< (k + 1) - 1) = (2 * x + 1) <<< k + (1 <<< k - 1)
    rw [Nat.shiftLeft_eq, Nat.shiftLeft_eq, Nat.shiftLeft_eq, Nat.shiftLeft_eq, Nat.pow_succ, Nat.add_mul,
      Nat.one_mul, Nat.one_mul, Nat.mul_comm 2 x, Nat.mul_assoc, Nat.mul_comm 2]
    have hp : 1 ≤ 2 ^ k := Nat.one_le_two_pow
    omega

theorem level_eq_log2 (x : Nat) (h1 : 1 ≤ x) (h2 : x < 2 ^ 32) : pidLevel x = Nat.log2 x := by
  have hl : Nat.log2 x < 32 := (Nat.log2_lt (Nat.ne_of_gt h1)).mpr h2
  unfold pidLevel leadingZeros32
  rw [if_neg (Nat.ne_of_gt h1)]
  omega

theorem level_root : pidLevel 1 = 0 := by decide

/-- ids below bit 31, so that the child still fits 32 bits -/
theorem level_child (x : Nat) (h1 : 1 ≤ x) (h2 : x < 2 ^ 31) :
    pidLevel (pidLeftChild x) = pidLevel x + 1 ∧ pidLevel (pidRightChild x) = pidLevel x + 1 := by
  have hx : x ≠ 0 := Nat.ne_of_gt h1
  have l3 : Nat.log2 (2 * x + 1) = Nat.log2 x + 1 := by
    rw [Nat.log2_def, if_pos (by omega), Nat.mul_add_div Nat.zero_lt_two]; rfl
  rw [leftChild_eq, rightChild_eq, level_eq_log2 (2 * x) (by omega) (by omega),
    level_eq_log2 (2 * x + 1) (by omega) (by omega), level_eq_log2 x h1 (by omega), Nat.log2_two_mul hx, l3]
  exact ⟨rfl, rfl⟩

/-- non-vacuity: id 5 (level 2) and its children 10, 11 -/
example : pidParent (pidLeftChild 5) = 5 ∧ pidLevel 5 = 2 ∧ pidLevel (pidRightChild 5) = 3 ∧
    pidRightmostDescendant 5 2 = 23 ∧ pidLeftmostDescendant 5 2 = 20 := by decide

theorem cross_product_eq (ox oy ax ay bx b_y : Int) :
    crossProduct ox oy ax ay bx b_y = (ay - oy) * (bx - ox) - (ax - ox) * (b_y - oy) := rfl

theorem clock_wise_iff (ox oy ax ay bx b_y : Int) :
    isClockWiseTurn ox oy ax ay bx b_y = decide (0 < crossProduct ox oy ax ay bx b_y) := by
  simp only [isClockWiseTurn, crossProduct]
  congr 1
  apply propext
  constructor <;> intro h <;> omega

/-- the i64 arithmetic of `cross_product` cannot overflow on valid coordinates: the differences are at most
3.6e8 and 1.8e8 in absolute value, so each product is at most 6.48e16 -/
theorem cross_product_fits_i64 (ox oy ax ay bx b_y : Int)
    (h1 : -90000000 ≤ ox ∧ ox ≤ 90000000) (h2 : -180000000 ≤ oy ∧ oy ≤ 180000000)
    (h3 : -90000000 ≤ ax ∧ ax ≤ 90000000) (h4 : -180000000 ≤ ay ∧ ay ≤ 180000000)
    (h5 : -90000000 ≤ bx ∧ bx ≤ 90000000) (h6 : -180000000 ≤ b_y ∧ b_y ≤ 180000000) :
    -(2 : Int) ^ 63 < crossProduct ox oy ax ay bx b_y ∧ crossProduct ox oy ax ay bx b_y < 2 ^ 63 := by
  rw [cross_product_eq]
  have m1 : ((ay - oy) * (bx - ox)).natAbs ≤ 360000000 * 180000000 :=
    Int.natAbs_mul _ _ ▸ Nat.mul_le_mul (by omega) (by omega)
  have m2 : ((ax - ox) * (b_y - oy)).natAbs ≤ 180000000 * 360000000 :=
    Int.natAbs_mul _ _ ▸ Nat.mul_le_mul (by omega) (by omega)
  generalize (ay - oy) * (bx - ox) = u at m1 ⊢
  generalize (ax - ox) * (b_y - oy) = v at m2 ⊢
  omega

theorem bbox_contains_iff (a b c d x y : Int) :
    bboxContains a b c d x y = true ↔ (a ≤ x ∧ x ≤ c ∧ b ≤ y ∧ y ≤ d) := by
  simp [bboxContains]
  omega

end Tbx.Props.GenFns
