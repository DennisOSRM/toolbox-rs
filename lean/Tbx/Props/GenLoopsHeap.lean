import Tbx.Gen.Loops
import Tbx.Proofs.AHeapInvUp
import Tbx.Proofs.AHeapInvDown
/-
Tie theorems: `AddressableHeap::up_heap` / `down_heap` as regenerated statement by statement from
/repo/src/addressable_binary_heap.rs (`Tbx.Gen.Loops.heapUp`, `Tbx.Gen.Loops.heapDown`, arrays of structs
split into parallel columns by the translator) compute what the hand model `Tbx.AHeap.upHeap` /
`Tbx.AHeap.downHeap` computes, column by column.  No side condition is needed: reading a column out of
bounds gives `0`, which is the column of `default : Elem` / `default : Node`, and writes commute with
`Array.map` unconditionally.
-/
namespace Tbx.Props.GenLoopsHeap
open Tbx Tbx.AHeap

theorem aget_eq_gt {α : Type} [Inhabited α] (a : Array α) (i : Nat) : Tbx.Gen.aget a i = Tbx.gt a i := rfl
theorem aset_eq_st {α : Type} (a : Array α) (i : Nat) (x : α) : Tbx.Gen.aset a i x = Tbx.st a i x := rfl

def hiA (h : Array Elem) : Array Nat := h.map (fun e => e.index)
def hwA (h : Array Elem) : Array Int := h.map (fun e => e.weight)
def nkA (ns : Array Node) : Array Nat := ns.map (fun n => n.key)

def hi (s : Heap) : Array Nat := s.heap.map (·.index)
def hw (s : Heap) : Array Int := s.heap.map (·.weight)
def nk (s : Heap) : Array Nat := s.nodes.map (·.key)

theorem hi_eq (s : Heap) : hi s = hiA s.heap := rfl
theorem hw_eq (s : Heap) : hw s = hwA s.heap := rfl
theorem nk_eq (s : Heap) : nk s = nkA s.nodes := rfl

/-- `key << 1` -/
theorem shl_one (n : Nat) : n <<< 1 = 2 * n := by
  simp [Nat.shiftLeft_eq, Nat.mul_comm]

theorem gt_hiA (h : Array Elem) (i : Nat) : gt (hiA h) i = (gt h i).index := gt_map (fun e : Elem => e.index) rfl h i
theorem gt_hwA (h : Array Elem) (i : Nat) : gt (hwA h) i = (gt h i).weight := gt_map (fun e : Elem => e.weight) rfl h i
theorem gt_nkA (ns : Array Node) (i : Nat) : gt (nkA ns) i = (gt ns i).key := gt_map (fun n : Node => n.key) rfl ns i

theorem st_hiA (h : Array Elem) (i : Nat) (x : Elem) : st (hiA h) i x.index = hiA (st h i x) :=
  st_map (fun e : Elem => e.index) h i x
theorem st_hwA (h : Array Elem) (i : Nat) (x : Elem) : st (hwA h) i x.weight = hwA (st h i x) :=
  st_map (fun e : Elem => e.weight) h i x
theorem st_nkA (ns : Array Node) (i k : Nat) : st (nkA ns) i k = nkA (setKey ns i k) :=
  st_map (fun n : Node => n.key) ns i { gt ns i with key := k }

theorem size_hiA (h : Array Elem) : (hiA h).size = h.size := by simp [hiA]

/-- the three closing writes of the generated `up_heap` / `down_heap`, after a loop that ended with
columns and hole `r` -/
def genClose (a : Array Nat) (b : Array Int) (key : Nat) (r : Array Nat × Array Int × Array Nat × Nat) :
    Unit × Array Nat × Array Int × Array Nat :=
  ((), Tbx.Gen.aset r.1 r.2.2.2 (Tbx.Gen.aget a key), Tbx.Gen.aset r.2.1 r.2.2.2 (Tbx.Gen.aget b key),
    Tbx.Gen.aset r.2.2.1 (Tbx.Gen.aget a key) r.2.2.2)

theorem genClose_cols (h h' : Array Elem) (ns' : Array Node) (key k' : Nat) :
    genClose (hiA h) (hwA h) key (hiA h', hwA h', nkA ns', k') =
      ((), hiA (st h' k' ⟨(gt h key).index, (gt h key).weight⟩),
        hwA (st h' k' ⟨(gt h key).index, (gt h key).weight⟩), nkA (setKey ns' (gt h key).index k')) := by
  simp only [genClose, aget_eq_gt, aset_eq_st, gt_hiA, gt_hwA]
  rw [← st_nkA, ← st_hiA, ← st_hwA]

/-- a `whileFuel` loop with the condition and body of the generated `up_heap` (state order of the generated
code: index column, weight column, key column, `key`, `next_key`), run on the columns, is the model's `upLoop` -/
theorem upLoop_eq_gen {cond : Array Nat × Array Int × Array Nat × Nat × Nat → Bool}
    {body : Array Nat × Array Int × Array Nat × Nat × Nat → Array Nat × Array Int × Array Nat × Nat × Nat} (w : Int)
    (hc : ∀ a b c k n, cond (a, b, c, k, n) = decide (Tbx.Gen.aget b n > w))
    (hb : ∀ a b c k n, body (a, b, c, k, n) =
      (Tbx.Gen.aset a k (Tbx.Gen.aget a n), Tbx.Gen.aset b k (Tbx.Gen.aget b n),
        Tbx.Gen.aset c (Tbx.Gen.aget (Tbx.Gen.aset a k (Tbx.Gen.aget a n)) k) k, n, n >>> 1))
    (fuel : Nat) (h : Array Elem) (ns : Array Node) (key : Nat) :
    Tbx.Gen.whileFuel fuel cond body (hiA h, hwA h, nkA ns, key, key / 2)
      = (hiA (upLoop fuel h ns key w).1, hwA (upLoop fuel h ns key w).1, nkA (upLoop fuel h ns key w).2.1,
         (upLoop fuel h ns key w).2.2, (upLoop fuel h ns key w).2.2 / 2) := by
  induction fuel generalizing h ns key with
  | zero => rfl
  | succ f ih =>
    simp only [Tbx.Gen.whileFuel, upLoop, hc, hb, aget_eq_gt, aset_eq_st, gt_hwA]
    by_cases hg : (gt h (key / 2)).weight > w
    · simp only [hg, decide_true, if_true]
      have := ih (st h key (gt h (key / 2))) (setKey ns (gt (st h key (gt h (key / 2))) key).index key) (key / 2)
      simpa only [gt_hiA, gt_hwA, st_hiA, st_hwA, st_nkA, Nat.shiftRight_eq_div_pow, Nat.pow_one] using this
    · simp [hg]

/-- the generated `up_heap` is the model's `upHeap`, column by column (no side condition) -/
theorem gen_up_eq_model (s : Tbx.AHeap.Heap) (key : Nat) :
    Tbx.Gen.Loops.heapUp (hi s) (hw s) (nk s) key
      = ((), hi (Tbx.AHeap.upHeap s key), hw (Tbx.AHeap.upHeap s key), nk (Tbx.AHeap.upHeap s key)) := by
  unfold Tbx.Gen.Loops.heapUp
  dsimp only
  rw [hi_eq, hw_eq, nk_eq, Nat.shiftRight_eq_div_pow, Nat.pow_one,
    upLoop_eq_gen (Tbx.Gen.aget (hwA s.heap) key) (fun _ _ _ _ _ => rfl) (fun _ _ _ _ _ => rfl)]
  refine (genClose_cols s.heap _ _ key _).trans ?_
  rw [aget_eq_gt, gt_hwA]
  rfl

/-- non-vacuity: sentinel + 3 elements, the last one (weight 1) rises to the root -/
example :
    Tbx.Gen.Loops.heapUp #[0, 0, 1, 2] #[-100, 5, 7, 1] #[1, 2, 3] 3
      = ((), #[0, 2, 1, 0], #[-100, 1, 7, 5], #[3, 2, 1]) := by decide +kernel

/-- the condition of the generated loop of `down_heap`, lambda exactly as it stands in `Tbx.Gen.Loops.heapDown` -/
def genDownCond (s : Bool × Nat × Array Nat × Array Int × Array Nat × Nat) : Bool :=
      (fun (brk_4, next_key_5, self_heap_index_6, self_heap_weight_7, self_nodes_key_8, key_9) => (!brk_4 && (decide (next_key_5 < (self_heap_index_6).size))))
      s

/-- the body of the generated loop of `down_heap`, lambda exactly as it stands in `Tbx.Gen.Loops.heapDown`
    (`weight_2` is the free variable of the closure).  `upLoop_eq_gen` takes the short condition and body of `up_heap`'s
    loop as hypotheses (two equations, closed by `rfl` at the call); this body is too long to be repeated in a
    hypothesis, so it and its condition are named instead and `heapDown_eq_loop` says by `rfl` that they are the
    generated ones. -/
def genDownBody (weight_2 : Int) (s : Bool × Nat × Array Nat × Array Int × Array Nat × Nat) :
    Bool × Nat × Array Nat × Array Int × Array Nat × Nat :=
      (fun (brk_4, next_key_5, self_heap_index_6, self_heap_weight_7, self_nodes_key_8, key_9) =>
      let next_key_sibling_10 : Nat := (next_key_5 + (1 : Nat))
      if ((decide (next_key_sibling_10 < (self_heap_index_6).size)) && (decide ((Tbx.Gen.aget self_heap_weight_7 next_key_5) > (Tbx.Gen.aget self_heap_weight_7 next_key_sibling_10)))) then
        let next_key_11 : Nat := next_key_sibling_10
        if (decide (weight_2 ≤ (Tbx.Gen.aget self_heap_weight_7 next_key_11))) then
          (true, next_key_11, self_heap_index_6, self_heap_weight_7, self_nodes_key_8, key_9)
        else
          let self_heap_index_12 : Array Nat := Tbx.Gen.aset self_heap_index_6 key_9 (Tbx.Gen.aget self_heap_index_6 next_key_11)
          let self_heap_weight_13 : Array Int := Tbx.Gen.aset self_heap_weight_7 key_9 (Tbx.Gen.aget self_heap_weight_7 next_key_11)
          let self_nodes_key_14 : Array Nat := Tbx.Gen.aset self_nodes_key_8 (Tbx.Gen.aget self_heap_index_12 key_9) key_9
          let key_15 : Nat := next_key_11
          let next_key_16 : Nat := (next_key_11 <<< (1 : Nat))
          (brk_4, next_key_16, self_heap_index_12, self_heap_weight_13, self_nodes_key_14, key_15)
      else
        if (decide (weight_2 ≤ (Tbx.Gen.aget self_heap_weight_7 next_key_5))) then
          (true, next_key_5, self_heap_index_6, self_heap_weight_7, self_nodes_key_8, key_9)
        else
          let self_heap_index_17 : Array Nat := Tbx.Gen.aset self_heap_index_6 key_9 (Tbx.Gen.aget self_heap_index_6 next_key_5)
          let self_heap_weight_18 : Array Int := Tbx.Gen.aset self_heap_weight_7 key_9 (Tbx.Gen.aget self_heap_weight_7 next_key_5)
          let self_nodes_key_19 : Array Nat := Tbx.Gen.aset self_nodes_key_8 (Tbx.Gen.aget self_heap_index_17 key_9) key_9
          let key_20 : Nat := next_key_5
          let next_key_21 : Nat := (next_key_5 <<< (1 : Nat))
          (brk_4, next_key_21, self_heap_index_17, self_heap_weight_18, self_nodes_key_19, key_20))
      s

def genDownLoop (weight_2 : Int) (fuel : Nat) (s : Bool × Nat × Array Nat × Array Int × Array Nat × Nat) :
    Bool × Nat × Array Nat × Array Int × Array Nat × Nat :=
  Tbx.Gen.whileFuel fuel genDownCond (genDownBody weight_2) s

theorem genDownLoop_zero (w : Int) (s : Bool × Nat × Array Nat × Array Int × Array Nat × Nat) :
    genDownLoop w 0 s = s := rfl
theorem genDownLoop_succ (w : Int) (f : Nat) (s : Bool × Nat × Array Nat × Array Int × Array Nat × Nat) :
    genDownLoop w (f + 1) s = if genDownCond s then genDownLoop w f (genDownBody w s) else s := rfl

theorem heapDown_eq_loop (a : Array Nat) (b : Array Int) (c : Array Nat) (key : Nat) :
    Tbx.Gen.Loops.heapDown a b c key =
      genClose a b key (genDownLoop (Tbx.Gen.aget b key) a.size (false, key <<< 1, a, b, c, key)).2.2 := rfl

theorem genDownLoop_brk (w : Int) (fuel n : Nat) (a : Array Nat) (b : Array Int) (c : Array Nat) (k : Nat) :
    genDownLoop w fuel (true, n, a, b, c, k) = (true, n, a, b, c, k) := by
  cases fuel with
  | zero => rfl
  | succ f => rw [genDownLoop_succ]; simp [genDownCond]

/-- the generated body on the columns: both of its branches compare with the lighter child and move
it up, as the model does with `minChild` -/
theorem genDownBody_eq (w : Int) (h : Array Elem) (ns : Array Node) (key : Nat) :
    genDownBody w (false, 2 * key, hiA h, hwA h, nkA ns, key) =
      if w ≤ (gt h (minChild h key)).weight then (true, minChild h key, hiA h, hwA h, nkA ns, key)
      else (false, 2 * minChild h key, hiA (st h key (gt h (minChild h key))),
        hwA (st h key (gt h (minChild h key))),
        nkA (setKey ns (gt (st h key (gt h (minChild h key))) key).index key), minChild h key) := by
  unfold minChild
  by_cases hs : 2 * key + 1 < h.size ∧ (gt h (2 * key)).weight > (gt h (2 * key + 1)).weight
  · rw [if_pos hs]
    by_cases hw' : w ≤ (gt h (2 * key + 1)).weight <;>
      simp [genDownBody, aget_eq_gt, aset_eq_st, gt_hwA, gt_hiA, size_hiA, hs, hw', st_hiA, st_hwA, st_nkA,
        shl_one]
  · rw [if_neg hs]
    have hs' : ¬ (2 * key + 1 < h.size ∧ (gt h (2 * key + 1)).weight < (gt h (2 * key)).weight) := hs
    by_cases hw' : w ≤ (gt h (2 * key)).weight <;>
      simp [genDownBody, aget_eq_gt, aset_eq_st, gt_hwA, gt_hiA, size_hiA, hs', hw', st_hiA, st_hwA, st_nkA,
        shl_one]

/-- the generated `whileFuel` loop on the columns (ignoring the flag and `next_key`, which are dead
    after the loop) is the model's `downLoop` -/
theorem downLoop_eq_gen (fuel : Nat) (h : Array Elem) (ns : Array Node) (key : Nat) (w : Int) :
    (genDownLoop w fuel (false, 2 * key, hiA h, hwA h, nkA ns, key)).2.2
      = (hiA (downLoop fuel h ns key w).1, hwA (downLoop fuel h ns key w).1, nkA (downLoop fuel h ns key w).2.1,
         (downLoop fuel h ns key w).2.2) := by
  induction fuel generalizing h ns key with
  | zero => rfl
  | succ f ih =>
    rw [genDownLoop_succ, downLoop_succ]
    have hcond : genDownCond (false, 2 * key, hiA h, hwA h, nkA ns, key) = decide (2 * key < h.size) := by
      simp [genDownCond, size_hiA]
    rw [hcond]
    by_cases hn : 2 * key < h.size
    · rw [decide_eq_true hn, if_pos rfl, if_pos hn, genDownBody_eq]
      split
      · rw [genDownLoop_brk]
      · rw [ih]
    · rw [decide_eq_false hn, if_neg Bool.false_ne_true, if_neg hn]

/-- the generated `down_heap` is the model's `downHeap`, column by column (no side condition) -/
theorem gen_down_eq_model (s : Tbx.AHeap.Heap) (key : Nat) :
    Tbx.Gen.Loops.heapDown (hi s) (hw s) (nk s) key
      = ((), hi (Tbx.AHeap.downHeap s key), hw (Tbx.AHeap.downHeap s key), nk (Tbx.AHeap.downHeap s key)) := by
  rw [heapDown_eq_loop, hi_eq, hw_eq, nk_eq, aget_eq_gt, gt_hwA, shl_one, size_hiA, downLoop_eq_gen, genClose_cols]
  rfl

/-- non-vacuity: sentinel + 3 elements, the root (weight 9) drops below its lighter child -/
example :
    Tbx.Gen.Loops.heapDown #[0, 0, 1, 2] #[-100, 9, 7, 3] #[1, 2, 3] 1
      = ((), #[0, 2, 1, 0], #[-100, 3, 7, 9], #[3, 2, 1]) := by decide +kernel

theorem setKey_map_other {β : Type} (f : Node → β) (hf : ∀ (n : Node) (k : Nat), f { n with key := k } = f n)
    (ns : Array Node) (i k : Nat) : (setKey ns i k).map f = ns.map f := by
  apply Array.ext
  · simp [setKey, st]
  · intro j h1 h2
    have hj : j < ns.size := by simpa using h2
    simp only [setKey, st, Array.getElem_map]
    rw [Array.getElem_setIfInBounds hj]
    split
    · rename_i hij
      subst hij
      rw [hf]
      simp [gt, hj]
    · rfl

theorem upLoop_map_other {β : Type} (f : Node → β) (hf : ∀ (n : Node) (k : Nat), f { n with key := k } = f n)
    (fuel : Nat) (h : Array Elem) (ns : Array Node) (key : Nat) (w : Int) :
    (upLoop fuel h ns key w).2.1.map f = ns.map f := by
  induction fuel generalizing h ns key with
  | zero => simp [upLoop]
  | succ n ih =>
    simp only [upLoop]
    split
    · rw [ih, setKey_map_other f hf]
    · rfl

theorem downLoop_map_other {β : Type} (f : Node → β) (hf : ∀ (n : Node) (k : Nat), f { n with key := k } = f n)
    (fuel : Nat) (h : Array Elem) (ns : Array Node) (key : Nat) (w : Int) :
    (downLoop fuel h ns key w).2.1.map f = ns.map f := by
  induction fuel generalizing h ns key with
  | zero => simp [downLoop]
  | succ n ih =>
    rw [downLoop_succ]
    split
    · split
      · rfl
      · rw [ih, setKey_map_other f hf]
    · rfl

/-- `upHeap` leaves the id / weight / data columns of `nodes` (and `idx`, `wmin`, `wmax`) as they are: the
    three columns of `gen_up_eq_model` are everything `up_heap` writes -/
theorem up_other_fields (s : Tbx.AHeap.Heap) (key : Nat) :
    (Tbx.AHeap.upHeap s key).nodes.map (·.id) = s.nodes.map (·.id)
    ∧ (Tbx.AHeap.upHeap s key).nodes.map (·.weight) = s.nodes.map (·.weight)
    ∧ (Tbx.AHeap.upHeap s key).nodes.map (·.data) = s.nodes.map (·.data)
    ∧ (Tbx.AHeap.upHeap s key).idx = s.idx ∧ (Tbx.AHeap.upHeap s key).wmin = s.wmin
    ∧ (Tbx.AHeap.upHeap s key).wmax = s.wmax := by
  refine ⟨?_, ?_, ?_, upHeap_idx s key, upHeap_wmin s key, upHeap_wmax s key⟩ <;>
    rw [upHeap_nodes, setKey_map_other _ (fun _ _ => rfl), upLoop_map_other _ (fun _ _ => rfl)]

theorem down_other_fields (s : Tbx.AHeap.Heap) (key : Nat) :
    (Tbx.AHeap.downHeap s key).nodes.map (·.id) = s.nodes.map (·.id)
    ∧ (Tbx.AHeap.downHeap s key).nodes.map (·.weight) = s.nodes.map (·.weight)
    ∧ (Tbx.AHeap.downHeap s key).nodes.map (·.data) = s.nodes.map (·.data)
    ∧ (Tbx.AHeap.downHeap s key).idx = s.idx ∧ (Tbx.AHeap.downHeap s key).wmin = s.wmin
    ∧ (Tbx.AHeap.downHeap s key).wmax = s.wmax := by
  refine ⟨?_, ?_, ?_, downHeap_idx s key, downHeap_wmin s key, downHeap_wmax s key⟩ <;>
    rw [downHeap_nodes, setKey_map_other _ (fun _ _ => rfl), downLoop_map_other _ (fun _ _ => rfl)]

/-- the heaps whose columns the two examples above run on -/
def exUp : Heap :=
  { heap := #[⟨0, -100⟩, ⟨0, 5⟩, ⟨1, 7⟩, ⟨2, 1⟩], nodes := #[⟨10, 1, 5, 0⟩, ⟨11, 2, 7, 0⟩, ⟨12, 3, 1, 0⟩],
    idx := [], wmin := -100, wmax := 100 }
def exDown : Heap :=
  { heap := #[⟨0, -100⟩, ⟨0, 9⟩, ⟨1, 7⟩, ⟨2, 3⟩], nodes := #[⟨10, 1, 9, 0⟩, ⟨11, 2, 7, 0⟩, ⟨12, 3, 3, 0⟩],
    idx := [], wmin := -100, wmax := 100 }

/-- non-vacuity of `up_other_fields` / `down_other_fields` -/
example : (Tbx.AHeap.upHeap exUp 3).nodes.map (·.id) = #[10, 11, 12] := by
  rw [(up_other_fields exUp 3).1]; simp [exUp]

example : (Tbx.AHeap.downHeap exDown 1).nodes.map (·.weight) = #[9, 7, 3] := by
  rw [(down_other_fields exDown 1).2.1]; simp [exDown]

end Tbx.Props.GenLoopsHeap
