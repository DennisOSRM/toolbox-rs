import Tbx.Proofs.SearchComplete
import Tbx.Proofs.SearchBfs
import Tbx.Proofs.SearchFuel
/-
C15 — BFS and DFS decide reachability exactly and return valid (BFS: shortest) paths.

The property theorems, the objects of their non-vacuity examples and two facts about fresh objects (`new_disjoint`,
`new_nonempty`); the lemmas behind them are in Tbx/Proofs/Search*.lean.  Registered in Tbx/Audit/C15.lean.
All theorems are about `Search.runWith pop …`, the model of `run_with_filter` of BOTH bfs.rs
(`pop = popFront`) and dfs.rs (`pop = popBack`); unless stated otherwise they hold for every pop
discipline that returns a member of the worklist and keeps the others (`PopOK`).
-/
namespace Tbx.Props.C15
open Tbx Tbx.Search

/-- the object's source and target sets are disjoint (the property's precondition) -/
def DisjointST (sr : Searcher) : Prop := ∀ v, v ∈ sr.sources → gt sr.targetSet v = false

/-- the two disciplines used by the Rust are admissible -/
theorem disciplines_ok : PopOK popFront ∧ PopOK popBack := ⟨popFront_ok, popBack_ok⟩

theorem judge_reach_sound (g : Reach.Graph) (filt : Nat → Bool) (srcs tgts : List Nat) (k : Nat)
    (hc : Reach.closedB g filt (Reach.ball g filt srcs k) = true) :
    Reach.anyTargetIn (Reach.ball g filt srcs k) tgts = true ↔
      ∃ t, t ∈ tgts ∧ Reach.Reachable g filt (· ∈ srcs) t :=
  Reach.anyTargetIn_iff g filt srcs tgts k hc

theorem judge_path_sound (g : Reach.Graph) (filt : Nat → Bool) (srcs tgts p : List Nat) :
    Reach.validPathB g filt srcs tgts p = true ↔ Reach.ValidPath g filt (· ∈ srcs) (· ∈ tgts) p :=
  Reach.validPathB_iff g filt srcs tgts p

theorem judge_edges_sound (g : Reach.Graph) (p es : List Nat) :
    Reach.edgesJoinB g p es = true ↔ Reach.EdgesJoin g p es :=
  Reach.edgesJoinB_iff g p es

theorem judge_shortest_sound (g : Reach.Graph) (filt : Nat → Bool) (srcs tgts : List Nat) (h : Nat) :
    Reach.noShorterB g filt srcs tgts h = true ↔ Reach.NoShorter g filt (· ∈ srcs) (· ∈ tgts) h :=
  Reach.noShorterB_iff g filt srcs tgts h

/-- the unit-test graph of bfs.rs -/
def utGraph : Reach.Graph := fun u =>
  match u with
  | 0 => [(1, 0), (4, 1)] | 1 => [(2, 2), (5, 3)] | 2 => [(3, 4)] | 4 => [(2, 5), (5, 6)] | 5 => [(3, 7)] | _ => []

/-- non-vacuity of the judge theorems: on the unit-test graph the ball of radius 6 is closed, node 5 is reachable
    from 0, `0,1,5` is a valid path joined by edges 0 and 3, and nothing shorter exists -/
example : Reach.closedB utGraph (fun _ => false) (Reach.ball utGraph (fun _ => false) [0] 6) = true ∧
    Reach.anyTargetIn (Reach.ball utGraph (fun _ => false) [0] 6) [5] = true ∧
    Reach.validPathB utGraph (fun _ => false) [0] [5] [0, 1, 5] = true ∧
    Reach.edgesJoinB utGraph [0, 1, 5] [0, 3] = true ∧
    Reach.noShorterB utGraph (fun _ => false) [0] [5] 2 = true := by decide

/-- objects used by the non-vacuity examples: `BFS::new(&[0], &[3], 6)` on the unit-test graph, and a filter that
    removes both edges into node 3 (ids 4 and 7) -/
def exObj : Searcher :=
  { sources := [0], targetSet := #[false, false, false, true, false, false],
    parents := #[some 0, none, none, none, none, none], target := none, wl := [], emptyTargets := false }

def noIn3 : Nat → Bool := fun e => e == 4 || e == 7

example : new [0] [3] 6 = some exObj := rfl

theorem exObj_disjoint : DisjointST exObj := by
  intro v hv
  simp only [exObj, List.mem_singleton] at hv
  subst hv; rfl

/-- flag and the three path views of a result, for the examples -/
def flagOf (r : Res (Bool × Searcher)) : Option Bool :=
  match r with
  | .ok (b, _) => some b
  | _ => none

def viewsOf (g : Graph) (r : Res (Bool × Searcher)) : Option (Option (List Nat) × Option (List Nat) × Option (List Nat)) :=
  match r with
  | .ok (_, s) => some (nodePath s, edgePath g s, pathIter s)
  | _ => none

theorem new_disjoint {srcs tgts : List Nat} {n : Nat} {sr : Searcher} (hn : new srcs tgts n = some sr)
    (hdis : ∀ v, v ∈ srcs → v ∉ tgts) : DisjointST sr := by
  obtain ⟨e1, _, _, _, e5, _, _⟩ := new_spec srcs tgts n sr hn
  intro v hv
  cases hq : gt sr.targetSet v with
  | false => rfl
  | true => exact absurd ((e5 v).mp hq) (hdis v (e1 ▸ hv))

theorem new_nonempty {srcs tgts : List Nat} {n : Nat} {sr : Searcher} (hn : new srcs tgts n = some sr)
    (hne : tgts ≠ []) : sr.emptyTargets = false := by
  rw [(new_spec srcs tgts n sr hn).2.1]
  cases tgts with
  | nil => exact absurd rfl hne
  | cons _ _ => rfl

/-- `found_complete` (any pop discipline): `false` ⇒ no target is reachable from any source through
    unfiltered edges -/
theorem found_complete (pop : List Nat → Option (Nat × List Nat)) (hp : PopOK pop) (g : Graph)
    (filt : Nat → Bool) (sr sr' : Searcher) (hd : DisjointST sr)
    (h : runWith pop g filt sr = .ok (false, sr')) :
    ∀ v, Reach.Reachable g filt (· ∈ sr.sources) v → gt sr.targetSet v = false := by
  obtain ⟨par, r, s', hpar, hl, hb, _⟩ := runWith_ok h
  cases r with
  | some t => simp at hb
  | none =>
    intro v hv
    exact (loop_none_complete g filt (gt sr.targetSet) (· ∈ sr.sources) pop hp _ _ s'
      (init_CInv g filt _ sr par hpar) (fun v hs => (init_marked sr par hpar v).mpr hs) hd hl v hv).2

/-- non-vacuity: DFS and BFS from 0 with target 3 and both edges into 3 filtered explore five nodes and return `false` -/
example : (∃ sr', runWith popBack utGraph noIn3 exObj = .ok (false, sr')) ∧
    (∃ sr', runWith popFront utGraph noIn3 exObj = .ok (false, sr')) ∧ PopOK popBack ∧ DisjointST exObj :=
  ⟨⟨_, rfl⟩, ⟨_, rfl⟩, popBack_ok, exObj_disjoint⟩

/-- what a successful run with a non-empty target set leaves behind: `target` is a target and the parents
    vector contains a tree path from a source to it -/
theorem found_tree (pop : List Nat → Option (Nat × List Nat)) (hp : PopOK pop) (g : Graph)
    (filt : Nat → Bool) (sr sr' : Searcher) (he : sr.emptyTargets = false)
    (h : runWith pop g filt sr = .ok (true, sr')) :
    ∃ t l, sr'.target = some t ∧ gt sr.targetSet t = true ∧
      Tree g filt (· ∈ sr.sources) (gt sr'.parents) t l := by
  obtain ⟨par, r, s', hpar, hl, hb, rfl⟩ := runWith_ok h
  cases r with
  | none => simp [he] at hb
  | some t =>
    obtain ⟨ht, hT⟩ := loop_sound g filt (gt sr.targetSet) (· ∈ sr.sources) pop hp _ _ s' (some t)
      (init_SInv g filt sr par hpar) hl
    obtain ⟨hTt, hm⟩ := hT t rfl
    obtain ⟨l, hl'⟩ := ht t hm
    exact ⟨t, l, rfl, hTt, hl'⟩

/-- `found_sound` (any pop discipline): `true` with a non-empty target set ⇒ the parent chain from `target`,
    as returned by `fetch_node_path`, is a simple path from a source along existing unfiltered edges ending in
    a target -/
theorem found_sound (pop : List Nat → Option (Nat × List Nat)) (hp : PopOK pop) (g : Graph)
    (filt : Nat → Bool) (sr sr' : Searcher) (he : sr.emptyTargets = false)
    (h : runWith pop g filt sr = .ok (true, sr')) :
    ∃ t p, sr'.target = some t ∧ nodePath sr' = some p ∧ p.getLast? = some t ∧
      Reach.ValidPath g filt (· ∈ sr.sources) (fun v => gt sr.targetSet v = true) p := by
  obtain ⟨t, l, h1, h2, h3⟩ := found_tree pop hp g filt sr sr' he h
  exact ⟨t, l, h1, nodePath_tree h1 h3, h3.last, h3.valid h2⟩

/-- non-vacuity: unfiltered DFS and BFS from 0 to 3 succeed with a 3-edge path (DFS: 0,4,5,3; BFS: 0,1,2,3) -/
example : (∃ sr', runWith popBack utGraph (fun _ => false) exObj = .ok (true, sr')) ∧ exObj.emptyTargets = false ∧
    viewsOf utGraph (runWith popBack utGraph (fun _ => false) exObj) = some (some [0, 4, 5, 3], some [1, 6, 7], some [3, 5, 4, 0]) ∧
    viewsOf utGraph (runWith popFront utGraph (fun _ => false) exObj) = some (some [0, 1, 2, 3], some [0, 2, 4], some [3, 2, 1, 0]) :=
  ⟨⟨_, rfl⟩, rfl, by decide, by decide⟩

/-- `paths_coherent`: after a successful run with a non-empty target set the three views agree: the iterator
    yields the node path in reverse, and the edge path has one edge per hop, edge `i` leading from node `i` to
    node `i+1` of the node path -/
theorem paths_coherent (pop : List Nat → Option (Nat × List Nat)) (hp : PopOK pop) (g : Graph)
    (filt : Nat → Bool) (sr sr' : Searcher) (he : sr.emptyTargets = false)
    (h : runWith pop g filt sr = .ok (true, sr')) :
    ∃ p es, nodePath sr' = some p ∧ pathIter sr' = some p.reverse ∧ edgePath g sr' = some es ∧
      Reach.EdgesJoin g p es := by
  obtain ⟨t, l, h1, _, h3⟩ := found_tree pop hp g filt sr sr' he h
  have hlen := h3.length_le
  obtain ⟨es, he1, he2⟩ := edgePathLoop_tree h3 (sr'.parents.size + 1) [] (by omega)
  refine ⟨l, es, nodePath_tree h1 h3, ?_, ?_, he2⟩
  · unfold pathIter
    rw [h1]
    exact iterLoop_tree h3 (sr'.parents.size + 2) (by omega)
  · unfold edgePath
    rw [h1]
    simpa using he1

/-- non-vacuity: with edge 5 (4→2) and edge 3 (1→5) filtered BFS finds 0,1,2,3 through edges 0,2,4 -/
example : (∃ sr', runWith popFront utGraph (fun e => e == 5 || e == 3) exObj = .ok (true, sr')) ∧
    viewsOf utGraph (runWith popFront utGraph (fun e => e == 5 || e == 3) exObj) =
      some (some [0, 1, 2, 3], some [0, 2, 4], some [3, 2, 1, 0]) :=
  ⟨⟨_, rfl⟩, by decide⟩

/-- `empty_targets`: with an empty target set every run that does not panic reports `true` -/
theorem empty_targets (pop : List Nat → Option (Nat × List Nat)) (g : Graph)
    (filt : Nat → Bool) (sr sr' : Searcher) (b : Bool) (he : sr.emptyTargets = true)
    (h : runWith pop g filt sr = .ok (b, sr')) : b = true := by
  obtain ⟨_, r, _, _, _, hb, _⟩ := runWith_ok h
  rw [hb, he, Bool.or_true]

/-- non-vacuity: `BFS::new(&[0,1], &[], 6)` as in the unit test `multi_s_all_query` -/
example : ∃ sr sr', new [0, 1] [] 6 = some sr ∧ sr.emptyTargets = true ∧
    runWith popFront utGraph (fun _ => false) sr = .ok (true, sr') := ⟨_, _, rfl, rfl, rfl⟩

/-- … and with an empty target LIST the marked set is exactly the set of nodes reachable from the sources through
    unfiltered edges (how a caller reads the source side of a minimum cut off a finished run) -/
theorem empty_targets_closure (pop : List Nat → Option (Nat × List Nat)) (hp : PopOK pop) (g : Graph)
    (filt : Nat → Bool) (srcs : List Nat) (n : Nat) (sr sr' : Searcher) (b : Bool)
    (hn : new srcs [] n = some sr) (h : runWith pop g filt sr = .ok (b, sr')) :
    ∀ v, marked sr'.parents v ↔ Reach.Reachable g filt (· ∈ srcs) v := by
  obtain ⟨e1, _, _, _, e5, _, _⟩ := new_spec srcs [] n sr hn
  have hT : ∀ v, gt sr.targetSet v = false := by
    intro v
    cases hv : gt sr.targetSet v with
    | false => rfl
    | true => exact absurd ((e5 v).mp hv) (by simp)
  obtain ⟨par, r, s', hpar, hl, _, rfl⟩ := runWith_ok h
  obtain ⟨ht, hTt⟩ := loop_sound g filt (gt sr.targetSet) (· ∈ sr.sources) pop hp _ _ s' r
    (init_SInv g filt sr par hpar) hl
  cases r with
  | some t =>
    have := (hTt t rfl).1
    rw [hT t] at this
    cases this
  | none =>
    intro v
    rw [← e1]
    constructor
    · intro hm
      obtain ⟨l, hl'⟩ := ht v hm
      exact hl'.reachable
    · intro hr
      exact (loop_none_complete g filt (gt sr.targetSet) (· ∈ sr.sources) pop hp _ _ s'
        (init_CInv g filt _ sr par hpar) (fun v hs => (init_marked sr par hpar v).mpr hs)
        (fun v _ => hT v) hl v hr).1

/-- non-vacuity: from source 4 exactly the nodes 2,3,4,5 get marked -/
example : ∃ sr sr', new [4] [] 6 = some sr ∧ runWith popBack utGraph (fun _ => false) sr = .ok (true, sr') ∧
    (List.range 6).map (fun v => (gt sr'.parents v).isSome) = [false, false, true, true, true, true] :=
  ⟨_, _, rfl, rfl, by decide⟩

/-- headline: on a fresh object over disjoint lists, the flag is `true` iff the target list is empty or some
    target is reachable from some source through unfiltered edges (any pop discipline, so BFS and DFS) -/
theorem search_decides (pop : List Nat → Option (Nat × List Nat)) (hp : PopOK pop) (g : Graph)
    (filt : Nat → Bool) (srcs tgts : List Nat) (n : Nat) (sr sr' : Searcher) (b : Bool)
    (hn : new srcs tgts n = some sr) (hdis : ∀ v, v ∈ srcs → v ∉ tgts)
    (h : runWith pop g filt sr = .ok (b, sr')) :
    b = true ↔ (tgts = [] ∨ ∃ t, t ∈ tgts ∧ Reach.Reachable g filt (· ∈ srcs) t) := by
  obtain ⟨e1, e2, _, _, e5, _, _⟩ := new_spec srcs tgts n sr hn
  have hd := new_disjoint hn hdis
  constructor
  · intro hb
    subst hb
    cases het : sr.emptyTargets with
    | true =>
      left
      rw [e2] at het
      simpa using het
    | false =>
      right
      obtain ⟨t, l, _, h2, h3⟩ := found_tree pop hp g filt sr sr' het h
      refine ⟨t, (e5 t).mp h2, ?_⟩
      rw [← e1]; exact h3.reachable
  · intro hor
    cases hb : b with
    | true => rfl
    | false =>
      subst hb
      have hc := found_complete pop hp g filt sr sr' hd h
      rcases hor with h1 | ⟨t, ht, hr⟩
      · subst h1
        have := empty_targets pop g filt sr sr' false (by rw [e2]; rfl) h
        cases this
      · rw [← e1] at hr
        have := hc t hr
        rw [(e5 t).mpr ht] at this
        cases this

/-- non-vacuity: both values of the flag occur for disjoint non-empty lists -/
example : flagOf (bfsRun 6 utGraph (fun _ => false) [0, 1] [3, 5]) = some true ∧
    flagOf (dfsRun 6 utGraph (fun _ => false) [3] [0]) = some false ∧
    flagOf (dfsRun 6 utGraph noIn3 [0] [3]) = some false := by decide

/-- the part of a result that later observations can see -/
def view (r : Res (Bool × Searcher)) : Res (Bool × Array (Option Nat) × List Nat) :=
  match r with
  | .panic => .panic
  | .fuel => .fuel
  | .ok (b, s) => .ok (b, s.parents, s.wl)

/-- the fields `run_with_filter` reads before overwriting them -/
def SameConfig (a b : Searcher) : Prop :=
  a.sources = b.sources ∧ a.targetSet = b.targetSet ∧ a.emptyTargets = b.emptyTargets ∧
  a.parents.size = b.parents.size

/-- `runs_independent` (one step): `run_with_filter` resets the worklist and the parents, so flag, parents and
    worklist depend only on (graph, filter, sources, targets, number of nodes); and whenever a target was
    discovered the `target` field (hence all three path views) is the same, too -/
theorem runs_independent (pop : List Nat → Option (Nat × List Nat)) (g : Graph) (filt : Nat → Bool)
    (a b : Searcher) (hc : SameConfig a b) :
    view (runWith pop g filt a) = view (runWith pop g filt b) ∧
    (∀ a' b', runWith pop g filt a = .ok (true, a') → runWith pop g filt b = .ok (true, b') →
       a.emptyTargets = false →
       a'.target = b'.target ∧ nodePath a' = nodePath b' ∧ edgePath g a' = edgePath g b' ∧
       pathIter a' = pathIter b') := by
  obtain ⟨c1, c2, c3, c4⟩ := hc
  have hr : resetParents a = resetParents b := by unfold resetParents; rw [c1, c4]
  have hf : runFuel a = runFuel b := by unfold runFuel; rw [c1, c4]
  constructor
  · cases hp : resetParents b with
    | none => unfold runWith; rw [hr, hp]
    | some par =>
      rw [runWith_some pop g filt a par (hr.trans hp), runWith_some pop g filt b par hp, hf, c1, c2, c3]
      cases loop g filt (gt b.targetSet) pop (runFuel b) { par := par, wl := b.sources } <;> rfl
  · intro a' b' ha hb he
    obtain ⟨pa, ra, sa, hpa, hla, hba, rfl⟩ := runWith_ok ha
    obtain ⟨pb, rb, sb, hpb, hlb, _, rfl⟩ := runWith_ok hb
    rw [hr, hpb] at hpa
    cases hpa
    rw [hf, c1, c2, hlb] at hla
    cases hla
    cases ra with
    | none => simp [he] at hba
    | some t => exact ⟨rfl, rfl, rfl, rfl⟩

/-- `run_with_filter` does not change what the next run reads -/
theorem run_keeps_config (pop : List Nat → Option (Nat × List Nat)) (g : Graph) (filt : Nat → Bool)
    (a a' : Searcher) (b : Bool) (h : runWith pop g filt a = .ok (b, a')) : SameConfig a' a := by
  obtain ⟨par, r, s', hpar, hl, _, rfl⟩ := runWith_ok h
  exact ⟨rfl, rfl, rfl, (loop_size g filt _ pop _ _ s' _ hl).trans (resetParents_spec a par hpar).1⟩

/-- non-vacuity: a run on `exObj` that returns (with `false`) -/
example : ∃ a', runWith popBack utGraph noIn3 exObj = .ok (false, a') := ⟨_, rfl⟩

/-- any history of earlier successful runs (with arbitrary graphs, filters and disciplines) -/
inductive After (a : Searcher) : Searcher → Prop where
  | refl : After a a
  | step (pop : List Nat → Option (Nat × List Nat)) (g : Graph) (filt : Nat → Bool) (x y : Searcher) (b : Bool) :
      After a x → runWith pop g filt x = .ok (b, y) → After a y

/-- `runs_independent` (histories): after any sequence of earlier runs on one object, the next run gives what
    it gives on the object before those runs (in particular: on a fresh object) -/
theorem runs_independent_history (a x : Searcher) (hx : After a x)
    (pop : List Nat → Option (Nat × List Nat)) (g : Graph) (filt : Nat → Bool) :
    view (runWith pop g filt x) = view (runWith pop g filt a) ∧
    (∀ x' a', runWith pop g filt x = .ok (true, x') → runWith pop g filt a = .ok (true, a') →
       a.emptyTargets = false →
       nodePath x' = nodePath a' ∧ edgePath g x' = edgePath g a' ∧ pathIter x' = pathIter a') := by
  have hc : SameConfig x a := by
    induction hx with
    | refl => exact ⟨rfl, rfl, rfl, rfl⟩
    | step pop' g' filt' x y b _ hrun ih =>
      obtain ⟨k1, k2, k3, k4⟩ := run_keeps_config pop' g' filt' x y b hrun
      obtain ⟨i1, i2, i3, i4⟩ := ih
      exact ⟨k1.trans i1, k2.trans i2, k3.trans i3, k4.trans i4⟩
  obtain ⟨h1, h2⟩ := runs_independent pop g filt x a hc
  refine ⟨h1, ?_⟩
  intro x' a' hxr har he
  have := h2 x' a' hxr har (by rw [hc.2.2.1]; exact he)
  exact this.2

/-- non-vacuity: an object that first found 3, then failed under the filter, is `After exObj`; its next run gives
    the same views as a run on `exObj` itself although its `target`, parents and worklist fields differ -/
example : ∃ x y, runWith popFront utGraph (fun _ => false) exObj = .ok (true, x) ∧
    runWith popFront utGraph noIn3 x = .ok (false, y) ∧ After exObj y ∧ y.target = some 3 ∧
    y.parents ≠ exObj.parents ∧
    viewsOf utGraph (runWith popFront utGraph (fun e => e == 0) y) = some (some [0, 4, 2, 3], some [1, 5, 4], some [3, 2, 4, 0]) := by
  refine ⟨_, _, rfl, rfl, ?_, rfl, by decide, by decide⟩
  exact .step popFront utGraph noIn3 _ _ false
    (.step popFront utGraph (fun _ => false) exObj _ true .refl rfl) rfl

/-- `bfs_shortest`: with the queue discipline the node path of a successful run (non-empty target set, disjoint
    sources and targets) is a valid path and no target can be reached from any source with fewer unfiltered edges -/
theorem bfs_shortest (g : Graph) (filt : Nat → Bool) (sr sr' : Searcher) (hd : DisjointST sr)
    (he : sr.emptyTargets = false) (h : runWith popFront g filt sr = .ok (true, sr')) :
    ∃ p, nodePath sr' = some p ∧
      Reach.ValidPath g filt (· ∈ sr.sources) (fun v => gt sr.targetSet v = true) p ∧
      Reach.NoShorter g filt (· ∈ sr.sources) (fun v => gt sr.targetSet v = true) (p.length - 1) := by
  obtain ⟨par, r, s', hpar, hl, hb, rfl⟩ := runWith_ok h
  cases r with
  | none => simp [he] at hb
  | some t =>
    obtain ⟨hT, l, hl1, hl2⟩ := loop_bfs g filt (gt sr.targetSet) (· ∈ sr.sources) hd _ _ s' t _
      (init_BInv g filt _ sr par hpar) hl
    exact ⟨l, nodePath_tree rfl hl1, hl1.valid hT, hl2⟩

/-- non-vacuity: BFS from 0 to {3} on the unit-test graph succeeds; its path has 3 edges, and the judge's checker
    confirms that no target is within 2 edges (`noShorterB … 3`) while one is within 3 (`noShorterB … 4` fails) -/
example : (∃ sr', runWith popFront utGraph (fun _ => false) exObj = .ok (true, sr')) ∧ DisjointST exObj ∧
    Reach.noShorterB utGraph (fun _ => false) [0] [3] 3 = true ∧
    Reach.noShorterB utGraph (fun _ => false) [0] [3] 4 = false :=
  ⟨⟨_, rfl⟩, exObj_disjoint, by decide, by decide⟩

/-- the fuel passed by `runWith` is sufficient for both disciplines (they remove exactly one element per pop) -/
theorem fuel_sufficient (pop : List Nat → Option (Nat × List Nat)) (hp : PopLen pop) (g : Graph)
    (filt : Nat → Bool) (sr : Searcher) : runWith pop g filt sr ≠ .fuel := by
  cases hpar : resetParents sr with
  | none => unfold runWith; rw [hpar]; simp
  | some par =>
    have hps := (resetParents_spec sr par hpar).1
    have hne := loop_ne_fuel g filt (gt sr.targetSet) pop hp (runFuel sr) { par := par, wl := sr.sources }
      (by have := unm_le par; simp only [runFuel]; omega)
    rw [runWith_some pop g filt sr par hpar]
    split
    · simp
    · rename_i hl; exact absurd hl hne
    · simp

/-- non-vacuity: both disciplines of the Rust satisfy the hypothesis -/
example : PopLen popFront ∧ PopLen popBack := ⟨popFront_len, popBack_len⟩

theorem fuel_sufficient_bfs_dfs (g : Graph) (filt : Nat → Bool) (sr : Searcher) :
    runWith popFront g filt sr ≠ .fuel ∧ runWith popBack g filt sr ≠ .fuel :=
  ⟨fuel_sufficient _ popFront_len g filt sr, fuel_sufficient _ popBack_len g filt sr⟩

/-- on a graph all of whose edge targets are below `number_of_nodes`, with in-range sources, a run neither panics
    nor runs out of fuel: it returns a flag -/
theorem run_total (pop : List Nat → Option (Nat × List Nat)) (hp : PopOK pop) (hl : PopLen pop) (g : Graph)
    (filt : Nat → Bool) (sr : Searcher) (hs : ∀ v, v ∈ sr.sources → v < sr.parents.size)
    (hg : ∀ u v e, u < sr.parents.size → (v, e) ∈ g u → v < sr.parents.size) :
    ∃ b sr', runWith pop g filt sr = .ok (b, sr') := by
  have hf := fuel_sufficient pop hl g filt sr
  obtain ⟨par, hpar⟩ : ∃ par, resetParents sr = some par := by
    unfold resetParents
    exact setAll_isSome some sr.sources _ (by simpa using hs)
  have hps := (resetParents_spec sr par hpar).1
  have hnp := loop_ne_panic g filt (gt sr.targetSet) pop hp (runFuel sr) { par := par, wl := sr.sources }
    (by simp only; rw [hps]; exact hg) (fun x hx => (init_marked sr par hpar x).mpr hx)
  rw [runWith_some pop g filt sr par hpar] at hf ⊢
  cases hlp : loop g filt (gt sr.targetSet) pop (runFuel sr) { par := par, wl := sr.sources } with
  | panic => exact absurd hlp hnp
  | fuel => rw [hlp] at hf; exact absurd rfl hf
  | done r s' => exact ⟨_, _, rfl⟩

/-- non-vacuity: `exObj` over the unit-test graph satisfies the hypotheses (all edge targets are below 6) -/
example : (∀ v, v ∈ exObj.sources → v < exObj.parents.size) ∧
    (∀ u v e, u < exObj.parents.size → (v, e) ∈ utGraph u → v < exObj.parents.size) := by
  have h : ∀ u < 6, ∀ p ∈ utGraph u, p.1 < 6 := by decide
  exact ⟨by decide, fun u v e hu hm => h u hu (v, e) hm⟩

/-- fresh object over a non-empty target list, successful run: node path, iterator and edge path are three views of
    one simple path from a listed source to a listed target along existing unfiltered edges -/
theorem found_paths_lists (pop : List Nat → Option (Nat × List Nat)) (hp : PopOK pop) (g : Graph)
    (filt : Nat → Bool) (srcs tgts : List Nat) (n : Nat) (sr sr' : Searcher)
    (hn : new srcs tgts n = some sr) (hne : tgts ≠ []) (h : runWith pop g filt sr = .ok (true, sr')) :
    ∃ p es, nodePath sr' = some p ∧ pathIter sr' = some p.reverse ∧ edgePath g sr' = some es ∧
      Reach.ValidPath g filt (· ∈ srcs) (· ∈ tgts) p ∧ Reach.EdgesJoin g p es := by
  obtain ⟨e1, _, _, _, e5, _, _⟩ := new_spec srcs tgts n sr hn
  have he := new_nonempty hn hne
  obtain ⟨p, es, h1, h2, h3, h4⟩ := paths_coherent pop hp g filt sr sr' he h
  obtain ⟨t, p', _, h6, _, h8⟩ := found_sound pop hp g filt sr sr' he h
  rw [h1] at h6
  cases h6
  refine ⟨p, es, h1, h2, h3, ?_, h4⟩
  obtain ⟨⟨s, hs1, hs2⟩, ⟨t', ht1, ht2⟩, hnd, hlk⟩ := h8
  exact ⟨⟨s, hs1, e1 ▸ hs2⟩, ⟨t', ht1, (e5 t').mp ht2⟩, hnd, hlk⟩

/-- BFS on a fresh object over disjoint lists: no listed target can be reached from a listed source with fewer
    unfiltered edges than the node path has -/
theorem bfs_shortest_lists (g : Graph) (filt : Nat → Bool) (srcs tgts : List Nat) (n : Nat) (sr sr' : Searcher)
    (hn : new srcs tgts n = some sr) (hne : tgts ≠ []) (hdis : ∀ v, v ∈ srcs → v ∉ tgts)
    (h : runWith popFront g filt sr = .ok (true, sr')) :
    ∃ p, nodePath sr' = some p ∧ Reach.NoShorter g filt (· ∈ srcs) (· ∈ tgts) (p.length - 1) := by
  obtain ⟨e1, _, _, _, e5, _, _⟩ := new_spec srcs tgts n sr hn
  have he := new_nonempty hn hne
  have hd := new_disjoint hn hdis
  obtain ⟨p, h1, _, h3⟩ := bfs_shortest g filt sr sr' hd he h
  refine ⟨p, h1, ?_⟩
  intro k v hk hw ht
  exact h3 k v hk (e1 ▸ hw) ((e5 v).mpr ht)

/-- non-vacuity for both: `BFS::new(&[0,1], &[3,5], 6)` succeeds on the unit-test graph with the path 1,5 -/
example : ∃ sr sr', new [0, 1] [3, 5] 6 = some sr ∧ runWith popFront utGraph (fun _ => false) sr = .ok (true, sr') ∧
    nodePath sr' = some [1, 5] ∧ (∀ v, v ∈ [0, 1] → v ∉ [3, 5]) :=
  ⟨_, _, rfl, rfl, by decide, by decide⟩

end Tbx.Props.C15
