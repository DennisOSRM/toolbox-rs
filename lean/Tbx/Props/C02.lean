import Tbx.Proofs.FlowSolvers
/-
C02 — the returned node assignment is the canonical minimum cut.

The property theorems with their test vectors; registered in Tbx/Audit/C02.lean.
Spec: for the merged input capacities `c`, a residual graph `r` with `ResInv c r`, conservation, and the
target not reachable from the source through positive residual edges (the state every finished run ends
in; the driver checks exactly this on every real run through `minCutOK`), the assignment `A` is the
set of nodes reachable from the source through positive residual edges.
-/
namespace Tbx.Props.C02
open Tbx Tbx.Flow Tbx.FlowSpec Tbx.FlowTheory

def d1E : List E := [(0,1,10),(1,2,10),(1,3,10),(1,4,3),(2,4,10),(3,4,10)]
def d1R : List E :=
  [(0,1,0),(1,0,10),(1,2,3),(1,3,10),(1,4,0),(2,1,7),(2,4,3),(3,1,0),(3,4,10),(4,1,3),(4,2,7),(4,3,0)]
def d1R' : List E :=
  [(0,1,0),(1,0,10),(1,2,10),(1,3,3),(1,4,0),(2,1,0),(2,4,10),(3,1,7),(3,4,3),(4,1,3),(4,2,0),(4,3,7)]
def d1Edges : List Edge := [⟨0,1,10⟩,⟨1,2,10⟩,⟨1,3,10⟩,⟨1,4,3⟩,⟨2,4,10⟩,⟨3,4,10⟩]
/-- a network whose minimum cut is not unique: 0→1(1), 1→2(1); canonical source side {0} -/
def chainE : List E := [(0,1,1),(1,2,1)]
def chainR : List E := [(0,1,0),(1,0,1),(1,2,0),(2,1,1)]

/-- about the model of `assignment`: on a finished solver whose residual graph has
    valid edge heads, `assignment(src)` returns one bit per node and marks exactly the nodes reachable
    from `src` through residual edges of positive capacity (the least set containing `src` closed under
    such edges) -/
theorem assign_closure (g : Graph) (src : Nat) (hT : TargetsOK g) (r : Array Bool)
    (h : assignmentOut g true src = .ok r) :
    r.size = g.numNodes ∧ (∀ v, gt r v = true ↔ ReachG g src v) ∧
    (∀ (S : Nat → Prop), S src → (∀ u v, S u → PosEdge g u v → S v) → ∀ v, gt r v = true → S v) := by
  obtain ⟨a, b⟩ := assignmentOut_closure g src hT r h
  refine ⟨a, b, ?_⟩
  intro S hs hcl v hv
  have := (b v).mp hv
  induction this with
  | refl => exact hs
  | step hr he ih => exact hcl _ _ (ih ((b _).mpr hr)) he

/-- the final state of the model's Dinic run on D1's witness -/
def d1Final : Option Dinic := (Dinic.fromEdgeList d1Edges 0 4).bind (·.run 100)
/-- the two examples below in one evaluation, so that the kernel runs the model once -/
theorem d1_final_facts :
    (d1Final.map fun d => d.assignment? 0) = some (.ok #[true, false, false, false, false]) ∧
    (d1Final.map fun d => decide (∀ e < 12, 0 < gt d.g.cap e → gt d.g.tgt e < d.g.numNodes)) = some true := by
  decide +kernel
example : (d1Final.map fun d => d.assignment? 0) = some (.ok #[true, false, false, false, false]) :=
  d1_final_facts.1
example : (d1Final.map fun d => decide (∀ e < 12, 0 < gt d.g.cap e → gt d.g.tgt e < d.g.numNodes)) = some true :=
  d1_final_facts.2

/-- after a finished run (residual invariant, conservation, target unreachable)
    the closure `A` of the source contains the source, excludes the target, the capacity of the input
    edges leaving it equals the flow value, that value is the maximum flow, and no separating set has a
    smaller capacity -/
theorem assign_is_min_cut {n : Nat} {c r : Fin n → Fin n → ℤ} {s t : Fin n} (h : ResInv c r)
    (hc : Conserved c r s t) (A : Finset (Fin n)) (hA : ∀ v, v ∈ A ↔ Reach r s v) (ht : t ∉ A) :
    s ∈ A ∧ t ∉ A ∧ cutCap c A = value (resFlow c r) s ∧
    IsMaxFlowValue c s t (value (resFlow c r) s) ∧
    (∀ S' : Finset (Fin n), s ∈ S' → t ∉ S' → cutCap c A ≤ cutCap c S') :=
  have ⟨m, k⟩ := canon_cut h hc A ((hA s).mpr Reach.refl) ht (reach_closed A hA) fun v => (hA v).mp
  ⟨k.src, k.tgt, k.val, m, k.min⟩

-- non-vacuity of `assign_is_min_cut`: the saturated two-node network 0 →(3) 1; the closure of 0 is {0}
def exC : Fin 2 → Fin 2 → ℤ := fun u v => if u = 0 ∧ v = 1 then 3 else 0
def exR : Fin 2 → Fin 2 → ℤ := fun u v => if u = 1 ∧ v = 0 then 3 else 0
theorem exR_reach (v : Fin 2) : Reach exR 0 v ↔ v = 0 := by
  constructor
  · intro h
    induction h with
    | refl => rfl
    | @step u w _ hpos ih =>
      subst ih
      exfalso; revert hpos; revert w; decide
  · intro h; subst h; exact Reach.refl

example : (0 : Fin 2) ∈ ({0} : Finset (Fin 2)) ∧ (1 : Fin 2) ∉ ({0} : Finset (Fin 2)) ∧
    cutCap exC {0} = value (resFlow exC exR) 0 ∧ IsMaxFlowValue exC 0 1 (value (resFlow exC exR) 0) := by
  have key : ∀ u : Fin 2, u ≠ 0 → u ≠ 1 → False := by decide
  have h := assign_is_min_cut (c := exC) (r := exR) (s := 0) (t := 1) ⟨by decide, by decide⟩
    (fun u h0 h1 => (key u h0 h1).elim) {0} (fun v => by rw [exR_reach]; simp) (by decide)
  exact ⟨h.1, h.2.1, h.2.2.1, h.2.2.2.1⟩

/-- the closure is contained in the source side of every minimum cut -/
theorem assign_minimal {n : Nat} {c r : Fin n → Fin n → ℤ} {s t : Fin n} (h : ResInv c r)
    (hc : Conserved c r s t) (A : Finset (Fin n)) (hA : ∀ v, v ∈ A ↔ Reach r s v)
    (S' : Finset (Fin n)) (hs : s ∈ S') (ht : t ∉ S') (heq : cutCap c S' = value (resFlow c r) s) :
    A ⊆ S' :=
  closure_minimal h hc A (fun v => (hA v).mp) S' hs ht heq

/-- the set is a function of (c, s, t) alone — two finished runs, with
    whatever augmenting paths, end with the same closure -/
theorem assign_solver_independent {n : Nat} {c r1 r2 : Fin n → Fin n → ℤ} {s t : Fin n}
    (h1 : ResInv c r1) (hc1 : Conserved c r1 s t) (h2 : ResInv c r2) (hc2 : Conserved c r2 s t)
    (A1 A2 : Finset (Fin n)) (hA1 : ∀ v, v ∈ A1 ↔ Reach r1 s v) (hA2 : ∀ v, v ∈ A2 ↔ Reach r2 s v)
    (ht1 : t ∉ A1) (ht2 : t ∉ A2) : A1 = A2 := by
  have k1 := (canon_cut h1 hc1 A1 ((hA1 s).mpr Reach.refl) ht1 (reach_closed A1 hA1) fun v => (hA1 v).mp).2
  have k2 := (canon_cut h2 hc2 A2 ((hA2 s).mpr Reach.refl) ht2 (reach_closed A2 hA2) fun v => (hA2 v).mp).2
  exact (k1.unique k2).2

/-- the EdmondsKarp / FordFulkerson models, end to end: for every edge list with
    non-negative capacities and every source ≠ target, after a `run` that returns, `assignment(s)`
    yields one bit per node; the set contains s, excludes t, the merged input capacity leaving it equals
    the reported flow, which is the maximum flow; it is a minimum cut and it is contained in every
    minimum cut -/
theorem ek_ff_assignment_canonical (es : List Edge) (s t : Nat) (hnn : ∀ e, e ∈ es → 0 ≤ e.cap)
    (hst : s ≠ t) (hN : nNodes (es.map toE) ≤ INV) (pop : List Nat → Option (Nat × List Nat))
    (hp : PopOK pop) (fuel : Nat) (sv' : Solver)
    (h : (Solver.fromEdgeList es s t).run pop fuel = some sv')
    (bits : Array Bool) (hb : sv'.assignment? s = .ok bits) :
    ∃ (hs : s < nNodes (es.map toE)) (ht : t < nNodes (es.map toE)),
      let n := nNodes (es.map toE)
      let c := cF (es.map toE) n
      let A := setOf n (fun v => gt bits v)
      bits.size = n ∧ ⟨s, hs⟩ ∈ A ∧ ⟨t, ht⟩ ∉ A ∧ cutCap c A = sv'.maxFlow ∧
      IsMaxFlowValue c ⟨s, hs⟩ ⟨t, ht⟩ sv'.maxFlow ∧
      (∀ S' : Finset (Fin n), ⟨s, hs⟩ ∈ S' → ⟨t, ht⟩ ∉ S' → cutCap c A ≤ cutCap c S') ∧
      (∀ S' : Finset (Fin n), ⟨s, hs⟩ ∈ S' → ⟨t, ht⟩ ∉ S' → cutCap c S' = sv'.maxFlow → A ⊆ S') := by
  obtain ⟨hs, ht, hq⟩ := fromEdgeList_run es s t hnn hst hN pop hp fuel sv' h
  refine ⟨hs, ht, ?_⟩
  have hb' : assignmentOut sv'.g true s = .ok bits := by
    unfold Solver.assignment? at hb; rw [hq.fin] at hb; exact hb
  obtain ⟨b1, k⟩ := assignment_canonical sv'.g sv'.maxFlow hq.fi hq.nr bits hb'
  exact ⟨b1, k.src, k.tgt, k.val, hq.max, k.min, k.canon⟩

example : (((Solver.fromEdgeList d1Edges 0 4).runEK 100).map fun sv => sv.assignment? 0) =
    some (.ok #[true, false, false, false, false]) := by decide +kernel

/-- the same for the Dinic model -/
theorem dinic_assignment_canonical (es : List Edge) (s t : Nat) (hnn : ∀ e, e ∈ es → 0 ≤ e.cap)
    (hst : s ≠ t) (hN : nNodes (es.map toE) + 2 < INV) (d : Dinic)
    (hd : Dinic.fromEdgeList es s t = some d) (fuel : Nat) (d' : Dinic) (h : d.run fuel = some d')
    (bits : Array Bool) (hb : d'.assignment? s = .ok bits) :
    ∃ (hs : s < nNodes (es.map toE)) (ht : t < nNodes (es.map toE)),
      let n := nNodes (es.map toE)
      let c := cF (es.map toE) n
      let A := setOf n (fun v => gt bits v)
      bits.size = n ∧ ⟨s, hs⟩ ∈ A ∧ ⟨t, ht⟩ ∉ A ∧ cutCap c A = d'.maxFlow ∧
      IsMaxFlowValue c ⟨s, hs⟩ ⟨t, ht⟩ d'.maxFlow ∧
      (∀ S' : Finset (Fin n), ⟨s, hs⟩ ∈ S' → ⟨t, ht⟩ ∉ S' → cutCap c A ≤ cutCap c S') ∧
      (∀ S' : Finset (Fin n), ⟨s, hs⟩ ∈ S' → ⟨t, ht⟩ ∉ S' → cutCap c S' = d'.maxFlow → A ⊆ S') :=
  let ⟨hs, ht, b1, m, k⟩ := Flow.dinic_assignment es s t hnn hst hN d hd fuel d' h bits hb
  ⟨hs, ht, b1, k.src, k.tgt, k.val, m, k.min, k.canon⟩

/-- `assignment(source)` on a finished solver returns `Ok` within its fuel (each node is marked at most
    once) -/
theorem assignment_returns (g : Graph) (hT : TargetsOK g) (src : Nat) (hs : src < g.numNodes) :
    ∃ r, assignmentOut g true src = .ok r :=
  assignmentOut_total g hT src hs

/-- the three models, total: for every edge list with non-negative capacities and
    every pair of distinct nodes s, t, each model — run with the fuel the driver passes — returns,
    `assignment(s)` is `Ok bits` with the SAME bit vector for the three, and the set it denotes contains s,
    excludes t, the merged input capacity leaving it equals the reported flow value, which is the maximum
    flow; it is a minimum cut and it is contained in every minimum cut (the canonical one) -/
theorem solvers_return_canonical_cut (es : List Edge) (s t : Nat) (hnn : ∀ e, e ∈ es → 0 ≤ e.cap)
    (hst : s ≠ t) (hs : s < nNodes (es.map toE)) (ht : t < nNodes (es.map toE))
    (hN : nNodes (es.map toE) + 2 < INV) :
    ∃ (bits : Array Bool) (x : ℤ) (d d' : Dinic) (ek ff : Solver),
      Dinic.fromEdgeList es s t = some d ∧ d.run ((es.map Edge.cap).sum.toNat + 2) = some d' ∧
      (Solver.fromEdgeList es s t).runEK ((es.map Edge.cap).sum.toNat + 2) = some ek ∧
      (Solver.fromEdgeList es s t).runFF ((es.map Edge.cap).sum.toNat + 2) = some ff ∧
      d'.maxFlow? = .ok x ∧ ek.maxFlow? = .ok x ∧ ff.maxFlow? = .ok x ∧
      d'.assignment? s = .ok bits ∧ ek.assignment? s = .ok bits ∧ ff.assignment? s = .ok bits ∧
      bits.size = nNodes (es.map toE) ∧
      (let n := nNodes (es.map toE)
       let c := cF (es.map toE) n
       let A := setOf n (fun v => gt bits v)
       ⟨s, hs⟩ ∈ A ∧ ⟨t, ht⟩ ∉ A ∧ cutCap c A = x ∧ IsMaxFlowValue c ⟨s, hs⟩ ⟨t, ht⟩ x ∧
       (∀ S' : Finset (Fin n), ⟨s, hs⟩ ∈ S' → ⟨t, ht⟩ ∉ S' → cutCap c A ≤ cutCap c S') ∧
       (∀ S' : Finset (Fin n), ⟨s, hs⟩ ∈ S' → ⟨t, ht⟩ ∉ S' → cutCap c S' = x → A ⊆ S')) :=
  Flow.solvers_return_canonical_cut es s t hnn hst hs ht hN

example : nNodes (d1Edges.map toE) = 5 ∧ (∀ e, e ∈ d1Edges → 0 ≤ e.cap) := by decide

/-- the judge's check is sound: if `minCutOK` accepts a solver's (residual graph, value, bit vector)
    then the value is the maximum flow, the bit vector contains s, not t, the input edges leaving it
    carry exactly the value, it is the positive-residual closure of s, it is a minimum cut and it is
    contained in every minimum cut.  All hypotheses of `assign_is_min_cut`, `assign_minimal` and
    `assign_solver_independent` are discharged by the executable check, on every real run -/
theorem minCutOK_sound (es : List E) (s t : Nat) (res : List E) (x : ℤ) (bits : List Bool)
    (h : minCutOK es s t res x bits = true) :
    ∃ (hs : s < nNodes es) (ht : t < nNodes es),
      let n := nNodes es
      let c := cF es n
      let A := setOf n (fun v => bits.getD v false)
      IsMaxFlowValue c ⟨s, hs⟩ ⟨t, ht⟩ x ∧
      ⟨s, hs⟩ ∈ A ∧ ⟨t, ht⟩ ∉ A ∧ cutCap c A = x ∧ cutCapL es (fun v => bits.getD v false) = x ∧
      (∀ v, v ∈ A ↔ Reach (cF res n) ⟨s, hs⟩ v) ∧
      (∀ S' : Finset (Fin n), ⟨s, hs⟩ ∈ S' → ⟨t, ht⟩ ∉ S' → cutCap c A ≤ cutCap c S') ∧
      (∀ S' : Finset (Fin n), ⟨s, hs⟩ ∈ S' → ⟨t, ht⟩ ∉ S' → cutCap c S' = x → A ⊆ S') :=
  FlowTheory.minCutOK_sound es s t res x bits h

theorem d1_accepted : minCutOK d1E 0 4 d1R 10 [true, false, false, false, false] = true := by decide +kernel
example : minCutOK d1E 0 4 d1R 10 [true, false, false, false, false] = true := d1_accepted
example : minCutOK d1E 0 4 d1R' 10 [true, false, false, false, false] = true := by decide +kernel
example : minCutOK chainE 0 2 chainR 1 [true, false, false] = true := by decide +kernel
/-- {0,1} is also a minimum cut of the chain, but not the canonical one: rejected -/
example : minCutOK chainE 0 2 chainR 1 [true, true, false] = false := by decide +kernel

/-- two accepted observations of the same input carry the same bit vector (what the driver's D-line
    comparison between the three solvers and the model relies on) -/
theorem accepted_assignments_agree (es : List E) (s t : Nat) (r1 r2 : List E) (x1 x2 : ℤ)
    (b1 b2 : List Bool) (h1 : minCutOK es s t r1 x1 b1 = true) (h2 : minCutOK es s t r2 x2 b2 = true) :
    b1 = b2 := by
  obtain ⟨_, _, _, sA1, tA1, c1, _, _, m1, min1⟩ := FlowTheory.minCutOK_sound es s t r1 x1 b1 h1
  obtain ⟨_, _, _, sA2, tA2, c2, _, _, m2, min2⟩ := FlowTheory.minCutOK_sound es s t r2 x2 b2 h2
  exact list_eq_of_setOf_eq (minCutOK_length es s t r1 x1 b1 h1) (minCutOK_length es s t r2 x2 b2 h2)
    (CanonCut.unique ⟨sA1, tA1, c1, m1, min1⟩ ⟨sA2, tA2, c2, m2, min2⟩).2

/-- after a completed run of the Dinic model, `k` further `run()` calls on the same
    object leave the source-side assignment exactly as it was (the residual graph is untouched,
    `runAgainN_fixed`) -/
theorem dinic_rerun_same_cut (es : List Edge) (s t : Nat) (hnn : ∀ e, e ∈ es → 0 ≤ e.cap) (hst : s ≠ t)
    (hN : nNodes (es.map toE) + 2 < INV) (d : Dinic) (hd : Dinic.fromEdgeList es s t = some d)
    (fuel : Nat) (d' : Dinic) (h : d.run fuel = some d') (fuel' k src : Nat) :
    ∃ d'', Dinic.runAgainN (fuel' + 1) k d' = some d'' ∧ d''.assignment? src = d'.assignment? src := by
  obtain ⟨hs, ht, hq, _⟩ := run_spec es s t hnn hst hN d hd fuel d' h
  obtain ⟨d'', h2, _, g2, q2⟩ := runAgainN_fixed (fun e => hst (Fin.mk.inj e)) hN fuel' k d' hq
  refine ⟨d'', h2, ?_⟩
  unfold Dinic.assignment?; rw [g2, q2.fin, hq.fin]

/-- the same for EdmondsKarp / FordFulkerson -/
theorem ek_ff_rerun_same_cut (es : List Edge) (s t : Nat) (hnn : ∀ e, e ∈ es → 0 ≤ e.cap) (hst : s ≠ t)
    (hN : nNodes (es.map toE) ≤ INV) (pop : List Nat → Option (Nat × List Nat)) (hp : PopOK pop)
    (hl : PopLen pop) (fuel : Nat) (sv' : Solver) (h : (Solver.fromEdgeList es s t).run pop fuel = some sv')
    (fuel' k src : Nat) :
    ∃ sv'', Solver.runN pop (fuel' + 1) k sv' = some sv'' ∧ sv''.assignment? src = sv'.assignment? src := by
  obtain ⟨s2, h2, _, g2, f2, f1⟩ := Flow.ek_ff_rerun es s t hnn hst hN pop hp hl fuel sv' h fuel' k
  refine ⟨s2, h2, ?_⟩
  unfold Solver.assignment?; rw [g2, f2, f1]

/-- the tabulated checker the judge executes is the reference checker -/
theorem judge_checker_eq (es : List E) (s t : Nat) (res : List E) (x : ℤ) (bits : List Bool) :
    minCutFast es s t res x bits = minCutOK es s t res x bits := minCutFast_eq es s t res x bits

example : minCutFast d1E 0 4 d1R 10 [true, false, false, false, false] = true :=
  (judge_checker_eq ..).trans d1_accepted

end Tbx.Props.C02
