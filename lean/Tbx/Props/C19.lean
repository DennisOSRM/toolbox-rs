import Tbx.Proofs.GeoBBox
import Tbx.Proofs.GeoZOrder
import Tbx.Proofs.GeoScaffold
import Tbx.Proofs.GeoHullSpec
import Tbx.Proofs.GeoHullI64
import Tbx.Proofs.MercatorReal
/-
C19 — geometric primitives: hulls enclose, z-order is total, projections invert.

The property theorems (helper lemmas live in Tbx/Proofs/Geo*.lean), most with a non-vacuity example.  Registered in
Tbx/Audit/C19.lean.  The floating-point clauses (box distance, Mercator and tile inverses) are judged on the real
code's bit patterns (Tbx/Drv/C19.lean); of these only the Mercator latitude inverse is stated here, over the
reals, and proved in part (`mercator_inverse_real_partial`, `mercator_inverse_real_statement`).
Every clause is also tested on every generated case with the kernel-checked checkers of
Tbx/Spec/Geometry.lean.
-/
namespace Tbx.Props.C19
open Tbx Tbx.Geo

/-- for valid coordinates no intermediate of `cross_product` / `is_clock_wise_turn` leaves the i64 range
(every checked step returns `some`), the results are the integer cross product and its sign test -/
theorem cross_no_overflow (o a b : Coord) (ho : ValidCoord o) (ha : ValidCoord a) (hb : ValidCoord b) :
    crossI64 o a b = some (cross o a b) ∧ isCWI64 o a b = some (isCW o a b) ∧
    (isCW o a b = true ↔ 0 < cross o a b) :=
  crossI64_eq ho ha hb

/-- non-vacuity: the extreme corners of the range are valid and give the largest products -/
example : ValidCoord ⟨90000000, -180000000⟩ ∧ ValidCoord ⟨-90000000, 180000000⟩ ∧ ValidCoord ⟨90000000, 180000000⟩ ∧
    crossI64 ⟨90000000, -180000000⟩ ⟨-90000000, 180000000⟩ ⟨90000000, 180000000⟩ = some 64800000000000000 := by
  decide +kernel
/-- the range hypothesis is needed: on arbitrary i32 coordinates the product leaves the i64 range -/
example : crossI64 ⟨-2147483648, -2147483648⟩ ⟨2147483647, 2147483647⟩ ⟨2147483647, -2147483648⟩ = none := by
  decide +kernel

/-- `contains` is true exactly for the coordinates between the corners -/
theorem bbox_contains_iff (b : BoxCorners) (q : Coord) : boxContains b q = true ↔ Between b q :=
  boxContains_iff b q

example : boxContains ⟨10, 10, 20, 20⟩ ⟨15, 15⟩ = true ∧ boxContains ⟨10, 10, 20, 20⟩ ⟨9, 15⟩ = false := by decide +kernel

/-- `extend_with` only grows: everything contained in either box is contained afterwards, and the result
is the least such box (componentwise join of the corners) -/
theorem bbox_extend_mono (b o : BoxCorners) :
    (∀ q, Between b q → Between (boxExtend b o) q) ∧ (∀ q, Between o q → Between (boxExtend b o) q) ∧
    boxExtend b o = joinCorners b o ∧
    (∀ r : BoxCorners,
      (r.minLat ≤ b.minLat ∧ r.minLon ≤ b.minLon ∧ b.maxLat ≤ r.maxLat ∧ b.maxLon ≤ r.maxLon) →
      (r.minLat ≤ o.minLat ∧ r.minLon ≤ o.minLon ∧ o.maxLat ≤ r.maxLat ∧ o.maxLon ≤ r.maxLon) →
      r.minLat ≤ (boxExtend b o).minLat ∧ r.minLon ≤ (boxExtend b o).minLon ∧
      (boxExtend b o).maxLat ≤ r.maxLat ∧ (boxExtend b o).maxLon ≤ r.maxLon) :=
  ⟨fun _ h => between_extend_left h, fun _ h => between_extend_right h, rfl, fun _ hb ho => extend_least hb ho⟩

example : Between ⟨10, -20, 15, -10⟩ ⟨12, -15⟩ ∧ ¬ Between ⟨12, 0, 14, 10⟩ ⟨12, -15⟩ ∧
    boxExtend ⟨10, -20, 15, -10⟩ ⟨12, 0, 14, 10⟩ = ⟨10, -20, 15, 10⟩ := by decide +kernel

/-- `from_coordinates` of a non-empty list of i32 coordinates has the componentwise minimum and maximum as corners
(each corner value is attained, every coordinate is inside), so `contains` holds exactly between them -/
theorem bbox_from_coordinates (cs : List Coord) (hne : cs ≠ []) (hI : ∀ c ∈ cs, CoordI32 c) :
    IsBoxOf (boxFromCoordinates cs) cs ∧
    ∀ q, boxContains (boxFromCoordinates cs) q = true ↔
      (∃ c ∈ cs, c.lat ≤ q.lat) ∧ (∃ c ∈ cs, q.lat ≤ c.lat) ∧ (∃ c ∈ cs, c.lon ≤ q.lon) ∧ (∃ c ∈ cs, q.lon ≤ c.lon) := by
  have h := boxFromCoordinates_isBoxOf cs hne hI
  exact ⟨h, fun q => (boxContains_iff _ q).trans (isBoxOf_between_iff h q)⟩

example : ([⟨11, 50⟩, ⟨50, 37⟩] : List Coord) ≠ [] ∧ (∀ c ∈ ([⟨11, 50⟩, ⟨50, 37⟩] : List Coord), CoordI32 c) ∧
    boxFromCoordinates [⟨11, 50⟩, ⟨50, 37⟩] = ⟨11, 37, 50, 50⟩ := by decide +kernel

theorem judge_box_sound (b : BoxCorners) (cs : List Coord) : isBoxOfB b cs = true ↔ IsBoxOf b cs :=
  isBoxOfB_iff b cs

/-- `zorder_cmp` is the comparison of the interleaved keys: sign bits flipped, latitude the more
significant bit of every pair -/
theorem zorder_key (a b : Coord) (ha : CoordI32 a) (hb : CoordI32 b) :
    zorderCmp a b = compare (zkey a) (zkey b) :=
  zorderCmp_eq_key a b ha hb

example : CoordI32 ⟨-1, 5⟩ ∧ CoordI32 ⟨0, -7⟩ ∧ zorderCmp ⟨-1, 5⟩ ⟨0, -7⟩ = .lt ∧ zkey ⟨-1, 5⟩ < zkey ⟨0, -7⟩ := by
  decide +kernel

/-- hence a strict total order consistent with equality -/
theorem zorder_strict_total (a b c : Coord) (ha : CoordI32 a) (hb : CoordI32 b) (hc : CoordI32 c) :
    zorderCmp a a = .eq ∧
    (zorderCmp a b = .eq ↔ a = b) ∧
    (zorderCmp a b = .lt ↔ zorderCmp b a = .gt) ∧
    (zorderCmp a b = .lt → zorderCmp b c = .lt → zorderCmp a c = .lt) ∧
    (zorderCmp a b = .lt ∨ a = b ∨ zorderCmp a b = .gt) :=
  zorderCmp_strict_total a b c ha hb hc

example : CoordI32 ⟨-2147483648, 2147483647⟩ ∧ CoordI32 ⟨2147483647, -2147483648⟩ ∧ CoordI32 ⟨0, 1⟩ := by decide +kernel

/-- up to three points are returned as they are -/
theorem hull_small (pts : List Coord) (h : pts.length ≤ 3) : monotoneChain pts = pts :=
  if_pos h

example : monotoneChain [⟨33424732, -114905286⟩, ⟨33412827, -114981799⟩, ⟨33440700, -114920131⟩] =
    [⟨33424732, -114905286⟩, ⟨33412827, -114981799⟩, ⟨33440700, -114920131⟩] := by decide +kernel

/-- every vertex of the returned hull is an input point -/
theorem hull_subset (pts : List Coord) : ∀ v ∈ monotoneChain pts, v ∈ pts :=
  monotoneChain_subset pts

example : monotoneChain [⟨0, 0⟩, ⟨0, 2⟩, ⟨2, 2⟩, ⟨2, 0⟩, ⟨1, 1⟩, ⟨0, 1⟩] = [⟨0, 0⟩, ⟨0, 2⟩, ⟨2, 2⟩, ⟨2, 0⟩] := by decide +kernel

/-- stack invariant: in each of the two chains (the stack after each pass, in push order) every three
consecutive points make a strict turn (`cross > 0`), and the output is the lower chain without its last
point followed by the upper chain without its last point -/
theorem hull_chain_turns (pts : List Coord) :
    ConsecTurns (lowerStack (sortLonLat pts)).reverse ∧
    ConsecTurns (lowerStack (sortLonLat pts).reverse).reverse ∧
    (3 < pts.length → monotoneChain pts =
      (lowerStack (sortLonLat pts)).reverse.dropLast ++ (lowerStack (sortLonLat pts).reverse).reverse.dropLast) :=
  ⟨lowerStack_consecTurns _, lowerStack_consecTurns _, monotoneChain_eq pts⟩

/-- non-vacuity: a chain with an actual triple (and a popped point (1,1)) -/
example : (lowerStack (sortLonLat [⟨0, 0⟩, ⟨1, 1⟩, ⟨0, 2⟩, ⟨3, 3⟩, ⟨3, 0⟩])).reverse = [⟨0, 0⟩, ⟨0, 2⟩, ⟨3, 3⟩] ∧
    [(⟨0, 0⟩ : Coord), ⟨0, 2⟩, ⟨3, 3⟩] <:+: [⟨0, 0⟩, ⟨0, 2⟩, ⟨3, 3⟩] ∧ 0 < cross ⟨0, 0⟩ ⟨0, 2⟩ ⟨3, 3⟩ := by
  refine ⟨by decide +kernel, List.infix_refl _, by decide +kernel⟩

/-- more than three points without any strict turn among them (all collinear, in particular all equal):
the hull is the smallest and the largest point of the (lon, lat) order, which are input points bounding
all others; all points equal: that point twice -/
theorem hull_degenerate (pts : List Coord) (hn : 3 < pts.length)
    (hflat : ∀ o ∈ pts, ∀ a ∈ pts, ∀ p ∈ pts, cross o a p = 0) :
    ∃ lo hi, monotoneChain pts = [lo, hi] ∧ lo ∈ pts ∧ hi ∈ pts ∧
      (sortLonLat pts).head? = some lo ∧ (sortLonLat pts).getLast? = some hi ∧
      (∀ q ∈ pts, lonLatLe lo q = true ∧ lonLatLe q hi = true) ∧
      ((∀ q ∈ pts, ∀ q' ∈ pts, q = q') → lo = hi) :=
  monotoneChain_flat pts hn hflat

/-- non-vacuity: a collinear input with duplicates, and four equal points -/
example : (∀ o ∈ ([⟨1, 1⟩, ⟨3, 3⟩, ⟨2, 2⟩, ⟨2, 2⟩, ⟨0, 0⟩] : List Coord), ∀ a ∈ ([⟨1, 1⟩, ⟨3, 3⟩, ⟨2, 2⟩, ⟨2, 2⟩, ⟨0, 0⟩] : List Coord),
      ∀ p ∈ ([⟨1, 1⟩, ⟨3, 3⟩, ⟨2, 2⟩, ⟨2, 2⟩, ⟨0, 0⟩] : List Coord), cross o a p = 0) ∧
    monotoneChain [⟨1, 1⟩, ⟨3, 3⟩, ⟨2, 2⟩, ⟨2, 2⟩, ⟨0, 0⟩] = [⟨0, 0⟩, ⟨3, 3⟩] ∧
    monotoneChain [⟨5, 7⟩, ⟨5, 7⟩, ⟨5, 7⟩, ⟨5, 7⟩] = [⟨5, 7⟩, ⟨5, 7⟩] := by decide +kernel

/-- the hull of more than three points encloses every input point: each input point lies on the left of
(or on) every directed edge of the returned polygon (orientation +1: `cross > 0` is the inner side).
Loop invariant in Tbx/Proofs/GeoEnclose.lean, four orientation lemmas in Tbx/Proofs/GeoPlane.lean. -/
theorem hull_encloses (pts : List Coord) (hn : 3 < pts.length) : Encloses 1 (monotoneChain pts) pts :=
  monotoneChain_encloses pts hn

/-- non-vacuity: an input with interior, collinear-boundary and duplicate points -/
example : 3 < ([⟨0, 0⟩, ⟨0, 2⟩, ⟨2, 2⟩, ⟨2, 0⟩, ⟨1, 1⟩, ⟨0, 1⟩, ⟨2, 2⟩] : List Coord).length ∧
    monotoneChain [⟨0, 0⟩, ⟨0, 2⟩, ⟨2, 2⟩, ⟨2, 0⟩, ⟨1, 1⟩, ⟨0, 1⟩, ⟨2, 2⟩] = [⟨0, 0⟩, ⟨0, 2⟩, ⟨2, 2⟩, ⟨2, 0⟩] ∧
    ¬ Encloses 1 [⟨0, 0⟩, ⟨0, 2⟩, ⟨2, 2⟩] [⟨0, 0⟩, ⟨0, 2⟩, ⟨2, 2⟩, ⟨2, 0⟩] := by
  refine ⟨by decide +kernel, by decide +kernel, ?_⟩
  rw [← enclosesB_iff]; decide +kernel

/-- … and, unless all input points are collinear, is globally strictly convex: at least three pairwise
different vertices, and every vertex other than an edge's own end points lies strictly on the inner side
of that edge (Tbx/Proofs/GeoConvex.lean, GeoConvexAsm.lean) -/
theorem hull_strictly_convex (pts : List Coord) (hn : 3 < pts.length)
    (hnd : ∃ o ∈ pts, ∃ a ∈ pts, ∃ p ∈ pts, cross o a p ≠ 0) : StrictlyConvex 1 (monotoneChain pts) :=
  monotoneChain_strictlyConvex pts hn hnd

example : (∃ o ∈ ([⟨0, 0⟩, ⟨0, 2⟩, ⟨2, 2⟩, ⟨2, 0⟩, ⟨1, 1⟩] : List Coord), ∃ a ∈ ([⟨0, 0⟩, ⟨0, 2⟩, ⟨2, 2⟩, ⟨2, 0⟩, ⟨1, 1⟩] : List Coord),
    ∃ p ∈ ([⟨0, 0⟩, ⟨0, 2⟩, ⟨2, 2⟩, ⟨2, 0⟩, ⟨1, 1⟩] : List Coord), cross o a p ≠ 0) ∧
    ¬ StrictlyConvex 1 [⟨0, 0⟩, ⟨0, 1⟩, ⟨0, 2⟩, ⟨2, 2⟩, ⟨2, 0⟩] := by
  refine ⟨⟨⟨0, 0⟩, by simp, ⟨0, 2⟩, by simp, ⟨2, 2⟩, by simp, by decide⟩, ?_⟩
  rw [← strictlyConvexB_iff]; decide +kernel

/-- headline clause: for every input the model's output satisfies the whole hull Spec — up to three points
are returned as they are; otherwise the output consists of input points and is a strictly convex polygon
enclosing all input points, or the two end points of the segment carrying them, or copies of the single point -/
theorem hull_spec (pts : List Coord) : HullSpec pts (monotoneChain pts) :=
  monotoneChain_hullSpec pts

/-- on the valid latitude/longitude range the hull computation with the i64 orientation test of the source
never overflows and returns exactly the model's hull, so `hull_spec` speaks about the i64 algorithm -/
theorem hull_no_overflow (pts : List Coord) (hv : ∀ p ∈ pts, ValidCoord p) :
    monotoneChainI64 pts = some (monotoneChain pts) ∧ HullSpec pts (monotoneChain pts) :=
  ⟨monotoneChainI64_eq pts hv, monotoneChain_hullSpec pts⟩

example : (∀ p ∈ ([⟨90000000, 180000000⟩, ⟨-90000000, 180000000⟩, ⟨90000000, -180000000⟩, ⟨-90000000, -180000000⟩, ⟨0, 0⟩] : List Coord),
      ValidCoord p) ∧
    monotoneChainI64 [⟨90000000, 180000000⟩, ⟨-90000000, 180000000⟩, ⟨90000000, -180000000⟩, ⟨-90000000, -180000000⟩, ⟨0, 0⟩] =
      some [⟨-90000000, -180000000⟩, ⟨-90000000, 180000000⟩, ⟨90000000, 180000000⟩, ⟨90000000, -180000000⟩] ∧
    monotoneChainI64 [⟨2147483647, 2147483647⟩, ⟨-2147483648, 2147483647⟩, ⟨2147483647, -2147483648⟩,
      ⟨-2147483648, -2147483648⟩, ⟨0, 0⟩] = none := by decide +kernel

theorem judge_hull_sound (pts h : List Coord) : hullSpecB pts h = true ↔ HullSpec pts h :=
  hullSpecB_iff pts h

example : HullSpec [⟨0, 0⟩, ⟨0, 2⟩, ⟨2, 2⟩, ⟨2, 0⟩, ⟨1, 1⟩, ⟨0, 1⟩] [⟨0, 0⟩, ⟨0, 2⟩, ⟨2, 2⟩, ⟨2, 0⟩] ∧
    ¬ HullSpec [⟨0, 0⟩, ⟨0, 2⟩, ⟨2, 2⟩, ⟨2, 0⟩, ⟨1, 1⟩, ⟨0, 1⟩] [⟨0, 0⟩, ⟨0, 1⟩, ⟨0, 2⟩, ⟨2, 2⟩, ⟨2, 0⟩] := by
  rw [← judge_hull_sound, ← judge_hull_sound]; decide +kernel

/-- one feature per distinct cell id; its ring is the hull of exactly the nodes carrying that id, closed
by repeating the first vertex -/
theorem scaffold_groups (ns : List SNode) :
    ((scaffoldFeatures ns).map (·.id)).Nodup ∧
    (∀ id, id ∈ (scaffoldFeatures ns).map (·.id) ↔ ∃ n ∈ ns, n.pid = id) ∧
    (∀ f ∈ scaffoldFeatures ns,
      f.ring = monotoneChain (cellOf ns f.id) ++ (monotoneChain (cellOf ns f.id)).take 1 ∧
      ∀ c, c ∈ cellOf ns f.id ↔ ∃ n ∈ ns, n.pid = f.id ∧ n.p = c) := by
  have hid : (scaffoldFeatures ns).map (·.id) = cellIds ns := by
    simp [scaffoldFeatures, List.map_map, Function.comp_def]
  refine ⟨hid ▸ cellIds_nodup ns, fun id => hid ▸ mem_cellIds ns id, ?_⟩
  intro f hf
  simp only [scaffoldFeatures, List.mem_map] at hf
  obtain ⟨id, _, rfl⟩ := hf
  exact ⟨rfl, fun c => mem_cellOf ns id c⟩

/-- … and that ring is closed and is a correct hull (whole hull Spec) of exactly the nodes of its cell -/
theorem scaffold_closed_hulls (ns : List SNode) : ∀ f ∈ scaffoldFeatures ns,
    ∃ h, f.ring = h ++ h.take 1 ∧ HullSpec (cellOf ns f.id) h ∧ f.ring.head? = f.ring.getLast? := by
  intro f hf
  obtain ⟨hr, _⟩ := (scaffold_groups ns).2.2 f hf
  refine ⟨monotoneChain (cellOf ns f.id), hr, monotoneChain_hullSpec _, ?_⟩
  rw [hr]
  cases monotoneChain (cellOf ns f.id) with
  | nil => rfl
  | cons a t =>
    have : a :: t ++ List.take 1 (a :: t) = (a :: t) ++ [a] := rfl
    rw [this, List.getLast?_append]
    rfl

example : (scaffoldFeatures [⟨⟨0, 0⟩, 7⟩, ⟨⟨1, 1⟩, 3⟩, ⟨⟨0, 5⟩, 7⟩]).map (fun f => (f.id, f.ring)) =
    [(3, [⟨1, 1⟩, ⟨1, 1⟩]), (7, [⟨0, 0⟩, ⟨0, 5⟩, ⟨0, 0⟩])] := by decide +kernel

/-- partial (what is missing: the clamp of `y_to_lat` to ±180, i.e. |lat_to_y φ| ≤ 180 on the range, which
needs a numeric bound on ln/sin near 85.05°): over the reals, on the property's latitude range the
latitude clamp of `lat_to_y` is inactive and the unclamped `y_to_lat` formula inverts `lat_to_y` -/
theorem mercator_inverse_real_partial (φ : ℝ) (h : |φ| ≤ 85.05) : Merc.yToLatU (Merc.latToYR φ) = φ := by
  have hφ := abs_le.mp h
  have hm : (85.05 : ℝ) ≤ Merc.maxLat := by unfold Merc.maxLat; norm_num
  have hclamp : Merc.clampR φ (-Merc.maxLat) Merc.maxLat = φ := by
    unfold Merc.clampR
    rw [if_neg (not_lt.mpr ((neg_le_neg hm).trans hφ.1)), if_neg (not_lt.mpr (hφ.2.trans hm))]
  unfold Merc.latToYR
  rw [hclamp]
  exact Merc.yToLatU_latToYU φ (lt_of_le_of_lt h (by norm_num))

example : |(51 : ℝ)| ≤ 85.05 := by norm_num

/-- full strength, with both clamps of the source (stated, not proved; the f64 functions are checked by the
judge within the documented tolerances on every generated latitude) -/
def mercator_inverse_real_statement : Prop :=
  ∀ φ : ℝ, |φ| ≤ 85.05 → Merc.yToLatR (Merc.latToYR φ) = φ

end Tbx.Props.C19
