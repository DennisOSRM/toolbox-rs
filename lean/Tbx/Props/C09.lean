import Tbx.Model.DijkstraLegacy
import Tbx.Proofs.DijkstraPath
import Tbx.Proofs.DijkstraReuse
/-
C09 — a retrieved Dijkstra path is a real shortest path from source to target.

Registered in Tbx/Audit/C09.lean.
As in C08 the queue laws are discharged from C10 (`heapLaws`), nothing about the heap is assumed.
`ValidPath g s v p d` (Tbx/Spec/ShortestPath.lean): p starts at s, ends at v, has no repeated node,
consecutive nodes are joined by an edge, and d = Σ cheapest parallel-edge weights along p.
-/
namespace Tbx.Props.C09
open Tbx Tbx.Dijkstra

/-- the judge's path check decides exactly the Spec's `ValidPath` -/
theorem judge_validPath_iff (g : SP.Adj) (s v : Nat) (p : List Nat) (d : Nat) :
    SP.validPathB g s v p d = true ↔ SP.ValidPath g s v p d := SP.validPathB_iff g s v p d

/-- … and a valid path is a real walk of that weight; so if the weight is the distance it is a shortest path -/
theorem validPath_is_walk {g : SP.Adj} {s v : Nat} {p : List Nat} {d : Nat} (h : SP.ValidPath g s v p d) :
    SP.Walk g s v d := h.walk

def exAdj : Adj := staticAdj [(0, 1, 1), (0, 2, 10), (1, 2, 1)]      -- D3's witness graph

example : SP.validPathB exAdj 0 2 [0, 1, 2] 2 = true := by decide
example : SP.validPathB exAdj 0 2 [2] 2 = false := by decide

/-- a node the search never inserted has no path (both searches) -/
theorem unreached_none (stU : Uni) (stO : O2M) (v : Nat)
    (hU : AHeap.inserted stU.queue (v : Int) = false) (hO : AHeap.inserted stO.queue (v : Int) = false) :
    stU.retrieveNodePath v = .ok none ∧ stO.retrieveNodePath v = .ok none := by
  unfold Uni.retrieveNodePath O2M.retrieveNodePath
  simp [hU, hO]

/-- … and a node that is unreachable from the source is never inserted: after `run(s, ·)` no path is
returned for it, and one-to-many reports the unreachable marker as its distance -/
theorem unreached_none_of_unreachable (adj : Adj) (n : Nat) (s v : Nat) (hv : ¬ SP.Reachable adj s v) :
    (∀ (st st' : Uni) (t : Nat) (r : Int), WFq st.queue → uniRun adj n st s t = .ok (st', r) →
        st'.retrieveNodePath v = .ok none) ∧
    (∀ (st st' : O2M) (ts : List Nat) (ok : Bool), ts.Nodup → WFq st.queue → o2mRun adj n st s ts = .ok (st', ok) →
        st'.retrieveNodePath v = .ok none ∧ st'.distance v = UMAX) := by
  constructor
  · intro st st' t r hw h
    have hni := (uniRun_post hw h).ready.toCore.not_inserted hv
    unfold Uni.retrieveNodePath; simp [hni]
  · intro st st' ts ok hnd hw h
    have I := (o2mRun_post hw h).linv
    have hni := I.toCore.not_inserted hv
    exact ⟨by unfold O2M.retrieveNodePath; simp [hni], I.toCore.weight_not_inserted heapLaws hni⟩

/-- the search state `run` leaves behind allows path retrieval (`PathReady`: the invariant of
DijkstraInv.lean plus "every parent is a settled node all of whose out-edges were relaxed") -/
theorem final_state_ready (adj : Adj) (n : Nat) (s : Nat) :
    (∀ (st st' : Uni) (t : Nat) (r : Int), WFq st.queue → uniRun adj n st s t = .ok (st', r) →
        PathReady AHeap.Inv adj s st'.queue) ∧
    (∀ (st st' : O2M) (ts : List Nat) (ok : Bool), ts.Nodup → WFq st.queue → o2mRun adj n st s ts = .ok (st', ok) →
        PathReady AHeap.Inv adj s st'.queue) := by
  constructor
  · intro st st' t r hw h
    exact (uniRun_post hw h).ready
  · intro st st' ts ok hnd hw h
    exact (o2mRun_post hw h).linv.pathReady

/-- In such a state the source is its own parent and every other inserted node `v`
has a parent `p` that was settled (popped) with its relaxation complete, an edge p→v exists whose
weight is `label v − label p`, and that edge is the cheapest of the parallel edges p→v. -/
theorem parent_inv {adj : Adj} {s : Nat} {q : AHeap.Heap} (P : PathReady AHeap.Inv adj s q) :
    AHeap.data? q (s : Int) = some (s : Int) ∧
    ∀ v : Nat, AHeap.inserted q (v : Int) = true → v ≠ s →
      ∃ p w : Nat, AHeap.data? q (v : Int) = some (p : Int) ∧ Settled q (p : Int) ∧ ClosedAt adj q p ∧
        SP.IsCheapest adj p v w ∧ AHeap.weight q (v : Int) = AHeap.weight q (p : Int) + (w : Int) :=
  ⟨P.src.2.2, fun _ hv hvs => P.parent hv hvs⟩

/-- In such a state `retrieve_node_path(v)` of any inserted node
terminates within its fuel and returns a valid path from the source whose cheapest-edge weights
add up to the label of `v`. -/
theorem path_valid {adj : Adj} {s : Nat} {q : AHeap.Heap} (P : PathReady AHeap.Inv adj s q) (v : Nat)
    (hv : AHeap.inserted q (v : Int) = true) :
    ∃ (path : Array Int) (nodes : List Nat) (d : Nat),
      retrievePath q v = .ok (some path) ∧ path.toList = nodes.map Int.ofNat ∧
      AHeap.weight q (v : Int) = (d : Int) ∧ SP.ValidPath adj s v nodes d :=
  retrievePath_valid heapLaws P v hv

/-- If `run(s,t)` reports a finite distance `r`, the path retrieved
for `t` is a valid path s … t of weight `r`, and `r` is the true distance: a shortest path. -/
theorem path_valid_uni (adj : Adj) (n : Nat) (st st' : Uni) (s t : Nat) (r : Int) (hw : WFq st.queue)
    (h : uniRun adj n st s t = .ok (st', r)) (hr : r ≠ UMAX) :
    ∃ (path : Array Int) (nodes : List Nat) (d : Nat),
      st'.retrieveNodePath t = .ok (some path) ∧ path.toList = nodes.map Int.ofNat ∧ r = (d : Int) ∧
      SP.ValidPath adj s t nodes d ∧ SP.IsDist adj s t d := by
  have P := uniRun_post hw h
  obtain ⟨hi, hwt⟩ := P.found hr
  obtain ⟨path, nodes, d, h1, h2, h3, h4⟩ := retrievePath_valid heapLaws P.ready t hi
  refine ⟨path, nodes, d, ?_, h2, hwt.symm.trans h3, h4, ?_⟩
  · unfold Uni.retrieveNodePath
    have : (st'.upperBound == UMAX) = false := by rw [P.ub]; simpa using hr
    simp only [this, hi, Bool.not_true, Bool.or_self, Bool.false_eq_true, if_false]
    exact h1
  · rcases P.exact with ⟨d', hd', hdist⟩ | ⟨hr', _⟩
    · rwa [show d = d' by omega]
    · exact absurd hr' hr

/-- For EVERY node `v` to which `distance(v)` reports a finite value
(settled or still queued when the search stopped) the retrieved path is a valid path s … v whose
cheapest-edge weights add up to exactly that value. -/
theorem path_valid_o2m (adj : Adj) (n : Nat) (st st' : O2M) (s : Nat) (ts : List Nat) (ok : Bool)
    (hnd : ts.Nodup) (hw : WFq st.queue) (h : o2mRun adj n st s ts = .ok (st', ok)) (v : Nat)
    (hv : st'.distance v ≠ UMAX) :
    ∃ (path : Array Int) (nodes : List Nat) (d : Nat),
      st'.retrieveNodePath v = .ok (some path) ∧ path.toList = nodes.map Int.ofNat ∧
      st'.distance v = (d : Int) ∧ SP.ValidPath adj s v nodes d := by
  have I := (o2mRun_post hw h).linv
  have hi : AHeap.inserted st'.queue (v : Int) = true :=
    Bool.not_eq_false _ ▸ fun hi => hv (I.toCore.weight_not_inserted heapLaws hi)
  obtain ⟨path, nodes, d, h1, h2, h3, h4⟩ := retrievePath_valid heapLaws I.pathReady v hi
  refine ⟨path, nodes, d, ?_, h2, h3, h4⟩
  unfold O2M.retrieveNodePath
  simp only [hi, Bool.not_true, Bool.false_eq_true, if_false]
  exact h1

def pathOf (r : Res (Option (Array Int))) : Option (List Int) := match r with | .ok (some p) => some p.toList | _ => none
def uniState (r : Res (Uni × Int)) : Uni := match r with | .ok (st, _) => st | _ => Uni.new
def o2mState (r : Res (O2M × Bool)) : O2M := match r with | .ok (st, _) => st | _ => O2M.new

/-- node 2 is first labelled 10 (edge 0→2) and then lowered to 2 through node 1: its path is [0,1,2] -/
example : pathOf ((uniState (uniRun exAdj 3 Uni.new 0 2)).retrieveNodePath 2) = some [0, 1, 2] := by decide +kernel
example : pathOf ((o2mState (o2mRun exAdj 3 O2M.new 0 [2])).retrieveNodePath 2) = some [0, 1, 2] := by decide +kernel

/-- D3 (fixed): with the legacy parent update (`v` instead of `u` on decrease) the path to 2 is `[2]`,
which the judge rejects -/
example : pathOf ((uniState (Legacy.uniRunD3 exAdj 3 Uni.new 0 2)).retrieveNodePath 2) = some [2] := by rfl
example : SP.validPathB exAdj 0 2 [2] 2 = false := by decide

end Tbx.Props.C09
