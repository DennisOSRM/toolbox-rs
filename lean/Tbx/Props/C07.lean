import Tbx.Proofs.BincodeRoundtrip
import Tbx.Proofs.PlierRat
import Tbx.Proofs.PlierText
/-
C07 — Graph Plier and the loaders preserve the input graph exactly.  Registered in Tbx/Audit/C07.lean.
The bincode decoder inverts its encoder on every value that fits the Rust types; the token-level parsers return the
edge / coordinate list an abstract file describes, for every token-level rendering of it; together: what the model
of graph_plier writes decodes to the described lists.  For the canonical spelling (one blank between tokens, plain
decimal numerals) the text -> token glue is covered too.  The floating-point clause is stated, not proved.
-/
namespace Tbx.Props.C07
open Tbx.Bincode Tbx.GraphFiles Tbx.GraphSpec Tbx.PlierRender Tbx.PlierText

/-- unsigned varint: decoding what was encoded returns the number and leaves the rest of the stream -/
theorem varint_roundtrip (n : Nat) (rest : List Nat) (h : n < 2 ^ 64) :
    decodeVarint (encodeVarint n ++ rest) = some (n, rest) :=
  decodeVarint_encodeVarint n rest h

example : decodeVarint (encodeVarint 65536 ++ [7]) = some (65536, [7]) ∧
    encodeVarint 65536 = [252, 0, 0, 1, 0] ∧ encodeVarint 251 = [251, 251, 0] ∧ encodeVarint 250 = [250] := by
  decide +kernel

/-- the encoder emits bytes, and 1, 3, 5 or 9 of them -/
theorem varint_bytes (n : Nat) :
    (∀ b ∈ encodeVarint n, b < 256) ∧
    (encodeVarint n).length =
      if n < 251 then 1 else if n < 65536 then 3 else if n < 4294967296 then 5 else 9 :=
  ⟨encodeVarint_lt n, encodeVarint_length n⟩

/-- zigzag is a bijection between i32 and u32 (both directions), and stays below 2^32 -/
theorem zigzag_roundtrip :
    (∀ i : Int, unzigzag (zigzag i) = i) ∧ (∀ n : Nat, zigzag (unzigzag n) = n) ∧
    (∀ i : Int, I32 i → zigzag i < 2 ^ 32) :=
  ⟨unzigzag_zigzag, zigzag_unzigzag, zigzag_lt⟩

example : zigzag (-1) = 1 ∧ zigzag (-126) = 251 ∧ zigzag 63 = 126 ∧ zigzag (-2147483648) = 4294967295 ∧
    encodeI32 (-126) = [251, 251, 0] ∧ I32 (-2147483648) := by
  decide +kernel

/-- i32 as zigzag varint -/
theorem i32_roundtrip (i : Int) (rest : List Nat) (h : I32 i) :
    decodeI32 (encodeI32 i ++ rest) = some (i, rest) :=
  decodeI32_encodeI32 i rest h

/-- `Vec<T>`: if the element decoder inverts the element encoder on every element of `xs`, the vector
decoder inverts the vector encoder (any length below 2^64) -/
theorem vec_roundtrip {α : Type} (enc : α → List Nat) (dec : List Nat → Option (α × List Nat))
    (xs : List α) (rest : List Nat) (hl : xs.length < 2 ^ 64)
    (h : ∀ x ∈ xs, ∀ r, dec (enc x ++ r) = some (x, r)) :
    decodeVec dec (encodeVec enc xs ++ rest) = some (xs, rest) := by
  simp only [decodeVec, encodeVec, List.append_assoc, decodeVarint_encodeVarint _ _ hl,
    decodeSeq_encodeSeq enc dec xs rest h]

/-- non-vacuity: the element hypothesis of `vec_roundtrip` holds for edges that fit usize -/
example : ∀ x ∈ [(⟨0, 1, 250⟩ : InputEdge), ⟨299, 0, 70000⟩], ∀ r, decodeEdge (encodeEdge x ++ r) = some (x, r) := by
  intro x hx r
  apply decodeEdge_encodeEdge
  simp at hx
  rcases hx with rfl | rfl <;> simp [EdgeFits]

/-- `Vec<InputEdge<usize>>` of any length: decode (encode es) = es, nothing left over -/
theorem decode_encode_edges (es : List InputEdge) (hl : es.length < 2 ^ 64) (hf : ∀ e ∈ es, EdgeFits e) :
    decodeEdges (encodeEdges es) = some (es, []) := by
  have := vec_roundtrip encodeEdge decodeEdge es [] hl
    (fun e he r => decodeEdge_encodeEdge e r (hf e he))
  rwa [List.append_nil] at this

example : EdgeFits ⟨299, 0, 18446744073709551615⟩ ∧
    encodeEdges [⟨0, 1, 250⟩, ⟨299, 0, 18446744073709551615⟩] =
      [2, 0, 1, 250, 251, 43, 1, 0, 253, 255, 255, 255, 255, 255, 255, 255, 255] ∧
    decodeEdges [2, 0, 1, 250, 251, 43, 1, 0, 253, 255, 255, 255, 255, 255, 255, 255, 255] =
      some ([⟨0, 1, 250⟩, ⟨299, 0, 18446744073709551615⟩], []) := by
  decide +kernel

/-- `Vec<FPCoordinate>` of any length: decode (encode cs) = cs, nothing left over -/
theorem decode_encode_coords (cs : List FPCoordinate) (hl : cs.length < 2 ^ 64)
    (hf : ∀ c ∈ cs, CoordFits c) :
    decodeCoords (encodeCoords cs) = some (cs, []) := by
  have := vec_roundtrip encodeCoord decodeCoord cs [] hl
    (fun c hc r => decodeCoord_encodeCoord c r (hf c hc))
  rwa [List.append_nil] at this

example : CoordFits ⟨-126, -1⟩ ∧ CoordFits ⟨-2147483648, 100⟩ ∧
    encodeCoords [⟨-126, -1⟩, ⟨-2147483648, 100⟩] = [2, 251, 251, 0, 1, 252, 255, 255, 255, 255, 200] := by
  decide +kernel

/-- what chipper reads (`read_graph_into_trivial_edges`) is the (source, target) projection of what
graph_plier wrote -/
theorem decode_trivial_edges (es : List InputEdge) (hl : es.length < 2 ^ 64) (hf : ∀ e ∈ es, EdgeFits e) :
    decodeTrivialEdges (encodeEdges es) = some (es.map fun e => (e.source, e.target)) := by
  simp [decodeTrivialEdges, decode_encode_edges es hl hf]

/-- DIMACS `.gr`: every token-level rendering of `F` (comment lines, problem lines, arc lines incl.
self-loops, in any mix) parses to the 0-based, loop-free edge list in file order with weights kept -/
theorem dimacs_parse_render (F : List DimacsItem) (ls : List Line)
    (h : Forall2 DimacsLineOf F ls) (hwf : DimacsWF F) :
    dimacsGraph ls = some (dimacsEdges F) := by
  simp [dimacsGraph, dimacsGraphRaw_render h, shiftAll_rawArcs F hwf]

/-- a token that parses as the unsigned number `n` only -/
def natTok (n : Nat) : Tok := ⟨some n, none, none⟩
/-- a token that parses as nothing (a word) -/
def wordTok : Tok := ⟨none, none, none⟩
/-- a token that parses as an i32 (and as usize when non-negative) -/
def intTok (i : Int) : Tok := ⟨if 0 ≤ i then some i.toNat else none, some i, none⟩

def exDimacsFile : List DimacsItem :=
  [.comment, .problem 300 4, .arc 1 2 250, .arc 3 3 9, .comment, .arc 300 1 70000]
def exDimacsLines : List Line :=
  [ ⟨some 'c', false, [wordTok, wordTok], [wordTok], none, none⟩,
    ⟨some 'p', false, [wordTok, wordTok, natTok 300, natTok 4], [wordTok, natTok 300, natTok 4], none, none⟩,
    ⟨some 'a', false, [wordTok, natTok 1, natTok 2, natTok 250], [natTok 1, natTok 2, natTok 250], none, none⟩,
    ⟨some 'a', false, [wordTok, natTok 3, natTok 3, natTok 9], [natTok 3, natTok 3, natTok 9], none, none⟩,
    ⟨some 'c', false, [], [], none, none⟩,
    ⟨some 'a', false, [wordTok, natTok 300, natTok 1, natTok 70000], [natTok 300, natTok 1, natTok 70000], none, none⟩ ]

theorem exDimacs_renders : Forall2 DimacsLineOf exDimacsFile exDimacsLines :=
  have arc : ∀ u v w, DimacsLineOf (.arc u v w)
      ⟨some 'a', false, [wordTok, natTok u, natTok v, natTok w], [natTok u, natTok v, natTok w], none, none⟩ :=
    fun _ _ _ => ⟨rfl, _, _, _, rfl, rfl, rfl, rfl⟩
  show _ ∧ _ ∧ _ ∧ _ ∧ _ ∧ _ ∧ True from
    ⟨rfl, ⟨rfl, _, _, _, _, _, rfl, rfl⟩, arc _ _ _, arc _ _ _, rfl, arc _ _ _, trivial⟩

theorem exDimacs_wf : DimacsWF exDimacsFile := by
  intro u v w hm
  simp [exDimacsFile] at hm
  omega

/-- non-vacuity: a file with comments, a self-loop and multi-byte values satisfies the hypotheses -/
example : Forall2 DimacsLineOf exDimacsFile exDimacsLines ∧ DimacsWF exDimacsFile ∧
    dimacsEdges exDimacsFile = [⟨0, 1, 250⟩, ⟨299, 0, 70000⟩] :=
  ⟨exDimacs_renders, exDimacs_wf, by decide +kernel⟩

/-- DIMACS `.co`: coordinates are copied exactly, as (lat, lon), in file order -/
theorem dimacs_coords_parse_render (G : List DimacsCoItem) (ls : List Line)
    (h : Forall2 DimacsCoLineOf G ls) :
    GraphFiles.dimacsCoords ls = some (GraphSpec.dimacsCoords G) := by
  refine Forall2.ind (P := fun G ls => GraphFiles.dimacsCoords ls = some (GraphSpec.dimacsCoords G)) rfl ?_ h
  intro it G l ls hl _ ih'
  cases it with
  | comment =>
    simp only [DimacsCoLineOf] at hl
    simp [GraphFiles.dimacsCoords, hl, ih', GraphSpec.dimacsCoords]
  | problem n =>
    obtain ⟨hf, ht⟩ := hl
    simp [GraphFiles.dimacsCoords, hf, ht, ih', GraphSpec.dimacsCoords]
  | vertex id lon lat =>
    obtain ⟨hf, a, b, d, rest, ht, ha, hb, hd⟩ := hl
    simp [GraphFiles.dimacsCoords, hf, ht, ha, hb, hd, ih', GraphSpec.dimacsCoords, consO]

def exCoFile : List DimacsCoItem := [.comment, .problem 2, .vertex 1 (-73935242) 40730610, .vertex 2 5 (-7)]
def exCoLines : List Line :=
  [ ⟨some 'c', false, [], [], none, none⟩,
    ⟨some 'p', false, [], [], some 2, none⟩,
    ⟨some 'v', false, [], [natTok 1, intTok (-73935242), intTok 40730610], none, none⟩,
    ⟨some 'v', false, [], [natTok 2, intTok 5, intTok (-7)], none, none⟩ ]

theorem exCo_renders : Forall2 DimacsCoLineOf exCoFile exCoLines :=
  show _ ∧ _ ∧ _ ∧ _ ∧ True from
    ⟨rfl, ⟨rfl, rfl⟩, ⟨rfl, _, _, _, _, rfl, rfl, rfl, rfl⟩, ⟨rfl, _, _, _, _, rfl, rfl, rfl, rfl⟩, trivial⟩

example : Forall2 DimacsCoLineOf exCoFile exCoLines ∧
    GraphSpec.dimacsCoords exCoFile = [⟨40730610, -73935242⟩, ⟨-7, 5⟩] :=
  ⟨exCo_renders, by decide +kernel⟩

/-- METIS: header `n …`, then one adjacency line per node (empty = isolated); every rendering parses
to the 0-based, loop-free unit-weight edge list in file order -/
theorem metis_parse_render (n : Nat) (adj : List (List Nat)) (l0 : Line) (ls : List Line)
    (h0 : MetisHeaderOf n l0) (h : Forall2 AdjLineOf adj ls) (hwf : MetisWF n adj) :
    metisGraph (l0 :: ls) = some (metisEdges adj) := by
  obtain ⟨t, rest, ht, hn⟩ := h0
  obtain ⟨hlen, hr⟩ := hwf
  simp [metisGraph, ht, hn, metisEdges, metisLoop_render n h 0 (by omega) hr]

def tokLine (ts : List Tok) : Line := ⟨none, false, ts, [], none, none⟩

/-- non-vacuity: 5 nodes, node 2 isolated, two self-loops, a duplicate -/
example : MetisHeaderOf 5 (tokLine [natTok 5, natTok 4]) ∧
    Forall2 AdjLineOf [[2, 3], [1, 1, 2], [], [5, 4, 4]]
      [tokLine [natTok 2, natTok 3], tokLine [natTok 1, natTok 1, natTok 2], tokLine [],
       tokLine [natTok 5, natTok 4, natTok 4]] ∧
    MetisWF 5 [[2, 3], [1, 1, 2], [], [5, 4, 4]] ∧
    metisEdges [[2, 3], [1, 1, 2], [], [5, 4, 4]] = [⟨0, 1, 1⟩, ⟨0, 2, 1⟩, ⟨1, 0, 1⟩, ⟨1, 0, 1⟩, ⟨3, 4, 1⟩] := by
  refine ⟨⟨natTok 5, [natTok 4], rfl, rfl⟩, ?_, by unfold MetisWF; decide +kernel, by decide +kernel⟩
  simp only [Forall2, AdjLineOf, tokLine, NatTok, natTok, and_self]

/-- DDSG: `d`, a size line, then arcs with all four direction codes; every rendering parses to the
loop-free, direction-expanded edge list in file order with weights kept -/
theorem ddsg_parse_render (arcs : List DdsgArc) (l0 l1 : Line) (ls : List Line)
    (hd : l0.isD = true) (h1 : 2 ≤ l1.toks.length) (h : Forall2 DdsgArcOf arcs ls) (hwf : DdsgWF arcs) :
    ddsgGraph (l0 :: l1 :: ls) = some (ddsgEdges arcs) := by
  unfold ddsgGraph
  simp only [hd]
  match hl : l1.toks with
  | [] => simp [hl] at h1
  | [_] => simp [hl] at h1
  | _ :: _ :: _ => simp [ddsgLoop_render h hwf]

def exDdsgArcs : List DdsgArc := [⟨0, 1, 10, 0⟩, ⟨1, 2, 300, 1⟩, ⟨2, 2, 5, 0⟩, ⟨2, 3, 7, 2⟩, ⟨3, 0, 9, 3⟩]
def arcLine (a : DdsgArc) : Line := tokLine [natTok a.u, natTok a.v, natTok a.w, intTok (Int.ofNat a.dir)]

/-- non-vacuity: all four direction codes and a self-loop -/
example : Forall2 DdsgArcOf exDdsgArcs (exDdsgArcs.map arcLine) ∧ DdsgWF exDdsgArcs ∧
    ddsgEdges exDdsgArcs = [⟨0, 1, 10⟩, ⟨1, 0, 10⟩, ⟨1, 2, 300⟩, ⟨3, 2, 7⟩] := by
  have h : ∀ a, DdsgArcOf a (arcLine a) := fun a => ⟨_, _, _, _, rfl, rfl, rfl, rfl, rfl⟩
  exact ⟨⟨h _, h _, h _, h _, h _, trivial⟩, by unfold DdsgWF; decide +kernel, by decide +kernel⟩

theorem plier_eq (fmt : Format) (g c : List Line) (es : List InputEdge) (cs : List FPCoordinate)
    (hg : readGraph fmt g = some es) (hc : readCoordinates fmt c = some cs) :
    plier fmt g c = some (encodeEdges es, encodeCoords cs) := by
  simp only [plier, hg, hc]

theorem plier_graph (fmt : Format) (g c : List Line) (es : List InputEdge) (cs : List FPCoordinate)
    (hg : readGraph fmt g = some es) (hc : readCoordinates fmt c = some cs)
    (hle : es.length < 2 ^ 64) (hfe : ∀ e ∈ es, EdgeFits e) :
    ∃ gb cb, plier fmt g c = some (gb, cb) ∧ decodeEdges gb = some (es, []) ∧
      decodeTrivialEdges gb = some (es.map fun e => (e.source, e.target)) :=
  ⟨_, _, plier_eq fmt g c es cs hg hc, decode_encode_edges es hle hfe, decode_trivial_edges es hle hfe⟩

/-- for any format: whatever the two loaders return is what the written files decode to -/
theorem plier_writes_what_was_read (fmt : Format) (g c : List Line) (es : List InputEdge)
    (cs : List FPCoordinate) (hg : readGraph fmt g = some es) (hc : readCoordinates fmt c = some cs)
    (hle : es.length < 2 ^ 64) (hlc : cs.length < 2 ^ 64)
    (hfe : ∀ e ∈ es, EdgeFits e) (hfc : ∀ x ∈ cs, CoordFits x) :
    ∃ gb cb, plier fmt g c = some (gb, cb) ∧ decodeEdges gb = some (es, []) ∧
      decodeTrivialEdges gb = some (es.map fun e => (e.source, e.target)) ∧
      decodeCoords cb = some (cs, []) :=
  ⟨_, _, plier_eq fmt g c es cs hg hc,
    decode_encode_edges es hle hfe, decode_trivial_edges es hle hfe, decode_encode_coords cs hlc hfc⟩

/-- non-vacuity: the DIMACS example is an instance (readGraph / readCoordinates succeed on it) -/
example : readGraph .dimacs exDimacsLines = some [⟨0, 1, 250⟩, ⟨299, 0, 70000⟩] ∧
    readCoordinates .dimacs exCoLines = some [⟨40730610, -73935242⟩, ⟨-7, 5⟩] := by
  decide +kernel

/-- DIMACS: for every rendering of a well-formed graph file `F` and coordinate file `G`, the model of
graph_plier terminates normally and the two files it writes decode — with the model of
`read_vec_from_file` / `read_graph_into_trivial_edges` — to exactly the lists `F` and `G` describe -/
theorem plier_dimacs_preserves (F : List DimacsItem) (G : List DimacsCoItem) (g c : List Line)
    (hg : Forall2 DimacsLineOf F g) (hc : Forall2 DimacsCoLineOf G c) (hwf : DimacsWF F)
    (hfit : ∀ u v w, DimacsItem.arc u v w ∈ F → u < 2 ^ 64 ∧ v < 2 ^ 64 ∧ w < 2 ^ 64)
    (hcfit : ∀ id lon lat, DimacsCoItem.vertex id lon lat ∈ G → I32 lon ∧ I32 lat)
    (hF : F.length < 2 ^ 64) (hG : G.length < 2 ^ 64) :
    ∃ gb cb, plier .dimacs g c = some (gb, cb) ∧
      decodeEdges gb = some (dimacsEdges F, []) ∧
      decodeTrivialEdges gb = some ((dimacsEdges F).map fun e => (e.source, e.target)) ∧
      decodeCoords cb = some (GraphSpec.dimacsCoords G, []) :=
  plier_writes_what_was_read .dimacs g c _ _ (dimacs_parse_render F g hg hwf) (dimacs_coords_parse_render G c hc)
    (Nat.lt_of_le_of_lt (dimacsEdges_length_le F) hF) (Nat.lt_of_le_of_lt (dimacsCoords_length_le G) hG)
    (dimacsEdges_fits F hfit) (dimacsCoords_fits G hcfit)

/-- non-vacuity: the example files above satisfy every hypothesis of `plier_dimacs_preserves` -/
example : Forall2 DimacsLineOf exDimacsFile exDimacsLines ∧ Forall2 DimacsCoLineOf exCoFile exCoLines ∧
    DimacsWF exDimacsFile ∧
    (∀ u v w, DimacsItem.arc u v w ∈ exDimacsFile → u < 2 ^ 64 ∧ v < 2 ^ 64 ∧ w < 2 ^ 64) ∧
    (∀ id lon lat, DimacsCoItem.vertex id lon lat ∈ exCoFile → I32 lon ∧ I32 lat) := by
  refine ⟨exDimacs_renders, exCo_renders, exDimacs_wf, ?_, ?_⟩
  · intro u v w hm
    simp [exDimacsFile] at hm
    omega
  · intro id lon lat hm
    simp [exCoFile] at hm
    unfold I32
    omega

/-- METIS graph part: for every rendering of a well-formed adjacency description and any coordinate file
the coordinate loader accepts, the written graph file decodes to exactly the described edges -/
theorem plier_metis_preserves_graph (n : Nat) (adj : List (List Nat)) (l0 : Line) (ls c : List Line)
    (cs : List FPCoordinate)
    (h0 : MetisHeaderOf n l0) (h : Forall2 AdjLineOf adj ls) (hwf : MetisWF n adj) (hn : n < 2 ^ 64)
    (hlen : (metisEdges adj).length < 2 ^ 64) (hc : metisCoords c = some cs) :
    ∃ gb cb, plier .metis (l0 :: ls) c = some (gb, cb) ∧
      decodeEdges gb = some (metisEdges adj, []) ∧
      decodeTrivialEdges gb = some ((metisEdges adj).map fun e => (e.source, e.target)) :=
  plier_graph .metis _ c _ cs (metis_parse_render n adj l0 ls h0 h hwf) hc hlen
    (metisEdgesFrom_fits n 0 adj hn (by rw [Nat.zero_add]; exact hwf.1) hwf.2)

/-- DDSG graph part, likewise -/
theorem plier_ddsg_preserves_graph (arcs : List DdsgArc) (l0 l1 : Line) (ls c : List Line)
    (cs : List FPCoordinate)
    (hd : l0.isD = true) (h1 : 2 ≤ l1.toks.length) (h : Forall2 DdsgArcOf arcs ls) (hwf : DdsgWF arcs)
    (hfit : ∀ a ∈ arcs, a.u < 2 ^ 64 ∧ a.v < 2 ^ 64 ∧ a.w < 2 ^ 64)
    (hlen : (ddsgEdges arcs).length < 2 ^ 64) (hc : ddsgCoords c = some cs) :
    ∃ gb cb, plier .ddsg (l0 :: l1 :: ls) c = some (gb, cb) ∧
      decodeEdges gb = some (ddsgEdges arcs, []) ∧
      decodeTrivialEdges gb = some ((ddsgEdges arcs).map fun e => (e.source, e.target)) :=
  plier_graph .ddsg _ c _ cs (ddsg_parse_render arcs l0 l1 ls hd h1 h hwf) hc hlen (ddsgEdges_fits arcs hfit)

/-- the byte/read-back check of the judge is the Spec's `Delivered` -/
theorem judge_delivered_sound {α : Type} [DecidableEq α] (dec : List Nat → Option (List α × List Nat))
    (bytes : List Nat) (readBack expected : List α) :
    deliveredB dec bytes readBack expected = true ↔ Delivered dec bytes readBack expected :=
  deliveredB_iff dec bytes readBack expected

/-- the tolerance check of the judge (integer arithmetic, denominators cleared) is
|r − 10·mant/10^scale| ≤ 1 over the rationals, for every coordinate of the list -/
theorem judge_within_sound (ds : List (Dec × Dec)) (cs : List FPCoordinate) :
    (coordsWithinB ds cs = true ↔ CoordsWithin ds cs) ∧
    (∀ (d : Dec) (r : Int), WithinMicro d r ↔ |(r : ℚ) - 10 * (d.mant : ℚ) / (10 : ℚ) ^ d.scale| ≤ 1) :=
  ⟨coordsWithinB_iff ds cs, Tbx.PlierRat.withinMicro_iff_rat⟩

example : WithinMicro ⟨123456, 3⟩ 1234 ∧ WithinMicro ⟨-1, 0⟩ (-9) ∧ ¬ WithinMicro ⟨-1, 0⟩ (-8) := by
  unfold WithinMicro
  decide +kernel

/-- the glue's `usize::from_str` / `i32::from_str` invert plain decimal rendering -/
theorem parse_decimal_canonical :
    (∀ n : Nat, n < 2 ^ 64 → parseUsize (Nat.toDigits 10 n) = some n) ∧
    (∀ i : Int, I32 i → parseI32 (intChars i) = some i) :=
  ⟨fun n h => parseUsize_toDigits n h, parseI32_intChars⟩

example : Nat.toDigits 10 70000 = ['7', '0', '0', '0', '0'] ∧ intChars (-126) = ['-', '1', '2', '6'] := by
  decide +kernel

/-- the glue's tokenizer inverts joining tokens with single blanks -/
theorem tokenizer_single_blank (ts : List (List Char)) (h : ∀ t ∈ ts, IsToken t) :
    splitWs (joinBlank ts) = ts :=
  splitWs_joinBlank ts h

example : joinBlank [['a'], ['1', '2'], ['7']] = ['a', ' ', '1', '2', ' ', '7'] ∧
    IsToken ['1', '2'] := by
  refine ⟨by decide +kernel, by simp, ?_⟩
  intro c hc
  simp at hc
  rcases hc with rfl | rfl <;> decide +kernel

/-- DIMACS `.gr` as characters: `c` / `p sp n m` / `a u v w` lines in canonical spelling are accepted by
the glue and parse to the described edge list -/
theorem dimacs_text_parse (F : List DimacsItem) (hf : ∀ it ∈ F, DimacsFits it) (hwf : DimacsWF F) :
    ∃ ls, mkLinesC (F.map dimacsText) = some ls ∧ dimacsGraph ls = some (dimacsEdges F) := by
  obtain ⟨ls, h1, h2⟩ := mkLinesC_map DimacsLineOf dimacsText F (fun it hit => dimacsText_line it (hf it hit))
  exact ⟨ls, h1, dimacs_parse_render F ls h2 hwf⟩

example : (exDimacsFile.map dimacsText) =
    [['c'], ['p', ' ', 's', 'p', ' ', '3', '0', '0', ' ', '4'], ['a', ' ', '1', ' ', '2', ' ', '2', '5', '0'],
     ['a', ' ', '3', ' ', '3', ' ', '9'], ['c'],
     ['a', ' ', '3', '0', '0', ' ', '1', ' ', '7', '0', '0', '0', '0']] ∧
    (∀ it ∈ exDimacsFile, DimacsFits it) := by
  refine ⟨by decide +kernel, ?_⟩
  intro it hit
  simp [exDimacsFile] at hit
  rcases hit with rfl | rfl | rfl | rfl | rfl | rfl <;> simp [DimacsFits]

/-- DIMACS `.co` as characters: `c` / `p aux sp co n` / `v id lon lat` -/
theorem dimacs_coords_text_parse (G : List DimacsCoItem) (hf : ∀ it ∈ G, DimacsCoFits it) :
    ∃ ls, mkLinesC (G.map dimacsCoText) = some ls ∧
      GraphFiles.dimacsCoords ls = some (GraphSpec.dimacsCoords G) := by
  obtain ⟨ls, h1, h2⟩ := mkLinesC_map DimacsCoLineOf dimacsCoText G (fun it hit => dimacsCoText_line it (hf it hit))
  exact ⟨ls, h1, dimacs_coords_parse_render G ls h2⟩

example : dimacsCoText (.vertex 2 5 (-7)) = ['v', ' ', '2', ' ', '5', ' ', '-', '7'] ∧
    dimacsCoText (.problem 2) = ['p', ' ', 'a', 'u', 'x', ' ', 's', 'p', ' ', 'c', 'o', ' ', '2'] ∧
    DimacsCoFits (.vertex 2 5 (-7)) := by
  refine ⟨by decide +kernel, by decide +kernel, ?_⟩
  simp [DimacsCoFits, I32]

/-- METIS as characters: header `n m`, one line of neighbours per node (an empty line = isolated) -/
theorem metis_text_parse (n m : Nat) (adj : List (List Nat)) (hn : n < 2 ^ 64) (hwf : MetisWF n adj) :
    ∃ ls, mkLinesC (metisHeaderText n m :: adj.map metisAdjText) = some ls ∧
      metisGraph ls = some (metisEdges adj) := by
  obtain ⟨ls, h1, h2⟩ := mkLinesC_map AdjLineOf metisAdjText adj fun nbrs hnb =>
    metisAdjText_line nbrs fun t ht => Nat.lt_of_le_of_lt (hwf.2 nbrs hnb t ht).2 hn
  obtain ⟨l0, hl0, htoks⟩ := metisHeaderText_line n m
  refine ⟨l0 :: ls, ?_, metis_parse_render n adj l0 ls ⟨_, _, htoks, mkTok_natC n hn⟩ h2 hwf⟩
  simp only [mkLinesC, hl0, h1]

example : [[2, 3], [1, 1, 2], [], [5, 4, 4]].map metisAdjText =
    [['2', ' ', '3'], ['1', ' ', '1', ' ', '2'], [], ['5', ' ', '4', ' ', '4']] := by
  decide +kernel

/-- DDSG as characters: `d`, `n m`, `u v w dir` -/
theorem ddsg_text_parse (n m : Nat) (arcs : List DdsgArc)
    (hf : ∀ a ∈ arcs, a.u < 2 ^ 64 ∧ a.v < 2 ^ 64 ∧ a.w < 2 ^ 64) (hwf : DdsgWF arcs) :
    ∃ ls, mkLinesC (['d'] :: metisHeaderText n m :: arcs.map ddsgArcText) = some ls ∧
      ddsgGraph ls = some (ddsgEdges arcs) := by
  obtain ⟨ls, h1, h2⟩ := mkLinesC_map DdsgArcOf ddsgArcText arcs
    (fun a ha => ddsgArcText_line a (hf a ha) (hwf a ha))
  obtain ⟨l1, hl1, htoks⟩ := metisHeaderText_line n m
  refine ⟨viewsOf ['d'] :: l1 :: ls, ?_,
    ddsg_parse_render arcs _ l1 ls rfl (by rw [htoks]; exact Nat.le_refl 2) h2 hwf⟩
  simp only [mkLinesC, mkLineC_ok ['d'] (by decide), hl1, h1]

example : ddsgArcText ⟨2, 3, 7, 2⟩ = ['2', ' ', '3', ' ', '7', ' ', '2'] := by decide +kernel

/-- DIMACS, characters to bytes and back: the model of graph_plier applied to the canonical text of a
well-formed graph / coordinate file pair writes files that decode to exactly the described lists -/
theorem plier_dimacs_text_preserves (F : List DimacsItem) (G : List DimacsCoItem)
    (hf : ∀ it ∈ F, DimacsFits it) (hg : ∀ it ∈ G, DimacsCoFits it) (hwf : DimacsWF F)
    (hF : F.length < 2 ^ 64) (hG : G.length < 2 ^ 64) :
    ∃ g c gb cb, mkLinesC (F.map dimacsText) = some g ∧ mkLinesC (G.map dimacsCoText) = some c ∧
      plier .dimacs g c = some (gb, cb) ∧
      decodeEdges gb = some (dimacsEdges F, []) ∧
      decodeTrivialEdges gb = some ((dimacsEdges F).map fun e => (e.source, e.target)) ∧
      decodeCoords cb = some (GraphSpec.dimacsCoords G, []) := by
  obtain ⟨g, hg1, hg2⟩ := dimacs_text_parse F hf hwf
  obtain ⟨c, hc1, hc2⟩ := dimacs_coords_text_parse G hg
  obtain ⟨gb, cb, h⟩ := plier_writes_what_was_read .dimacs g c _ _ hg2 hc2
    (Nat.lt_of_le_of_lt (dimacsEdges_length_le F) hF) (Nat.lt_of_le_of_lt (dimacsCoords_length_le G) hG)
    (dimacsEdges_fits F fun u v w hm => hf _ hm) (dimacsCoords_fits G fun id lon lat hm => (hg _ hm).2)
  exact ⟨g, c, gb, cb, hg1, hc1, h⟩

def digitChars (ds : List Nat) : List Char := ds.map fun d => Char.ofNat (48 + d)
def digitsNat (ds : List Nat) : Nat := ds.foldl (fun a d => 10 * a + d) 0

/-- METIS / DDSG coordinate tokens: a decimal numeral with at most three fractional digits and absolute
value at most 18 000 000 (180 degrees in units of 1e-5), sent through the glue's `parseF64`, the
division by 100000 and `new_from_lat_lon`, lands within one micro-degree of its exact value.
NOT PROVED: Lean's `Float` operations are opaque to the kernel; the judge checks this inequality in exact
integer arithmetic on every generated coordinate instead. -/
def float_path_within_statement : Prop :=
  ∀ (neg : Bool) (ip fp : List Nat),
    ip ≠ [] → (∀ d ∈ ip ++ fp, d < 10) → fp.length ≤ 3 →
    digitsNat (ip ++ fp) ≤ 18000000 * 10 ^ fp.length →
    ∃ x : Float,
      parseF64 ((if neg then ['-'] else []) ++ digitChars ip ++ (if fp = [] then [] else '.' :: digitChars fp)) = some x ∧
      WithinMicro ⟨(if neg then -1 else 1) * Int.ofNat (digitsNat (ip ++ fp)), fp.length⟩ (toMicro (x / 100000.0))

end Tbx.Props.C07
