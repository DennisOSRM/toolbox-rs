import Tbx.Proofs.C13History
import Tbx.Proofs.Bloom
import Tbx.Proofs.HashClearMany
import Tbx.Model.LegacyHashTable
/-
C13 — hash-based containers behave as maps; sketches err only on one side.

The property theorems (the lemmas they share live in Tbx/Proofs).  Registered in Tbx/Audit/C13.lean.
Models: Tbx/Model/{HashTable,TinyTable,Bloom,CountMin}.lean; Spec: Tbx/Spec/FinMap.lean.
The table theorems hold for every table size `N > 0` and every hash function `h` with values below `N`
(the real table is the instance `N = MAX_ELEMENTS`, `h` = the values the harness reads from the real hasher).
-/
namespace Tbx.Props.C13
open Tbx

/-- For any hash values, any number `k` of hash functions and any length `len > 0`: whatever was added
before and whatever is added afterwards, a value that was added is answered "possibly present". -/
theorem bloom_no_false_negative (len k : Nat) (hlen : 0 < len) (before after : List (Nat × Nat)) (h1 h2 : Nat) :
    Bloom.contains (Bloom.addAll (Bloom.add (Bloom.addAll (Bloom.init len k) before) h1 h2) after) h1 h2 = true := by
  apply Bloom.addAll_mono
  apply Bloom.add_contains
  rw [Bloom.addAll_size, Bloom.init_size]; exact hlen

/-- non-vacuity: a concrete filter (7 bits, 3 functions) with other values added before and after … -/
example : Bloom.contains (Bloom.addAll (Bloom.add (Bloom.addAll (Bloom.init 7 3) [(1, 2)]) 10 4) [(3, 5)]) 10 4 = true :=
  bloom_no_false_negative 7 3 (by decide) [(1, 2)] [(3, 5)] 10 4
/-- … and the answer is not constantly yes: a value that was not added can be answered "No" -/
example : Bloom.contains (Bloom.add (Bloom.init 7 3) 10 4) 11 4 = false := by decide

/-- For any hash pairs, any number of rows `k` (in particular `k ≥ 1`) and `m > 0` columns: after any
sequence of insertions the estimate of a key is at least the number of times it was inserted, capped at
u32::MAX (counters saturate). -/
theorem cms_lower_bound {κ : Type} [DecidableEq κ] (k m : Nat) (hm : 0 < m) (hash : κ → Nat × Nat)
    (hist : List κ) (x : κ) :
    min (hist.count x) CountMin.u32Max ≤
      CountMin.estimate (CountMin.insertAll hash (CountMin.init k m) hist) (hash x).1 (hash x).2 := by
  have L := CountMin.insertAll_lb hash x hist (CountMin.init k m) 0 (CountMin.grid_init k m) hm
    (fun r b _ => by simp)
  rw [Nat.zero_add] at L
  exact CountMin.estimate_ge _ _ _ _ L

/-- non-vacuity: 2 rows, 3 columns, three keys of which two collide in a row; estimates 2 ≥ 2 and 3 ≥ 1 -/
example :
    let hash : Nat → Nat × Nat := fun x => (x, 1)
    let s := CountMin.insertAll hash (CountMin.init 2 3) [0, 3, 0, 1]
    (CountMin.estimate s 0 1, CountMin.estimate s 3 1, CountMin.estimate s 1 1) = (3, 3, 1) := by decide

/-- Every history of insert / remove / overwrite-through-find_mut / clear on the tiny table returns what
the reference map returns, and afterwards `find`, `contains`, `len`, `is_empty` agree with it. -/
theorem tiny_refines_map (ops : List TinyTable.Op) :
    (TinyTable.runM TinyTable.new ops).2 = (TinyTable.runS FinMap.clear ops).2 ∧
    (∀ k, TinyTable.find (TinyTable.runM TinyTable.new ops).1 k = FinMap.get? (TinyTable.runS FinMap.clear ops).1 k) ∧
    (∀ k, TinyTable.contains (TinyTable.runM TinyTable.new ops).1 k = FinMap.contains (TinyTable.runS FinMap.clear ops).1 k) ∧
    TinyTable.len (TinyTable.runM TinyTable.new ops).1 = FinMap.len (TinyTable.runS FinMap.clear ops).1 ∧
    TinyTable.isEmpty (TinyTable.runM TinyTable.new ops).1 = FinMap.isEmpty (TinyTable.runS FinMap.clear ops).1 := by
  obtain ⟨R, hret⟩ := TinyTable.run_rel ops _ _ TinyTable.rel_new
  refine ⟨hret, R.get?, ?_, R.perm.length_eq, ?_⟩
  · intro k; rw [TinyTable.contains_eq, R.contains]
  · rw [TinyTable.isEmpty, FinMap.isEmpty, List.isEmpty_iff_length_eq_zero_bool, R.perm.length_eq]
where
  List.isEmpty_iff_length_eq_zero_bool {α : Type} {l : List α} : l.isEmpty = (l.length == 0) := by
    cases l <;> rfl

/-- non-vacuity: a history in which swap_remove moves the last entry into the hole -/
example : (TinyTable.runM TinyTable.new [.insert 1 10, .insert 2 20, .insert 3 30, .remove 1, .setVal 3 7, .insert 2 5]).1
    = [(3, 7), (2, 5)] := by decide

theorem table_inv_init (N : Nat) (h : Nat → Nat) (hN : 0 < N) : HashTable.Inv N h (HashTable.init N) :=
  (HashTable.init_rel N h hN).inv

/-- `get_mut` preserves the invariant whenever the key is present or a slot stays free afterwards, and
its probe loop terminates -/
theorem table_inv_getMut {N : Nat} {h : Nat → Nat} {t : HashTable.Table} (I : HashTable.Inv N h t)
    (hh : ∀ k, h k < N) (key : Nat)
    (hroom : (∃ i, i < N ∧ HashTable.tmOf t i = t.ts ∧ HashTable.kyOf t i = key) ∨ t.length + 1 < N) :
    ∃ t' p, HashTable.getMut N h t key = some (t', p) ∧ HashTable.Inv N h t' := by
  obtain ⟨p, hp, S⟩ := HashTable.probe_slot I hh key
  exact ⟨_, p, HashTable.getMut_eq hp, HashTable.inv_wrT _ I S hroom⟩

/-- `insert` preserves the invariant under the same condition -/
theorem table_inv_insert {N : Nat} {h : Nat → Nat} {t : HashTable.Table} {m : FinMap.M}
    (R : HashTable.Rel N h t m) (hh : ∀ k, h k < N) (key : Nat) (v : Int)
    (hdom : FinMap.contains m key = true ∨ FinMap.len m + 1 < N) :
    ∃ t', HashTable.insert N h t key v = some t' ∧ HashTable.Inv N h t' := by
  obtain ⟨t', he, R'⟩ := HashTable.insert_rel R hh key v hdom
  exact ⟨t', he, R'.inv⟩

/-- `clear` preserves the invariant at EVERY generation — including the restamp when the generation
reaches u32::MAX and the rebuild when it wraps to 0 — and afterwards no cell is live (stamp hygiene:
a stamp equal to the generation can only have been written since this clear); the generation advances
by one modulo 2^32. -/
theorem table_inv_clear {N : Nat} {h : Nat → Nat} {t : HashTable.Table} (I : HashTable.Inv N h t) (hN : 0 < N) :
    HashTable.Inv N h (HashTable.clear N t) ∧ (HashTable.clear N t).length = 0 ∧
    (∀ i, i < N → HashTable.tmOf (HashTable.clear N t) i ≠ (HashTable.clear N t).ts) ∧
    (HashTable.clear N t).ts = (t.ts + 1) % 4294967296 := by
  have R := HashTable.clear_spec I hN
  refine ⟨R.inv, R.dead.1, R.dead.2, ?_⟩
  simp only [HashTable.clear]
  split
  · rfl
  · split <;> rfl

/-- probing terminates: with fewer live cells than slots the loop of get_mut / peek_value / contains_key
stops within `N` steps (the fuel every model function passes) -/
theorem probing_terminates {N : Nat} {h : Nat → Nat} {t : HashTable.Table} (I : HashTable.Inv N h t)
    (hh : ∀ k, h k < N) (key : Nat) :
    (HashTable.probe N t.cells t.ts key N (h key)).isSome = true := by
  obtain ⟨p, hp, _⟩ := HashTable.probe_slot I hh key
  simp [hp]

/-- one step: in-domain operations succeed on the model, return what the reference map returns and
re-establish the refinement relation (which contains the invariant) -/
theorem refines_step {N : Nat} {h : Nat → Nat} {t : HashTable.Table} {m : FinMap.M} (R : HashTable.Rel N h t m)
    (hN : 0 < N) (hh : ∀ k, h k < N) (op : HashTable.Op) (hd : HashTable.InDom N m op) :
    ∃ t', HashTable.stepM N h t op = some (t', (HashTable.stepS m op).2) ∧ HashTable.Rel N h t' (HashTable.stepS m op).1 :=
  HashTable.step_rel R hN hh op hd

/-- all observers agree with the reference map on related states -/
theorem refines_observers {N : Nat} {h : Nat → Nat} {t : HashTable.Table} {m : FinMap.M} (R : HashTable.Rel N h t m)
    (hh : ∀ k, h k < N) :
    (∀ k, HashTable.peek N h t k = some (FinMap.get? m k)) ∧
    (∀ k, HashTable.containsKey N h t k = some (FinMap.contains m k)) ∧
    HashTable.len t = FinMap.len m ∧ HashTable.isEmpty t = FinMap.isEmpty m := by
  refine ⟨HashTable.peek_rel R hh, HashTable.containsKey_rel R hh, R.len, ?_⟩
  have := R.len
  simp only [HashTable.isEmpty, FinMap.isEmpty, FinMap.len] at this ⊢
  rw [this]

/-- For every history of insert / get_mut / clear that keeps fewer live keys than slots,
started on a fresh table, the model returns exactly what the reference map returns (get_mut hands out
the stored value, or the default on creation) and ends in a state all of whose observers agree with the
reference map.  Histories are arbitrary lists, so every prefix is covered and any number of clears. -/
theorem refines_map (N : Nat) (h : Nat → Nat) (hN : 0 < N) (hh : ∀ k, h k < N) (ops : List HashTable.Op)
    (hok : HashTable.HistOK N FinMap.clear ops) :
    ∃ t, HashTable.runM N h (HashTable.init N) ops = some (t, (HashTable.runS FinMap.clear ops).2) ∧
      (∀ k, HashTable.peek N h t k = some (FinMap.get? (HashTable.runS FinMap.clear ops).1 k)) ∧
      (∀ k, HashTable.containsKey N h t k = some (FinMap.contains (HashTable.runS FinMap.clear ops).1 k)) ∧
      HashTable.len t = FinMap.len (HashTable.runS FinMap.clear ops).1 ∧
      HashTable.isEmpty t = FinMap.isEmpty (HashTable.runS FinMap.clear ops).1 := by
  obtain ⟨t, he, R⟩ := HashTable.run_rel hN hh ops _ _ (HashTable.init_rel N h hN) hok
  exact ⟨t, he, refines_observers R hh⟩

/-- the same from ANY generation `g ≤ u32::MAX` (what `verif_set_generation` jumps to, equivalently what
`g` clears of an empty table reach): histories that cross u32::MAX and the wrap to 0 are covered. -/
theorem refines_map_from_generation (N : Nat) (h : Nat → Nat) (hN : 0 < N) (hh : ∀ k, h k < N) (g : Nat)
    (hg : g ≤ HashTable.u32Max) (ops : List HashTable.Op) (hok : HashTable.HistOK N FinMap.clear ops) :
    ∃ t0 t, HashTable.setGeneration N (HashTable.init N) g = some t0 ∧ t0.ts = g ∧
      HashTable.runM N h t0 ops = some (t, (HashTable.runS FinMap.clear ops).2) ∧
      (∀ k, HashTable.peek N h t k = some (FinMap.get? (HashTable.runS FinMap.clear ops).1 k)) ∧
      (∀ k, HashTable.containsKey N h t k = some (FinMap.contains (HashTable.runS FinMap.clear ops).1 k)) ∧
      HashTable.len t = FinMap.len (HashTable.runS FinMap.clear ops).1 ∧
      HashTable.isEmpty t = FinMap.isEmpty (HashTable.runS FinMap.clear ops).1 := by
  obtain ⟨t0, he0, hts, R0⟩ := HashTable.setGeneration_rel h (t := HashTable.init N) rfl hN g hg
  obtain ⟨t, he, R⟩ := HashTable.run_rel hN hh ops _ _ R0 hok
  exact ⟨t0, t, he0, hts, he, refines_observers R hh⟩

/-- non-vacuity: 4 slots, `h k = k % 4`; keys 3, 7, 11 all hash to the last slot, so the chain wraps
3 → 0 → 1; the history has a clear at generation u32::MAX (wrap to 0) when started from `g = u32::MAX` -/
example : HashTable.HistOK 4 FinMap.clear
    [.insert 3 10, .insert 7 20, .getMut 11, .insert 7 21, .clear, .getMut 7, .insert 11 5] := by
  simp [HashTable.HistOK, HashTable.InDom, HashTable.stepS, FinMap.insert, FinMap.erase, FinMap.contains,
    FinMap.get?, FinMap.len, FinMap.getOrCreate, FinMap.clear]
example : ∀ k, (fun k => k % 4) k < 4 := fun k => Nat.mod_lt _ (by decide)
example : (4294967295 : Nat) ≤ HashTable.u32Max := by decide

/-- non-vacuity of `Inv` / `Rel` (hypotheses of the step, observer, invariant and termination theorems):
a table at generation u32::MAX holding two keys that collide in the last slot (chain wraps 3 → 0) is
related to the map {3 ↦ 10, 7 ↦ 20} -/
example : ∃ t, HashTable.Rel 4 (fun k => k % 4) t [(7, 20), (3, 10)] ∧ t.ts = HashTable.u32Max := by
  have hh : ∀ k, (fun k => k % 4) k < 4 := fun k => Nat.mod_lt _ (by decide)
  obtain ⟨t0, _, hts, R0⟩ := HashTable.setGeneration_rel (N := 4) (fun k => k % 4) (t := HashTable.init 4) rfl
    (by decide) HashTable.u32Max (Nat.le_refl _)
  obtain ⟨t2, he2, R2⟩ := HashTable.insert_rel R0 hh 3 10 (Or.inr (by decide))
  obtain ⟨t3, he3, R3⟩ := HashTable.insert_rel R2 hh 7 20 (Or.inr (by decide))
  exact ⟨t3, R3, (HashTable.insert_ts he3).trans ((HashTable.insert_ts he2).trans hts)⟩

/-- `fibHash` mirrors FibonacciHash::hash: values observed on the real hasher (corpus/C13/d9-fib-2.case) -/
example : HashTable.fibHash 7 = 31497 ∧ HashTable.fibHash 113197 = 31497 ∧ HashTable.fibHash 0 = 0 := by decide

/-- the driver's fast path for long runs of clears (the honest 2^32-clear histories of the thorough
tier) is `n` times `clear` -/
theorem clearMany_is_iterated_clear (N n : Nat) (t : HashTable.Table) :
    HashTable.clearMany N n t = HashTable.clearN N n t :=
  HashTable.clearMany_eq N n t

/-! ### the defects fixed in /repo violate the statement (regression witnesses, 2 slots, `h k = k % 2`) -/

/-- D8 (no restamp at u32::MAX): after the clear that reaches generation u32::MAX an EMPTY table claims
to contain key 0, and the lookup of key 1 never ends (out of fuel), whereas the fixed `clear` answers
"absent" for both -/
example :
    let t : HashTable.Table := { cells := Array.replicate 2 default, ts := 4294967294, length := 0 }
    (HashTable.containsKey 2 (· % 2) (HashTable.Legacy.clear 2 t) 0 = some true ∧
     HashTable.containsKey 2 (· % 2) (HashTable.Legacy.clear 2 t) 1 = none) ∧
    (HashTable.containsKey 2 (· % 2) (HashTable.clear 2 t) 0 = some false ∧
     HashTable.containsKey 2 (· % 2) (HashTable.clear 2 t) 1 = some false) := by decide +kernel

/-- D9 (no reset on creation): insert(7,99); clear(); get_mut(7) hands out 99 instead of the default -/
example :
    ((HashTable.insert 2 (· % 2) (HashTable.init 2) 7 99).bind fun t =>
      (HashTable.Legacy.getMut 2 (· % 2) (HashTable.clear 2 t) 7).map fun r => HashTable.valAt r.1 r.2) = some 99 ∧
    ((HashTable.insert 2 (· % 2) (HashTable.init 2) 7 99).bind fun t =>
      (HashTable.getMut 2 (· % 2) (HashTable.clear 2 t) 7).map fun r => HashTable.valAt r.1 r.2) = some 0 := by decide

/-- the judge's observation checker is exactly "the observed answers are the reference map's answers" -/
theorem judge_checkObs_sound (m : FinMap.M) (U : List Nat) (o : FinMap.Obs) :
    FinMap.checkObs m U o = true ↔
      (o.len = FinMap.len m ∧ o.empty = FinMap.isEmpty m ∧ o.peek = U.map (FinMap.get? m) ∧
        o.contains = U.map (FinMap.contains m)) :=
  FinMap.checkObs_sound m U o

/-- the reference map means what it should: lookups after insert / erase / clear, and `len` counts keys -/
theorem finmap_laws (m : FinMap.M) (hm : FinMap.NoDup m) (k k' : Nat) (v : Int) :
    FinMap.get? (FinMap.insert m k v) k' = (if k = k' then some v else FinMap.get? m k') ∧
    FinMap.get? (FinMap.erase m k) k' = (if k = k' then none else FinMap.get? m k') ∧
    FinMap.get? FinMap.clear k' = none ∧
    FinMap.len (FinMap.insert m k v) = (if FinMap.contains m k then FinMap.len m else FinMap.len m + 1) ∧
    FinMap.len (FinMap.erase m k) = (if FinMap.contains m k then FinMap.len m - 1 else FinMap.len m) ∧
    FinMap.NoDup (FinMap.insert m k v) ∧ FinMap.NoDup (FinMap.erase m k) :=
  ⟨FinMap.get?_insert m k k' v, FinMap.get?_erase m k k', rfl, FinMap.len_insert m k v hm, FinMap.len_erase m k hm,
   FinMap.noDup_insert m k v hm, FinMap.noDup_erase m k hm⟩

end Tbx.Props.C13
