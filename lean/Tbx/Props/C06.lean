import Tbx.Props.C05
/-
C06 — chipper's output is independent of thread count and scheduling.

Theorems about the model, for every bisection step satisfying `StepSpec` / `BoundMono`; `subStep_boundMono` shows that
the real step model is such a step, so the `…_subStep` versions carry no assumption about the step.

Not proved, sampled by the harness: the real rayon scheduler (work stealing, nested pools) and `UnsafeSlice`
under the hardware memory model.
-/
namespace Tbx.Props.C06
open Tbx Tbx.Chipper Tbx.InertialFlow

/-- Every queue of every level of a run with arbitrary bound observations: jobs pairwise disjoint (the Spec's
    checker `disjointAll` accepts them), ids of a job distinct and in range, and whatever an axis reports for a
    job is a duplicate-free list of ids of that job: no two tasks of a level write the same slot of
    `partition_ids`, and inside a task the two id loops touch different slots. -/
theorem jobs_disjoint (step : Step) (cfg : Cfg) (edges : List Chipper.Edge) (n : Nat)
    (hm : 1 ≤ cfg.m) (hn : 2 ≤ n) (hsrc : ∀ e ∈ edges, e.1 < n)
    (hsmall : 2 * edges.length + 6 < Tbx.Flow.INV) (hstep : StepSpec n step cfg.kOf)
    (sched : Nat → Nat → Job → Nat → Int)
    (out : Array Nat × List (List Job)) (h : parChipper step cfg sched edges n = some out) :
    ∀ q ∈ out.2,
      q.Pairwise Disj ∧ Tbx.Hierarchy.disjointAll (q.map (·.ids)) = true ∧
      ∀ job ∈ q, job.ids.Nodup ∧ (∀ x ∈ job.ids, x < n) ∧
        ∀ a β r, step job.edges job.ids a (cfg.kOf job.ids.length) β = .ok r →
          (r.left ++ r.right).Nodup ∧ ∀ x ∈ r.left ++ r.right, x ∈ job.ids := by
  intro q hq
  have hbest := bestPar_ok n step cfg.kOf hstep sched
  have hroot := root_queueOK edges n hn hsrc hsmall
  have hQ := levels_trace_ok cfg _ n hm hbest cfg.r 0 (Array.replicate n 1) _ out (by simp) hroot h q hq
  refine ⟨hQ.disj, queue_disjointAll hQ.disj, ?_⟩
  intro job hj
  have hjob := hQ.jobs job hj
  refine ⟨hjob.nodup, hjob.lt, ?_⟩
  intro a β r hr
  have := (hstep.res job a β r hjob hr).1
  exact ⟨this.nodup, this.sub⟩

/-- the sequential reference is the special case "every axis observes the initial bound" -/
theorem chipper_eq_par (step : Step) (cfg : Cfg) (edges : List Chipper.Edge) (n : Nat) :
    chipper step cfg edges n = parChipper step cfg (fun _ _ job _ => (job.ids.length : Int)) edges n := rfl

/-- For every assignment of admissible observations of the shared bound to the axes of every job of every
    level the concurrent run equals the sequential reference. -/
theorem par_eq_seq (step : Step) (cfg : Cfg) (edges : List Chipper.Edge) (n : Nat)
    (hm : 1 ≤ cfg.m) (hn : 2 ≤ n) (hsrc : ∀ e ∈ edges, e.1 < n)
    (hsmall : 2 * edges.length + 6 < Tbx.Flow.INV)
    (hstep : StepSpec n step cfg.kOf) (hmono : BoundMono n step cfg.kOf)
    (sched : Nat → Nat → Job → Nat → Int)
    (hadm : ∀ lvl idx job, JobOK n job → ObsAdmissible step (cfg.kOf job.ids.length) job (sched lvl idx job)) :
    parChipper step cfg sched edges n = chipper step cfg edges n := by
  unfold parChipper chipper runWith
  apply levels_congr cfg _ _ n hm (bestSeq_ok n step cfg.kOf hstep)
  · intro lvl idx job hjob
    exact bestPar_eq_bestSeq n step cfg.kOf hstep hmono job hjob _ (hadm lvl idx job hjob)
  · simp
  · exact root_queueOK edges n hn hsrc hsmall

/-- Which observations are admissible: if the four axes of a job are the four computations of the C04 model
    (`(P a).F` = the flow axis `a` reports under a sufficiently large bound, initial bound = the job's node
    count), every value the shared location holds at any point of ANY execution (any interleaving, loads
    arbitrarily stale) is an admissible observation. -/
theorem observed_bounds_admissible (step : Step) (k : Nat) (job : Job) (P : Fin 4 → Tbx.Bound.Proc)
    (hF : ∀ a (ha : a < 4), ∃ (β : Int) (r : FlowRes), 0 ≤ β ∧
      step job.edges job.ids a k β = .ok r ∧ r.flow = (P ⟨a, ha⟩).F)
    (obs : Nat → Int)
    (hobs : ∀ a, a < 4 → ∃ sched : List (Fin 4 × Int),
      obs a ∈ (Tbx.Bound.run P (Tbx.Bound.init (job.ids.length : Int)) sched).hist) :
    ObsAdmissible step k job obs := by
  intro a ha
  obtain ⟨sched, hv⟩ := hobs a ha
  obtain ⟨h1, h2⟩ := hist_admissible P (job.ids.length : Int) sched (obs a) hv
  refine ⟨h1, ?_⟩
  intro m hm hall
  apply h2 m hm
  intro i
  obtain ⟨β, r, hβ, hr, hfl⟩ := hF i.1 i.2
  have := hall i.1 i.2 β hβ r hr
  rw [hfl] at this
  exact this

/-- rayon's `min_by(flow_cmp)` is `reduce_with` of "keep the left unless the right is strictly better": over
    ANY reduction tree of the results (in axis order) it returns the element the left fold returns -/
theorem min_by_leftmost (t : RTree) (hpos : ∀ y ∈ t.flatten, 0 < balanceDen y) :
    minBy t.flatten = some t.reduce := t.reduce_eq hpos

/-- the real step model obeys `BoundMono` (C03: `ok_flow_le_bound`, `ok_bound_irrelevant`, `sub_step_total`) -/
theorem subStep_boundMono (coord : Nat → Coord) (n : Nat) (kOf : Nat → Nat)
    (hk : ∀ s, 2 ≤ s → 1 ≤ kOf s ∧ 2 * kOf s ≤ s) :
    BoundMono n (fun e ids a k β => subStep e ids coord a k β) kOf :=
  Tbx.Chipper.subStep_boundMono coord n kOf hk

/-- `par_eq_seq` for the real step model: `StepSpec` and `BoundMono` are proved from C03, so no assumption
    about the step is left -/
theorem par_eq_seq_subStep (coord : Nat → Coord) (cfg : Cfg) (edges : List Chipper.Edge) (n : Nat)
    (hm : 1 ≤ cfg.m) (hn : 2 ≤ n) (hsrc : ∀ e ∈ edges, e.1 < n)
    (hsmall : 2 * edges.length + 6 < Tbx.Flow.INV)
    (hk : ∀ s, 2 ≤ s → 1 ≤ cfg.kOf s ∧ 2 * cfg.kOf s ≤ s)
    (sched : Nat → Nat → Job → Nat → Int)
    (hadm : ∀ lvl idx job, JobOK n job →
      ObsAdmissible (fun e ids a k β => subStep e ids coord a k β) (cfg.kOf job.ids.length) job (sched lvl idx job)) :
    parChipper (fun e ids a k β => subStep e ids coord a k β) cfg sched edges n =
      chipper (fun e ids a k β => subStep e ids coord a k β) cfg edges n :=
  par_eq_seq _ cfg edges n hm hn hsrc hsmall (subStep_stepSpec coord n cfg.kOf hk)
    (subStep_boundMono coord n cfg.kOf hk) sched hadm

/-- `jobs_disjoint` for the real step model (no assumption left beyond the input conditions) -/
theorem jobs_disjoint_subStep (coord : Nat → Coord) (cfg : Cfg) (edges : List Chipper.Edge) (n : Nat)
    (hm : 1 ≤ cfg.m) (hn : 2 ≤ n) (hsrc : ∀ e ∈ edges, e.1 < n)
    (hsmall : 2 * edges.length + 6 < Tbx.Flow.INV)
    (hk : ∀ s, 2 ≤ s → 1 ≤ cfg.kOf s ∧ 2 * cfg.kOf s ≤ s)
    (sched : Nat → Nat → Job → Nat → Int)
    (out : Array Nat × List (List Job))
    (h : parChipper (fun e ids a k β => subStep e ids coord a k β) cfg sched edges n = some out) :
    ∀ q ∈ out.2, q.Pairwise Disj ∧ Tbx.Hierarchy.disjointAll (q.map (·.ids)) = true :=
  fun q hq =>
    let r := jobs_disjoint _ cfg edges n hm hn hsrc hsmall (subStep_stepSpec coord n cfg.kOf hk) sched out h q hq
    ⟨r.1, r.2.1⟩

/-- splits off the first id of the cell (flow 0), whatever the bound -/
def toyStep : Step := fun _ ids _ _ _ =>
  match ids with
  | x :: y :: rest => .ok { flow := 0, left := [x], right := y :: rest }
  | _ => .panic

theorem toyStep_spec (n : Nat) (kOf : Nat → Nat) : StepSpec n toyStep kOf := C05.toyStep_spec n kOf

theorem toyStep_mono (n : Nat) (kOf : Nat → Nat) : BoundMono n toyStep kOf := by
  intro job hjob
  obtain ⟨r, hr0, hr⟩ := C05.toyStep_ok hjob.two
  refine ⟨fun _ => r, fun a _ => ⟨hr0 ▸ Int.le_refl _, fun β hβ => ?_⟩⟩
  show toyStep job.edges job.ids a (kOf job.ids.length) β = _
  rw [if_pos (hr0 ▸ hβ)]
  exact hr job.edges a (kOf job.ids.length) β

/-- observing the bound after another axis has published flow 0 is admissible -/
theorem toy_obs_admissible (k : Nat) (job : Job) (h2 : 2 ≤ job.ids.length) :
    ObsAdmissible toyStep k job (fun a => if a = 2 then 0 else (job.ids.length : Int)) := by
  intro a _
  obtain ⟨r, hr0, hr⟩ := C05.toyStep_ok h2
  constructor
  · show (if a = 2 then (0 : Int) else _) ≤ _
    split
    · exact Int.natCast_nonneg _
    · exact Int.le_refl _
  · intro m hm hall
    have := hall 0 (by omega) 0 (Int.le_refl _) r (hr job.edges 0 k 0)
    show m ≤ (if a = 2 then (0 : Int) else _)
    split
    · exact hr0 ▸ this
    · exact hm

def exCfg : Cfg := { r := 2, m := 1, kOf := fun _ => 1 }
def exEdges : List Chipper.Edge := [(0, 1), (1, 0), (1, 2), (2, 1), (2, 3), (3, 2)]

example : parChipper toyStep exCfg (fun _ _ job a => if a = 2 then 0 else (job.ids.length : Int)) exEdges 4 =
    chipper toyStep exCfg exEdges 4 :=
  par_eq_seq toyStep exCfg exEdges 4 (by decide) (by decide) (by decide) (by decide)
    (toyStep_spec 4 _) (toyStep_mono 4 _) _ (fun _ _ job hjob => toy_obs_admissible _ job hjob.two)

example : ((chipper toyStep exCfg exEdges 4).map fun o => o.2.map fun q => q.map (·.ids)) =
    some [[[0, 1, 2, 3]], [[1, 2, 3]]] := by decide +kernel

/-- a C04 execution in which computation 1 (flow 3) publishes before computation 0 loads: the value 3 that
    computation 0 then observes is in the history, hence admissible -/
example : (3 : Int) ∈ (Tbx.Bound.run (fun i : Fin 4 => if i = 1 then ⟨[], 3⟩ else ⟨[5], 5⟩)
    (Tbx.Bound.init 9) [(1, 9)]).hist := by
  simp [Tbx.Bound.run, Tbx.Bound.step, Tbx.Bound.init]

example : minBy (RTree.node (.node (.leaf ⟨2, [1], [2]⟩) (.leaf ⟨1, [1], [2, 3]⟩))
    (.node (.leaf ⟨1, [1, 2], [3]⟩) (.leaf ⟨1, [3], [1, 2]⟩))).flatten =
    some (RTree.node (.node (.leaf ⟨2, [1], [2]⟩) (.leaf ⟨1, [1], [2, 3]⟩))
    (.node (.leaf ⟨1, [1, 2], [3]⟩) (.leaf ⟨1, [3], [1, 2]⟩))).reduce := by decide +kernel

end Tbx.Props.C06
