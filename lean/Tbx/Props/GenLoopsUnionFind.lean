import Tbx.Gen.Loops
import Tbx.Props.C16
/-
Tie theorems: `UnionFind::find` / `UnionFind::union` as regenerated statement by statement from
/repo/src/union_find.rs (`Tbx.Gen.Loops.ufFind`, `Tbx.Gen.Loops.ufUnion`) compute what the hand model
`Tbx.UF.find` / `Tbx.UF.union` computes wherever the model does not answer `none` (= the Rust would index
out of bounds or underflow `number_of_sets`).  The C16 union-find theorems are then restated for the
generated functions.
-/
namespace Tbx.Props.GenLoopsUnionFind
open Tbx

theorem aget_eq_gt {α : Type} [Inhabited α] (a : Array α) (i : Nat) : Tbx.Gen.aget a i = Tbx.gt a i := rfl
theorem aset_eq_st {α : Type} (a : Array α) (i : Nat) (x : α) : Tbx.Gen.aset a i x = Tbx.st a i x := rfl

/-- a `whileFuel` loop with the condition and body of the generated `find` (state: parent array, `p`) ends where the
    model's `findLoop` ends, if that answers -/
theorem findLoop_eq_gen {cond : Array Nat × Nat → Bool} {body : Array Nat × Nat → Array Nat × Nat}
    (hc : ∀ a p, cond (a, p) = (gt a p != p))
    (hb : ∀ a p, body (a, p) = (st a p (gt a (gt a p)), gt (st a p (gt a (gt a p))) p))
    (f : Nat) (par : Array Nat) (p : Nat) (par' : Array Nat) (r : Nat)
    (h : UF.findLoop f par p = some (par', r)) : Tbx.Gen.whileFuel f cond body (par, p) = (par', r) := by
  induction f generalizing par p with
  | zero => simp [UF.findLoop] at h
  | succ f ih =>
    simp only [UF.findLoop] at h
    simp only [Tbx.Gen.whileFuel, hc, hb]
    by_cases h1 : p ≥ par.size
    · rw [if_pos h1] at h; cases h
    · rw [if_neg h1] at h
      by_cases hne : gt par p ≠ p
      · rw [if_pos hne] at h
        by_cases h2 : gt par p ≥ par.size
        · rw [if_pos h2] at h; cases h
        · rw [if_neg h2] at h
          rw [if_pos (bne_iff_ne.mpr hne)]
          exact ih _ _ h
      · rw [if_neg hne] at h
        cases h
        rw [if_neg fun g => hne (bne_iff_ne.mp g)]

theorem find_some {u u' : Tbx.UF.UF} {x r : Nat} (h : Tbx.UF.find u x = some (u', r)) :
    UF.findLoop (u.parent.size + 1) u.parent x = some (u'.parent, r) ∧ u'.rank = u.rank ∧ u'.numSets = u.numSets := by
  simp only [UF.find] at h
  split at h
  · cases h
  · rename_i par r' hl
    cases h
    exact ⟨hl, rfl, rfl⟩

/-- the generated `find` does not look at the rank array or the set counter -/
theorem gen_find {u u' : Tbx.UF.UF} {x r : Nat} (h : Tbx.UF.find u x = some (u', r)) (rk : Array Nat) (ns : Nat) :
    Tbx.Gen.Loops.ufFind u.parent rk ns x = (r, u'.parent) := by
  unfold Tbx.Gen.Loops.ufFind
  dsimp only
  rw [findLoop_eq_gen (fun _ _ => rfl) (fun _ _ => rfl) _ _ _ _ _ (find_some h).1]

/-- the generated `find` returns the model's root and leaves the model's parent array -/
theorem gen_find_eq_model (u u' : Tbx.UF.UF) (x r : Nat) :
    Tbx.UF.find u x = some (u', r) → Tbx.Gen.Loops.ufFind u.parent u.rank u.numSets x = (r, u'.parent) :=
  fun h => gen_find h _ _

/-- non-vacuity: a depth-2 tree (0 ← 2 ← 3); `find 3` halves the path -/
example : Tbx.Gen.Loops.ufFind #[0, 0, 0, 2] #[2, 0, 1, 0] 1 3 = (0, #[0, 0, 0, 0]) :=
  gen_find_eq_model ⟨1, #[0, 0, 0, 2], #[2, 0, 1, 0]⟩ ⟨1, #[0, 0, 0, 0], #[2, 0, 1, 0]⟩ 3 0 rfl

/-- the generated `union` leaves the model's `parent`, `rank` and `number_of_sets` -/
theorem gen_union_eq_model (u u' : Tbx.UF.UF) (x y : Nat) :
    Tbx.UF.union u x y = some u' →
    Tbx.Gen.Loops.ufUnion u.parent u.rank u.numSets x y = ((), u'.parent, u'.rank, u'.numSets) := by
  intro h
  cases h1 : UF.find u x with
  | none => simp [UF.union, h1] at h
  | some r1 =>
    obtain ⟨u1, xs⟩ := r1
    cases h2 : UF.find u1 y with
    | none => simp [UF.union, h1, h2] at h
    | some r2 =>
      obtain ⟨u2, ys⟩ := r2
      simp only [UF.union, h1, h2] at h
      have hr2 : u2.rank = u.rank := (find_some h2).2.1.trans (find_some h1).2.1
      have hn2 : u2.numSets = u.numSets := (find_some h2).2.2.trans (find_some h1).2.2
      simp only [Tbx.Gen.Loops.ufUnion, gen_find h1, gen_find h2, aget_eq_gt, aset_eq_st]
      by_cases hxy : xs = ys
      · rw [if_pos hxy] at h
        cases h
        simp [hxy, hr2, hn2]
      · have hb : (xs == ys) = false := by simpa using hxy
        rw [if_neg hxy] at h
        simp only [hb, Bool.false_eq_true, if_false]
        by_cases h0 : u2.numSets = 0
        · rw [if_pos h0] at h; cases h
        · rw [if_neg h0, hr2] at h
          rcases Nat.lt_trichotomy (gt u.rank xs) (gt u.rank ys) with hlt | heq | hgt
          · rw [if_pos hlt] at h
            cases h
            simp only [Nat.compare_eq_lt.mpr hlt, hn2]
          · rw [if_neg (heq ▸ Nat.lt_irrefl _), if_neg (heq ▸ Nat.lt_irrefl _)] at h
            cases h
            simp only [Nat.compare_eq_eq.mpr heq, hn2]
          · rw [if_neg (Nat.lt_asymm hgt), if_pos hgt] at h
            cases h
            simp only [Nat.compare_eq_gt.mpr hgt, hn2]

/-- non-vacuity: two rank-1 trees are joined (equal ranks: the rank of the first root grows) -/
example : Tbx.Gen.Loops.ufUnion #[0, 0, 2, 2] #[1, 0, 1, 0] 2 1 3 = ((), #[0, 0, 0, 2], #[2, 0, 1, 0], 1) :=
  gen_union_eq_model ⟨2, #[0, 0, 2, 2], #[1, 0, 1, 0]⟩ ⟨1, #[0, 0, 0, 2], #[2, 0, 1, 0]⟩ 1 3 rfl

open Tbx.UF Tbx.Comp in
/-- "union-find reports two elements equal iff they were joined" (`C16.uf_same_iff_joined`), for the
    generated `find`: in every state reachable from `UnionFind::new(n)` with union pairs `ps`, `find(x)`
    followed by `find(y)` on the state the first call left return the same value iff `x` and `y` are related
    by the equivalence closure of `ps`. -/
theorem gen_same_iff_joined {n : Nat} {u : UF.UF} {ps : Edges} (h : Reachable n u ps) (x y : Nat)
    (hx : x < n) (hy : y < n) :
    ((Tbx.Gen.Loops.ufFind u.parent u.rank u.numSets x).1
      = (Tbx.Gen.Loops.ufFind (Tbx.Gen.Loops.ufFind u.parent u.rank u.numSets x).2 u.rank u.numSets y).1)
      ↔ EqvClosure ps x y := by
  obtain ⟨u1, rx, u2, ry, h1, h2, hiff⟩ := Tbx.Props.C16.uf_same_iff_joined h x y hx hy
  rw [gen_find h1, gen_find h2]
  exact hiff

open Tbx.UF Tbx.Comp in
/-- `C16.uf_union_correct` for the generated `union`: the state it leaves is the model's (hence again
    reachable, with `(x, y)` added to the pairs) and `number_of_sets` drops by one iff the two elements
    were not yet joined. -/
theorem gen_union_correct {n : Nat} {u : UF.UF} {ps : Edges} (h : Reachable n u ps) (x y : Nat)
    (hx : x < n) (hy : y < n) :
    ∃ u', Tbx.Gen.Loops.ufUnion u.parent u.rank u.numSets x y = ((), u'.parent, u'.rank, u'.numSets) ∧
      Reachable n u' (ps ++ [(x, y)]) ∧
      (EqvClosure ps x y → u'.numSets = u.numSets) ∧ (¬ EqvClosure ps x y → u'.numSets + 1 = u.numSets) := by
  obtain ⟨u', hu, hr, ha, hb⟩ := Tbx.Props.C16.uf_union_correct h x y hx hy
  exact ⟨u', gen_union_eq_model _ _ _ _ hu, hr, ha, hb⟩

open Tbx.UF Tbx.Comp in
/-- non-vacuity: after `union(0,1)` on `new(3)`, the generated `find` gives 0 and 1 the same root -/
example : (Tbx.Gen.Loops.ufFind #[0, 0, 2] #[1, 0, 0] 2 0).1
    = (Tbx.Gen.Loops.ufFind (Tbx.Gen.Loops.ufFind #[0, 0, 2] #[1, 0, 0] 2 0).2 #[1, 0, 0] 2 1).1 :=
  (gen_same_iff_joined (n := 3) (u := ⟨2, #[0, 0, 2], #[1, 0, 0]⟩) (ps := [] ++ [(0, 1)])
    (Reachable.union (x := 0) (y := 1) Reachable.new (by decide) (by decide) rfl) 0 1
    (by decide) (by decide)).mpr (EqvClosure.rel (by simp))

end Tbx.Props.GenLoopsUnionFind
