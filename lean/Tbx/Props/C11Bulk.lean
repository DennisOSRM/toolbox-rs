import Tbx.Proofs.LruL0Hist
/-
C11 bulk cases: the closed form the driver uses as its judge (`Tbx.Drv.C11.bulkLines`) proved from
the recency-list specification `Tbx.LruL0`.

History: `push 0 (v 0); push 1 (v 1); …; push (n-1) (v (n-1))` on the empty cache of capacity `c ≥ 1`
(`bulkOps v n`).  Result: the pushed entries, newest first, cut to the capacity (`bulk_take`, from the closed
form `push_items` of a push), that is the keys n-1, n-2, …, n - min n c with their values (`bulk_items`);
everything the driver prints for a bulk case follows.
-/
namespace Tbx.Props.C11Bulk
open Tbx.LruL0

variable {V : Type}

def bulkOps (v : Nat → V) (n : Nat) : List (Op Nat V) :=
  (List.range n).map (fun i => Op.push i (v i))

def bulkState (c : Nat) (v : Nat → V) (n : Nat) : Cache Nat V :=
  run (init c) (bulkOps v n)

/-- the closed form: keys n-1, n-2, …, n - min n c, most recent first -/
def closedItems (c : Nat) (v : Nat → V) (n : Nat) : List (Nat × V) :=
  (List.range' (n - min n c) (min n c)).reverse.map (fun k => (k, v k))

theorem bulkState_succ (c : Nat) (v : Nat → V) (n : Nat) :
    bulkState c v (n + 1) = push (bulkState c v n) n (v n) := by
  rw [bulkState, bulkOps, List.range_succ, List.map_append]; exact run_snoc _ _ _

theorem mem_closedItems (c : Nat) (v : Nat → V) (n : Nat) (p : Nat × V) :
    p ∈ closedItems c v n ↔ (n - min n c ≤ p.1 ∧ p.1 < n) ∧ p.2 = v p.1 := by
  rcases p with ⟨k, x⟩
  simp only [closedItems, List.mem_map, List.mem_reverse, List.mem_range'_1, Prod.mk.injEq]
  constructor
  · rintro ⟨a, ⟨h1, h2⟩, rfl, rfl⟩
    exact ⟨⟨h1, by omega⟩, rfl⟩
  · rintro ⟨⟨h1, h2⟩, h3⟩
    exact ⟨k, ⟨h1, by omega⟩, rfl, h3.symm⟩

theorem length_closedItems (c : Nat) (v : Nat → V) (n : Nat) :
    (closedItems c v n).length = min n c := by
  simp [closedItems]

theorem closedItems_eq_take (c : Nat) (v : Nat → V) (n : Nat) :
    closedItems c v n = ((List.range n).reverse.map (fun k => (k, v k))).take c := by
  -- `take_reverse`: the first c of the reversed range are its last c, reversed; the rest is arithmetic on `range'`
  rw [← List.map_take, List.take_reverse, List.length_range, List.range_eq_range', List.drop_range', closedItems,
    ← Nat.sub_sub_eq_min, Nat.sub_sub_self (Nat.sub_le n c), Nat.zero_add, Nat.mul_one]

theorem bulk_take (c : Nat) (hc : 1 ≤ c) (v : Nat → V) (n : Nat) :
    (bulkState c v n).items = ((List.range n).reverse.map (fun k => (k, v k))).take c := by
  induction n with
  | zero => exact List.take_nil.symm
  | succ n ih =>
    have hcap : (bulkState c v n).cap = c := cap_run _ _
    -- the new key `n` is above every cached key
    have hr : remove (bulkState c v n).items n = (bulkState c v n).items :=
      List.filter_eq_self.2 fun p hp => by
        obtain ⟨k, hk, rfl⟩ := List.mem_map.1 (List.mem_of_mem_take (ih ▸ hp))
        simpa using Nat.ne_of_lt (List.mem_range.1 (List.mem_reverse.1 hk))
    obtain ⟨d, rfl⟩ : ∃ d, c = d + 1 := ⟨c - 1, by omega⟩
    rw [bulkState_succ, push_items (bulkState (d + 1) v n) n (v n) (hcap.symm ▸ hc) (inv_run _ _ hc (inv_init _)), hr, ih,
      hcap, List.range_succ, List.reverse_append, List.take_succ_cons, List.take_take, Nat.min_eq_left (Nat.le_succ d)]
    rfl

/-- after the bulk history the entries, most recent first, are exactly n-1, n-2, …, n - min n c with their
    values; the capacity is unchanged -/
theorem bulk_items (c : Nat) (hc : 1 ≤ c) (v : Nat → V) (n : Nat) :
    (bulkState c v n).items = closedItems c v n ∧ (bulkState c v n).cap = c :=
  ⟨(bulk_take c hc v n).trans (closedItems_eq_take c v n).symm, cap_run _ _⟩

example : (bulkState 3 (fun i => i) 7).items = [(6, 6), (5, 5), (4, 4)] := by
  exact (bulk_items 3 (by decide) (fun i => i) 7).1.trans (by decide)

example : (bulkState 3 (fun i => i) 7).items = [(6, 6), (5, 5), (4, 4)] := by decide

theorem bulk_keys (c : Nat) (hc : 1 ≤ c) (v : Nat → V) (n : Nat) :
    keys (bulkState c v n) = (List.range' (n - min n c) (min n c)).reverse := by
  simp [keys, (bulk_items c hc v n).1, closedItems, Function.comp_def]

example : keys (bulkState 3 (fun i => 10 * i) 7) = [6, 5, 4] := by
  exact (bulk_keys 3 (by decide) (fun i => 10 * i) 7).trans (by decide)

theorem bulk_len (c : Nat) (hc : 1 ≤ c) (v : Nat → V) (n : Nat) :
    len (bulkState c v n) = min n c := by
  rw [len, (bulk_items c hc v n).1, length_closedItems]

example : len (bulkState 3 (fun i => i) 7) = 3 := bulk_len 3 (by decide) _ 7
example : len (bulkState 5 (fun i => i) 2) = 2 := bulk_len 5 (by decide) _ 2

theorem bulk_isEmpty (c : Nat) (hc : 1 ≤ c) (v : Nat → V) (n : Nat) :
    isEmpty (bulkState c v n) = decide (min n c = 0) := by
  have := bulk_len c hc v n
  simp only [len] at this
  rw [isEmpty, this]
  generalize min n c = m
  cases m <;> rfl

example : isEmpty (bulkState 3 (fun i => i) 7) = false := by
  exact (bulk_isEmpty 3 (by decide) (fun i => i) 7).trans (by decide)

/-- the search every observer of a bulk state runs: key `k` is found, with value `v k`, iff it is one of the last
    `min n c` keys -/
theorem bulk_find (c : Nat) (hc : 1 ≤ c) (v : Nat → V) (n k : Nat) :
    (bulkState c v n).items.find? (fun p => p.1 == k) =
      if n - min n c ≤ k ∧ k < n then some (k, v k) else none := by
  rw [(bulk_items c hc v n).1]
  split
  · next h =>
    cases hf : (closedItems c v n).find? (fun p => p.1 == k) with
    | none =>
      have := List.find?_eq_none.1 hf (k, v k) ((mem_closedItems c v n (k, v k)).2 ⟨h, rfl⟩)
      simp at this
    | some p =>
      obtain ⟨a, b⟩ := p
      have hv : b = v a := ((mem_closedItems c v n _).1 (List.mem_of_find?_eq_some hf)).2
      obtain rfl : a = k := by simpa using List.find?_some hf
      rw [hv]
  · next h =>
    rw [List.find?_eq_none]
    intro p hp hk
    exact h ((show p.1 = k by simpa using hk) ▸ ((mem_closedItems c v n p).1 hp).1)

/-- the form the driver uses: `has k = decide (k < n ∧ n - m ≤ k)` -/
theorem bulk_contains_eq (c : Nat) (hc : 1 ≤ c) (v : Nat → V) (n k : Nat) :
    contains (bulkState c v n) k = decide (k < n ∧ n - min n c ≤ k) := by
  rw [← lookup_isSome_iff, lookup, bulk_find c hc]
  split
  · next h => rw [decide_eq_true ⟨h.2, h.1⟩]; rfl
  · next h => rw [decide_eq_false fun h' => h ⟨h'.2, h'.1⟩]; rfl

/-- key `k` is contained iff it is one of the last `min n c` keys -/
theorem bulk_contains (c : Nat) (hc : 1 ≤ c) (v : Nat → V) (n k : Nat) :
    contains (bulkState c v n) k = true ↔ n - min n c ≤ k ∧ k < n := by
  rw [bulk_contains_eq c hc, decide_eq_true_iff, and_comm]

example : contains (bulkState 3 (fun i => i) 7) 4 = true :=
  (bulk_contains 3 (by decide) _ 7 4).2 (by decide)
example : contains (bulkState 3 (fun i => i) 7) 3 = false := by
  rw [bulk_contains_eq 3 (by decide)]; decide

/-- for a contained key the stored value is `v k`, both as the pure
    `lookup` and as the value `get` returns -/
theorem bulk_get (c : Nat) (hc : 1 ≤ c) (v : Nat → V) (n k : Nat)
    (h : contains (bulkState c v n) k = true) :
    lookup (bulkState c v n) k = some (v k) ∧ (get (bulkState c v n) k).2 = some (v k) := by
  have hf := bulk_find c hc v n k
  rw [if_pos ((bulk_contains c hc v n k).1 h)] at hf
  simp [lookup, LruL0.get, hf]

theorem bulk_get_miss (c : Nat) (hc : 1 ≤ c) (v : Nat → V) (n k : Nat)
    (h : ¬ (n - min n c ≤ k ∧ k < n)) :
    lookup (bulkState c v n) k = none ∧ get (bulkState c v n) k = (bulkState c v n, none) := by
  have hf := bulk_find c hc v n k
  rw [if_neg h] at hf
  simp [lookup, LruL0.get, hf]

example : lookup (bulkState 3 (fun i => 10 * i) 7) 5 = some 50 :=
  (bulk_get 3 (by decide) (fun i => 10 * i) 7 5 (by decide)).1
example : (get (bulkState 3 (fun i => 10 * i) 7) 5).2 = some 50 :=
  (bulk_get 3 (by decide) (fun i => 10 * i) 7 5 (by decide)).2
example : lookup (bulkState 3 (fun i => 10 * i) 7) 2 = none :=
  (bulk_get_miss 3 (by decide) (fun i => 10 * i) 7 2 (by decide)).1

theorem bulk_get_keeps (c : Nat) (v : Nat → V) (n k j : Nat) :
    contains (get (bulkState c v n) k).1 j = contains (bulkState c v n) j :=
  contains_get _ k j

example : contains (get (bulkState 3 (fun i => i) 7) 4).1 5 = true := by
  rw [bulk_get_keeps 3]; decide

/-- if `n > 0` the most recently used entry is `(n-1, v (n-1))` -/
theorem bulk_front (c : Nat) (hc : 1 ≤ c) (v : Nat → V) (n : Nat) (hn : 0 < n) :
    getFront (bulkState c v n) = some (n - 1, v (n - 1)) := by
  obtain ⟨m, rfl⟩ : ∃ m, n = m + 1 := ⟨n - 1, by omega⟩
  rw [bulkState_succ]; exact getFront_push _ m (v m)

theorem bulk_front_zero (c : Nat) (v : Nat → V) : getFront (bulkState c v 0) = none := rfl

example : getFront (bulkState 3 (fun i => 10 * i) 7) = some (6, 60) :=
  bulk_front 3 (by decide) _ 7 (by decide)

/-- the number of evicted entries the driver prints (`n - m`): pushes minus entries kept -/
theorem bulk_evicted (c : Nat) (hc : 1 ≤ c) (v : Nat → V) (n : Nat) :
    (bulkOps v n).length - len (bulkState c v n) = n - min n c := by
  rw [bulk_len c hc]; simp [bulkOps]

example : (bulkOps (fun i => i) 7).length - len (bulkState 3 (fun i => i) 7) = 4 :=
  bulk_evicted 3 (by decide) _ 7

/-- after `clear` the cache is empty: no entries, nothing contained, nothing found,
    no front, same capacity (holds for every cache, in particular after the bulk history) -/
theorem bulk_clear {K : Type} [DecidableEq K] (s : Cache K V) :
    len (clear s) = 0 ∧ isEmpty (clear s) = true ∧ (∀ k, contains (clear s) k = false) ∧
      (∀ k, lookup (clear s) k = none) ∧ getFront (clear s) = none ∧ (clear s).cap = s.cap := by
  simp [len, isEmpty, contains, lookup, getFront, clear]

theorem bulk_clear_run (c : Nat) (v : Nat → V) (n : Nat) :
    run (init c) (bulkOps v n ++ [Op.clear]) = clear (bulkState c v n) :=
  run_snoc _ _ _

/-- one push after `clear` leaves exactly that entry: for every cache, whatever its capacity -/
theorem push_clear {K : Type} [DecidableEq K] (s : Cache K V) (k : K) (x : V) :
    len (push (clear s) k x) = 1 ∧ contains (push (clear s) k x) k = true := by
  simp only [push, clear, contains, List.any_nil, Bool.false_eq_true, if_false, List.length_nil]
  by_cases h : 0 = s.cap <;> simp [len, h]

/-- what the driver prints as `reuse len=1 has=1`: one push after `clear` -/
theorem bulk_reuse (c : Nat) (hc : 1 ≤ c) (v : Nat → V) (n k : Nat) (x : V) :
    len (push (clear (bulkState c v n)) k x) = 1 ∧
      contains (push (clear (bulkState c v n)) k x) k = true :=
  push_clear _ k x

example : len (clear (bulkState 3 (fun i => i) 7)) = 0 := (bulk_clear _).1
example : contains (clear (bulkState 3 (fun i => i) 7)) 5 = false := (bulk_clear _).2.2.1 5
example : len (push (clear (bulkState 3 (fun i => i) 7)) 0 0) = 1 :=
  (bulk_reuse 3 (by decide) _ 7 0 0).1

end Tbx.Props.C11Bulk
