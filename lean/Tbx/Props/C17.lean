import Tbx.Model.RadixLegacy
import Tbx.Gen.Consts
import Tbx.Proofs.RadixHist
import Tbx.Proofs.RadixPartial
/-
C17 — radix sort sorts every supported element type.

The property theorems of C17 and their test vectors (lemmas: Tbx/Proofs/Radix*.lean); registered in
Tbx/Audit/C17.lean.  Types are `(width in bytes, kind)`, elements are bit patterns `< 256^w`.
The Spec (`SortSpec.IsSortOf`, order `SortSpec.le`) is in Tbx/Spec/SortOrder.lean.
-/
namespace Tbx.Props.C17
open Tbx Tbx.Radix Tbx.SortSpec

theorem judge_sound (t : Ty) (inp out : List Nat) : checkB t inp out = true ↔ IsSortOf t inp out :=
  checkB_iff t inp out

/-- the judge accepts the sorted D15 witness and rejects the output the old code produced -/
example : sortedAdjB (leB ⟨4, .float⟩) [0xC0000000, 0xBF800000, 0xBF000000, 0x40400000] = true ∧
    sortedAdjB (leB ⟨4, .float⟩) [0xC0000000, 0xBF000000, 0xBF800000, 0x40400000] = false := by decide

/-! ### the `is_signed!` table (about text regenerated from /repo on every run) -/

/-- `iN`/`isize` by name -/
def namedSigned (s : String) : Bool := s.front == 'i'

/-- every integer type handed to `invoke_macro_for_types!(radix_type, …)` whose name starts with 'i' has an
    `is_signed!` arm, and no unsigned type has one -/
theorem type_table_complete :
    ∀ n ∈ Tbx.Gen.rdxIntTypes, (n ∈ Tbx.Gen.rdxSignedArms ↔ namedSigned n = true) := by decide +kernel

/-- non-vacuity: the regenerated list contains signed and unsigned types (incl. the D14 type `isize`) -/
example : "isize" ∈ Tbx.Gen.rdxIntTypes ∧ "usize" ∈ Tbx.Gen.rdxIntTypes ∧ "i128" ∈ Tbx.Gen.rdxIntTypes := by decide +kernel

/-- D14 regression is recognised: without the `isize` arm the statement is false -/
example : ¬ ∀ n ∈ ["u8", "usize", "i8", "i64", "isize"],
    (n ∈ ["i8", "i16", "i32", "i64", "i128"] ↔ namedSigned n = true) := by decide +kernel

/-- a pass is a stable permutation that groups by key in the pass's bucket order:
    (1) permutation, (2) every bucket keeps the relative order of its elements, (3) elements appear by
    non-decreasing rank of their bucket -/
theorem pass_stable_perm (t : Ty) (k : Nat) (xs : List Nat) :
    (pass t k xs).Perm xs ∧
    (∀ b, b < 256 → (pass t k xs).filter (fun x => key t x k == b) = xs.filter (fun x => key t x k == b)) ∧
    (pass t k xs).Pairwise (fun a b => rank t k (key t a k) ≤ rank t k (key t b k)) :=
  ⟨pass_perm t k xs, pass_stable t k xs, pass_grouped t k xs⟩

/-- the last round of a signed type: bucket 0xFF (−1), bucket 0x00 (5, 3), bucket 0xC0 (MIN/2): negatives first,
    ascending; 5 stays before 3 (stability) -/
example : pass ⟨4, .signed⟩ 3 [0xFFFFFFFF, 5, 0xC0000000, 3] = [0xC0000000, 0xFFFFFFFF, 5, 3] := by
  decide +kernel

/-- a round is skipped exactly when one bucket holds all n elements, and then the pass it replaces is the
    identity on every arrangement of the input (the skip table is computed once, from the input's histograms) -/
theorem skip_sound (t : Ty) (k : Nat) (xs : List Nat) :
    (skipRound t k xs = true ↔ ∃ b, b < 256 ∧ xs.countP (fun x => key t x k == b) = xs.length) ∧
    (skipRound t k xs = true → ∀ l : List Nat, l.Perm xs → pass t k l = l) :=
  ⟨skipRound_iff t k xs, pass_of_skip t k xs⟩

/-- round 1 of `[0x0105, 0x0107, 0x0101] : u16` is skipped (all high bytes are 0x01), round 0 is not -/
example : skipRound ⟨2, .unsigned⟩ 1 [0x0105, 0x0107, 0x0101] = true ∧
    skipRound ⟨2, .unsigned⟩ 0 [0x0105, 0x0107, 0x0101] = false := by decide +kernel

/-- the float key transform (all bits flipped for negative values, sign bit set otherwise) is strictly
    monotone from IEEE totalOrder on sign–magnitude patterns to the unsigned order -/
theorem float_key_monotone (t : Ty) (hw : 0 < t.w) (a b : Nat) (ha : a < t.card) (hb : b < t.card) :
    (fle t a b ↔ floatTr t a ≤ floatTr t b) ∧ (¬ fle t b a ↔ floatTr t a < floatTr t b) :=
  ⟨fle_iff_key t hw a b ha hb, by rw [fle_iff_key t hw b a hb ha]; exact Nat.not_le⟩

/-- −1.0 ≤ 0.5, −0.0 < +0.0, −2.0 < −1.0 in the Spec's order on f32 patterns -/
example : fle ⟨4, .float⟩ 0xBF800000 0x3F000000 ∧
    (fle ⟨4, .float⟩ 0x80000000 0 ∧ ¬ fle ⟨4, .float⟩ 0 0x80000000) ∧
    (fle ⟨4, .float⟩ 0xC0000000 0xBF800000 ∧ ¬ fle ⟨4, .float⟩ 0xBF800000 0xC0000000) := by decide

/-- LSD: after the rounds 0..w−1 (each a pass in its bucket order, or skipped) the list is a permutation of
    the input sorted in the type's order: unsigned numeric; signed two's complement (the last round lays
    out the buckets 0x80..0xFF before 0x00..0x7F); floats IEEE totalOrder through `float_key_monotone`;
    bool false < true -/
theorem lsd_sorted (t : Ty) (hw : 0 < t.w) (xs : List Nat) (hx : ∀ x ∈ xs, x < t.card) :
    IsSortOf t xs (sortB t xs) :=
  sortB_sorted t hw xs hx

/-- the D13 witness `[-1, i32::MIN/2]` satisfies the hypotheses and is sorted by the model -/
example : (0 < (⟨4, .signed⟩ : Ty).w) ∧ (∀ x ∈ [0xFFFFFFFF, 0xC0000000], x < (⟨4, .signed⟩ : Ty).card) := by decide
example : sortB ⟨4, .signed⟩ [0xFFFFFFFF, 0xC0000000] = [0xC0000000, 0xFFFFFFFF] :=
  sortB_eq_of_sorted _ (by decide) _ _ (by decide) ⟨by decide, by decide⟩
/-- D14 witness `[-1isize, 5, -7]`, D15 witness `[-1.0, -2.0, 3.0, -0.5]` -/
example : sortB ⟨8, .signed⟩ [0xFFFFFFFFFFFFFFFF, 5, 0xFFFFFFFFFFFFFFF9] =
    [0xFFFFFFFFFFFFFFF9, 0xFFFFFFFFFFFFFFFF, 5] :=
  sortB_eq_of_sorted _ (by decide) _ _ (by decide) ⟨by decide, by decide⟩
example : sortB ⟨4, .float⟩ [0xBF800000, 0xC0000000, 0x40400000, 0xBF000000] =
    [0xC0000000, 0xBF800000, 0xBF000000, 0x40400000] :=
  sortB_eq_of_sorted _ (by decide) _ _ (by decide) ⟨by decide, by decide⟩

/-- the histogram-level model (one-pass histograms, prefix sums incl. the signed last round, skip table,
    placement with running offsets, buffer swap) returns `some` — i.e. every `get_unchecked` index it
    computes is in bounds — and its result is the bucket-level sort -/
theorem placement_eq_buckets (t : Ty) (xs : Array Nat) :
    ∃ a, radixSort t xs = some a ∧ a.toList = sortB t xs.toList :=
  radixSort_eq_sortB t xs

/-- one permutation round in isolation: with the row of start offsets computed by the prefix phase
    (`RowOK`) and an output buffer of length n, the placement loop performs n in-bounds writes and leaves
    the concatenation of the buckets in the output -/
theorem placement_round (t : Ty) (k : Nat) (l : List Nat) (offs out : Array Nat)
    (hrow : RowOK t k (cnt t k l) offs) (hout : out.size = l.length) :
    ∃ offs' out', place t k l offs out = some (offs', out') ∧ out'.toList = pass t k l ∧ out'.size = out.size :=
  place_eq_pass t k l offs out hrow hout

/-- non-vacuity of `placement_round`: the prefix phase produces such a row from the histogram row -/
example (t : Ty) (n k : Nat) (h : Array Nat) (hs : h.size = 256) :
    RowOK t k (gt h) (prefixRound t n k h false).1 := (prefixRound_spec t n k h hs).1

example : ∃ a, radixSort ⟨4, .signed⟩ #[0xFFFFFFFF, 0xC0000000] = some a ∧ a.toList = [0xC0000000, 0xFFFFFFFF] := by
  rcases placement_eq_buckets ⟨4, .signed⟩ #[0xFFFFFFFF, 0xC0000000] with ⟨a, h1, h2⟩
  exact ⟨a, h1, h2.trans (sortB_eq_of_sorted _ (by decide) _ _ (by decide) ⟨by decide, by decide⟩)⟩

/-- radix sort (histogram-level model) terminates without an out-of-bounds access and leaves a permutation
    of its input in non-decreasing order of the element type -/
theorem radix_sorts (t : Ty) (hw : 0 < t.w) (xs : Array Nat) (hx : ∀ x ∈ xs.toList, x < t.card) :
    ∃ a, radixSort t xs = some a ∧ IsSortOf t xs.toList a.toList := by
  rcases placement_eq_buckets t xs with ⟨a, h1, h2⟩
  exact ⟨a, h1, h2 ▸ lsd_sorted t hw xs.toList hx⟩

/-- … identical to what a standard (stable, comparison) sort by the same order produces; for floats the
    order is totalOrder, so the equality is bitwise (−0.0 before +0.0) -/
theorem eq_std_sort (t : Ty) (hw : 0 < t.w) (xs : Array Nat) (hx : ∀ x ∈ xs.toList, x < t.card) :
    radixSort t xs = some (xs.toList.mergeSort (leB t)).toArray := by
  rcases radix_sorts t hw xs hx with ⟨a, h1, h2⟩
  rw [h1, ← eq_mergeSort t hw hx h2]

/-- non-vacuity: the mixed-sign i32 vector `[-1, 5, MIN/2, 0, MAX]` satisfies the hypotheses -/
example : (0 < (⟨4, .signed⟩ : Ty).w) ∧
    (∀ x ∈ (#[0xFFFFFFFF, 5, 0xC0000000, 0, 0x7FFFFFFF] : Array Nat).toList, x < (⟨4, .signed⟩ : Ty).card) := by decide

/-- floats, `partial_cmp` reading: the radix-sorted vector is `==`-equal, element by element, to the stable
    standard sort by `partial_cmp` (which leaves −0.0 and +0.0 in input order, whereas radix sort puts −0.0
    first); stated on the `==`-representatives `canon` (−0.0 ↦ +0.0), `feqB a b ↔ canon a = canon b` -/
theorem eq_std_partial_sort (t : Ty) (hw : 0 < t.w) (hf : t.kind = .float) (xs : Array Nat)
    (hx : ∀ x ∈ xs.toList, x < t.card) :
    ∃ a, radixSort t xs = some a ∧
      a.toList.map (canon t) = (xs.toList.mergeSort (pleB t)).map (canon t) ∧
      (∀ x y, x < t.card → y < t.card → (feqB t x y = true ↔ canon t x = canon t y)) := by
  rcases radix_sorts t hw xs hx with ⟨a, h1, h2⟩
  exact ⟨a, h1, sorted_eq_partial_sort t hw hf hx h2, fun x y _ _ => feqB_iff_canon t x y⟩

/-- non-vacuity: `[+0.0, −0.0, −1.0, +0.0]` as f32 satisfies the hypotheses; the two sorts differ bitwise there
    (radix: −1.0, −0.0, +0.0, +0.0; partial_cmp: −1.0, +0.0, −0.0, +0.0) but agree under `canon` -/
example : (0 < (⟨4, .float⟩ : Ty).w) ∧ (⟨4, .float⟩ : Ty).kind = .float ∧
    (∀ x ∈ (#[0, 0x80000000, 0xBF800000, 0] : Array Nat).toList, x < (⟨4, .float⟩ : Ty).card) ∧
    sortB ⟨4, .float⟩ [0, 0x80000000, 0xBF800000, 0] = [0xBF800000, 0x80000000, 0, 0] ∧
    [0xBF800000, 0x80000000, 0, 0].map (canon ⟨4, .float⟩) = [0xBF800000, 0, 0x80000000, 0].map (canon ⟨4, .float⟩) := by
  have hv : ∀ x ∈ [0, 0x80000000, 0xBF800000, 0], x < (⟨4, .float⟩ : Ty).card := by decide
  exact ⟨by decide, rfl, hv, sortB_eq_of_sorted _ (by decide) _ _ hv ⟨by decide, by decide⟩, by decide⟩

/-! ### the fixed defects D13, D14, D15 violate the statement on their witnesses (legacy model) -/

/-- D13: `[-1, i32::MIN/2]` stayed as it was -/
example : RadixLegacy.sortL 4 true [0xFFFFFFFF, 0xC0000000] = [0xFFFFFFFF, 0xC0000000] ∧
    ¬ [0xFFFFFFFF, 0xC0000000].Pairwise (le ⟨4, .signed⟩) := by
  constructor
  · decide +kernel
  · decide
/-- D14: `[-1isize, 5, -7]` sorted as unsigned gives `[5, -7, -1]` -/
example : RadixLegacy.sortL 8 false [0xFFFFFFFFFFFFFFFF, 5, 0xFFFFFFFFFFFFFFF9] =
      [5, 0xFFFFFFFFFFFFFFF9, 0xFFFFFFFFFFFFFFFF] ∧
    ¬ [5, 0xFFFFFFFFFFFFFFF9, 0xFFFFFFFFFFFFFFFF].Pairwise (le ⟨8, .signed⟩) := by
  constructor
  · decide +kernel
  · decide
/-- D15: `[-1.0, -2.0, 3.0, -0.5]` came out as `[-2.0, -0.5, -1.0, 3.0]` -/
example : RadixLegacy.sortL 4 true [0xBF800000, 0xC0000000, 0x40400000, 0xBF000000] =
      [0xC0000000, 0xBF000000, 0xBF800000, 0x40400000] ∧
    ¬ [0xC0000000, 0xBF000000, 0xBF800000, 0x40400000].Pairwise (le ⟨4, .float⟩) := by
  constructor
  · decide +kernel
  · decide

end Tbx.Props.C17
