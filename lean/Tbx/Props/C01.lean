import Tbx.Proofs.FlowDinicResume
import Tbx.Proofs.FlowSolvers
import Tbx.Model.FlowLegacy
import Tbx.Model.FlowGeneric
/-
C01 — every max-flow solver returns the true maximum s-t flow value.

Property theorems only (helper lemmas: Tbx/Proofs/Flow*.lean).  Registered in Tbx/Audit/C01.lean.
Spec: `Tbx.FlowTheory.IsMaxFlowValue` over the merged input capacities `cF edges n`.
-/
namespace Tbx.Props.C01
open Tbx Tbx.Flow Tbx.FlowSpec Tbx.FlowTheory

/-- input edges of D1's witness (s = 0, t = 4, maximum flow 10) -/
def d1E : List E := [(0,1,10),(1,2,10),(1,3,10),(1,4,3),(2,4,10),(3,4,10)]
/-- a final residual graph of a correct run on it -/
def d1R : List E :=
  [(0,1,0),(1,0,10),(1,2,3),(1,3,10),(1,4,0),(2,1,7),(2,4,3),(3,1,0),(3,4,10),(4,1,3),(4,2,7),(4,3,0)]
/-- the residual graph the pre-fix Dinic ended with (0→1 driven to −3, reported value 13) -/
def d1RLegacy : List E :=
  [(0,1,-3),(1,0,13),(1,2,0),(1,3,10),(1,4,0),(2,1,10),(2,4,0),(3,1,0),(3,4,10),(4,1,3),(4,2,10),(4,3,0)]
/-- a second, different maximum flow on D1's witness (the one EdmondsKarp ends with) -/
def d1R' : List E :=
  [(0,1,0),(1,0,10),(1,2,10),(1,3,3),(1,4,0),(2,1,0),(2,4,10),(3,1,7),(3,4,3),(4,1,3),(4,2,0),(4,3,7)]
def d1Edges : List Edge := [⟨0,1,10⟩,⟨1,2,10⟩,⟨1,3,10⟩,⟨1,4,3⟩,⟨2,4,10⟩,⟨3,4,10⟩]

def exC : Fin 2 → Fin 2 → ℤ := fun u v => if u = 0 ∧ v = 1 then 3 else 0
def exF : Fin 2 → Fin 2 → ℤ := fun u v => if u = 0 ∧ v = 1 then 3 else if u = 1 ∧ v = 0 then -3 else 0
theorem exF_isFlow : IsFlow exC 0 1 exF := ⟨by decide, by decide, by decide⟩

/-! What the examples below state about the reference checker and about the runs of the three models on this witness
is evaluated here, one group of facts at a time, so that the kernel shares the residual graph and the runs within a
group. -/

theorem d1_checker_facts :
    certOK d1E 0 4 d1R 10 = true ∧ certOK d1E 0 4 d1RLegacy 13 = false ∧ certOK d1E 0 4 d1R' 10 = true := by
  decide +kernel

theorem d1_ek_facts :
    ((Solver.fromEdgeList d1Edges 0 4).runEK 100).map (·.maxFlow?) = some (.ok 10) ∧
    ((Solver.fromEdgeList d1Edges 0 4).runFF 100).isSome = true ∧
    (((Solver.fromEdgeList d1Edges 0 4).runEK 100).bind (Solver.runN popBack 1 3)).map (·.maxFlow)
      = some 10 := by decide +kernel

theorem d1_dinic_facts :
    (Dinic.fromEdgeList d1Edges 0 4).isSome = true ∧
    ((Dinic.fromEdgeList d1Edges 0 4).bind (·.run 100)).map (·.maxFlow?) = some (.ok 10) ∧
    (((Dinic.fromEdgeList d1Edges 0 4).bind (·.run 100)).bind (·.bfs)).map (·.2) = some false ∧
    ((residualDinic d1Edges).numNodes = 5 ∧ (residualDinic d1Edges).tgt.size = 12) ∧
    ((Dinic.fromEdgeList d1Edges 0 4).bind (·.run 100)).map (·.trace) =
      some [(1, [4, 2, 1, 0], 7), (1, [4, 1, 0], 3)] ∧
    ((Dinic.fromEdgeList d1Edges 0 4).bind (·.run 100)).isSome = true ∧
    (((Dinic.fromEdgeList d1Edges 0 4).bind (·.run 100)).bind (Dinic.runAgainN 1 3)).map (·.maxFlow)
      = some 10 ∧
    ((Dinic.fromEdgeList d1Edges 0 4).bind (InertialFlow.runsBounded 100 [2, 2, I32MAX])).map
      (fun d => (d.finished, d.maxFlow)) = some (true, 10) ∧
    ((Dinic.fromEdgeList d1Edges 0 4).bind (InertialFlow.runsBounded 100 [2])).map
      (fun d => d.finished) = some false ∧
    ((Dinic.fromEdgeList d1Edges 0 4).bind (FlowLegacy.run · 100)).map (·.maxFlow) = some 13 := by
  decide +kernel

/-- the value of any flow is bounded by the capacity of any separating cut -/
theorem weak_duality {n : Nat} {c : Fin n → Fin n → ℤ} {s t : Fin n} {f : Fin n → Fin n → ℤ}
    (hf : IsFlow c s t f) (S : Finset (Fin n)) (hs : s ∈ S) (ht : t ∉ S) : value f s ≤ cutCap c S :=
  FlowTheory.weak_duality hf S hs ht

example : value exF 0 ≤ cutCap exC {0} := weak_duality exF_isFlow {0} (by decide) (by decide)

/-- max-flow = min-cut in the direction an algorithm needs: a flow that saturates every edge leaving a
    separating set S has the maximum value, that value is the capacity of S, and S is a minimum cut -/
theorem maxflow_certificate {n : Nat} {c : Fin n → Fin n → ℤ} {s t : Fin n} {f : Fin n → Fin n → ℤ}
    (hf : IsFlow c s t f) (S : Finset (Fin n)) (hs : s ∈ S) (ht : t ∉ S)
    (hsat : ∀ u ∈ S, ∀ v ∈ Sᶜ, f u v = c u v) :
    IsMaxFlowValue c s t (value f s) ∧ value f s = cutCap c S ∧
    (∀ S' : Finset (Fin n), s ∈ S' → t ∉ S' → cutCap c S ≤ cutCap c S') := by
  obtain ⟨a, b, d⟩ := certificate hf S hs ht hsat
  exact ⟨⟨⟨f, hf, rfl⟩, b⟩, a, d⟩

example : IsMaxFlowValue exC 0 1 (value exF 0) :=
  (maxflow_certificate exF_isFlow {0} (by decide) (by decide) (by decide)).1

/-- the certificate check on a final residual graph implies that the reported value is the maximum
    flow value of the merged input capacities.  The driver evaluates it on the residual graph of every
    REAL solver run (and of every model run) -/
theorem certOK_sound (es : List E) (s t : Nat) (res : List E) (x : ℤ)
    (h : certOK es s t res x = true) :
    ∃ (hs : s < nNodes es) (ht : t < nNodes es),
      IsMaxFlowValue (cF es (nNodes es)) ⟨s, hs⟩ ⟨t, ht⟩ x :=
  FlowTheory.certOK_sound es s t res x h

example : certOK d1E 0 4 d1R 10 = true := d1_checker_facts.1
/-- the checker rejects what the pre-fix Dinic produced on D1's witness -/
example : certOK d1E 0 4 d1RLegacy 13 = false := d1_checker_facts.2.1

/-- the tabulated checker the judge executes is the reference checker -/
theorem judge_checker_eq (es : List E) (s t : Nat) (res : List E) (x : ℤ) :
    certFast es s t res x = certOK es s t res x := certFast_eq es s t res x

example : certFast d1E 0 4 d1R 10 = true := (judge_checker_eq ..).trans d1_checker_facts.1

/-- two certified runs (any solvers, any augmenting paths) report the same value -/
theorem solvers_agree (es : List E) (s t : Nat) (r1 r2 : List E) (x1 x2 : ℤ)
    (h1 : certOK es s t r1 x1 = true) (h2 : certOK es s t r2 x2 = true) : x1 = x2 := by
  obtain ⟨hs, ht, m1⟩ := FlowTheory.certOK_sound es s t r1 x1 h1
  obtain ⟨_, _, m2⟩ := FlowTheory.certOK_sound es s t r2 x2 h2
  exact maxFlowValue_unique m1 m2

example : certOK d1E 0 4 d1R' 10 = true := d1_checker_facts.2.2

/-- `max_flow()` / `assignment()` on a solver that has not finished a run return `Err` -/
theorem not_run_err (es : List Edge) (s t src : Nat) :
    (Solver.fromEdgeList es s t).maxFlow? = .err ∧ (Solver.fromEdgeList es s t).assignment? src = .err ∧
    (∀ d, Dinic.fromEdgeList es s t = some d → d.maxFlow? = .err ∧ d.assignment? src = .err) := by
  refine ⟨rfl, rfl, ?_⟩
  intro d hd
  cases fromEdgeList_eq hd
  exact ⟨rfl, rfl⟩

example : (Dinic.fromEdgeList d1Edges 0 4).isSome = true := d1_dinic_facts.1

/-- a completed `run` sets `finished`, after which `max_flow()` is `Ok` of the accumulated flow -/
theorem run_then_ok (sv sv' : Solver) (pop : List Nat → Option (Nat × List Nat)) (fuel : Nat)
    (h : sv.run pop fuel = some sv') : sv'.maxFlow? = .ok sv'.maxFlow := by
  unfold Solver.run at h
  split at h
  · cases h
  · split at h
    · cases h
    · cases h; rfl

theorem dinic_run_then_ok (d d' : Dinic) (fuel : Nat) (h : d.run fuel = some d') :
    d'.maxFlow? = .ok d'.maxFlow := by
  unfold Dinic.run at h
  simp only at h
  split at h
  · cases h
  · split at h
    · cases h
    · cases h; rfl

example : ((Solver.fromEdgeList d1Edges 0 4).runEK 100).map (·.maxFlow?) = some (.ok 10) := d1_ek_facts.1
example : ((Dinic.fromEdgeList d1Edges 0 4).bind (·.run 100)).map (·.maxFlow?) = some (.ok 10) :=
  d1_dinic_facts.2.1

/-- Dinic's constructor (sort by (source,target), `dedup_by`, CSR): the residual graph is
    a well-formed CSR graph with (largest id + 1) nodes and non-negative capacities whose residual on
    every node pair is the merged input capacity (reverse copies contribute 0) -/
theorem merge_cap_dinic (es : List Edge) (hnn : ∀ e, e ∈ es → 0 ≤ e.cap) :
    WF (residualDinic es) ∧ (residualDinic es).numNodes = maxId es + 1 ∧
    NonNeg (residualDinic es) ∧ ∀ u v, rOf (residualDinic es) u v = capE es u v :=
  Flow.merge_cap_dinic es hnn

/-- the same for the EdmondsKarp / FordFulkerson constructor (sort by the derived `Ord`, `dedup_by`,
    `StaticGraph::new`) -/
theorem merge_cap_ek (es : List Edge) (hnn : ∀ e, e ∈ es → 0 ≤ e.cap) :
    WF (residualEK es) ∧ (residualEK es).numNodes = maxId es + 1 ∧
    NonNeg (residualEK es) ∧ ∀ u v, rOf (residualEK es) u v = capE es u v :=
  Flow.merge_cap_ek es hnn

example : ∀ e, e ∈ d1Edges → 0 ≤ e.cap := by decide
example : capE (d1Edges ++ [⟨1,4,2⟩]) 1 4 = 5 := by decide

/-- `r ≥ 0 ∧ r u v + r v u = c u v + c v u` makes `c − r` a capacity-bounded
    antisymmetric function, and the invariant is preserved by pushing δ along a simple path all of whose
    residual capacities are at least δ -/
theorem residual_inv {n : Nat} {c r : Fin n → Fin n → ℤ} (h : ResInv c r) :
    (∀ u v, resFlow c r u v = - resFlow c r v u) ∧ (∀ u v, resFlow c r u v ≤ c u v) ∧
    (∀ (δ : ℤ) (p : List (Fin n)), 0 ≤ δ → p.Nodup → (∀ ab ∈ consec p, δ ≤ r ab.1 ab.2) →
      ResInv c (pushAlong r δ p)) := by
  refine ⟨?_, ?_, fun δ p hδ hnd hcap => pushAlong_resInv h δ hδ p hnd hcap⟩
  · intro u v; unfold resFlow; have := h.pair u v; omega
  · intro u v; unfold resFlow; have := h.nonneg u v; omega

example : ResInv exC (fun u v => if u = 0 ∧ v = 1 then 3 else 0) :=
  ⟨by decide, by decide⟩

/-- pushing `0 ≤ δ ≤ min r` along a simple s–t path of residual edges keeps the
    invariant and conservation and raises the value by δ -/
theorem augment_ok {n : Nat} {c r : Fin n → Fin n → ℤ} {s t : Fin n} (hst : s ≠ t) (h : ResInv c r)
    (hc : Conserved c r s t) (δ : ℤ) (hδ : 0 ≤ δ) (rest : List (Fin n)) (hnd : (s :: rest).Nodup)
    (hlast : (s :: rest).getLast (by simp) = t)
    (hcap : ∀ ab ∈ consec (s :: rest), δ ≤ r ab.1 ab.2) :
    ResInv c (pushAlong r δ (s :: rest)) ∧ Conserved c (pushAlong r δ (s :: rest)) s t ∧
    value (resFlow c (pushAlong r δ (s :: rest))) s = value (resFlow c r) s + δ :=
  FlowTheory.augment_ok hst h hc δ hδ rest hnd hlast hcap

/-- pushing 2 along 0→1 in the two-node network with capacity 3 -/
example : ResInv exC (pushAlong (fun u v => if u = 0 ∧ v = 1 then 3 else 0) 2 [0, 1]) ∧
    value (resFlow exC (pushAlong (fun u v => if u = 0 ∧ v = 1 then 3 else 0) 2 [0, 1])) 0 =
      value (resFlow exC (fun u v => if u = 0 ∧ v = 1 then 3 else 0)) 0 + 2 := by
  have key : ∀ u : Fin 2, u ≠ 0 → u ≠ 1 → False := by decide
  have h := augment_ok (c := exC) (r := fun u v => if u = 0 ∧ v = 1 then 3 else 0) (s := 0) (t := 1)
    (by decide) ⟨by decide, by decide⟩ (fun u h0 h1 => (key u h0 h1).elim) 2 (by decide) [1]
    (by decide) (by decide) (by decide)
  exact ⟨h.1, h.2.2⟩

/-- for every edge list with non-negative capacities, every source ≠ target and
    every pop discipline that returns a member of the worklist, a `run` of the EdmondsKarp / FordFulkerson
    model that returns has computed the maximum s-t flow value of the merged input capacities, and
    `max_flow()` then returns it.  (`ek_ff_terminates` below shows that with the driver's fuel it does
    return.) -/
theorem ek_ff_correct (es : List Edge) (s t : Nat) (hnn : ∀ e, e ∈ es → 0 ≤ e.cap) (hst : s ≠ t)
    (hN : nNodes (es.map toE) ≤ INV) (pop : List Nat → Option (Nat × List Nat)) (hp : PopOK pop)
    (fuel : Nat) (sv' : Solver) (h : (Solver.fromEdgeList es s t).run pop fuel = some sv') :
    ∃ (hs : s < nNodes (es.map toE)) (ht : t < nNodes (es.map toE)),
      IsMaxFlowValue (cF (es.map toE) (nNodes (es.map toE))) ⟨s, hs⟩ ⟨t, ht⟩ sv'.maxFlow ∧
      sv'.maxFlow? = .ok sv'.maxFlow :=
  Flow.ek_ff_correct es s t hnn hst hN pop hp fuel sv' h

/-- the two disciplines the Rust uses: `Vec::pop` (EdmondsKarp's DFS struct) and `pop_front`
    (FordFulkerson's BFS struct) -/
theorem pops_ok : PopOK popBack ∧ PopOK popFront := ⟨popBack_ok, popFront_ok⟩

example : ((Solver.fromEdgeList d1Edges 0 4).runFF 100).isSome = true := d1_ek_facts.2.1

/-- in the graph Dinic's constructor builds, (source,target) pairs are unique, so
    `find_edge_unchecked` is a function, and every edge has its reverse -/
theorem merge_cap_unique_rev (es : List Edge) : Uniq (residualDinic es) ∧ RevClosed (residualDinic es) :=
  residualDinic_uniq_rev es

/-- on a well-formed residual graph with unique (source,target) pairs in which every
    edge has its reverse, `bfs()` returns `true` iff there is a path of positive residual capacities from
    the source to the target; it touches nothing but `level` / `bfs_count` -/
theorem dinic_bfs_exact (d : Dinic) (hwf : WF d.g) (huq : Uniq d.g) (hrc : RevClosed d.g)
    (hN : d.g.numNodes + 2 < INV) (hsz : d.level.size = d.g.numNodes) (hs : d.source < d.g.numNodes)
    (ht : d.target < d.g.numNodes) (hst : d.source ≠ d.target) (d' : Dinic) (b : Bool)
    (h : d.bfs = some (d', b)) :
    (b = true ↔ ReachG d.g d.source d.target) ∧
    d'.g = d.g ∧ d'.parents = d.parents ∧ d'.source = d.source ∧ d'.target = d.target ∧
    d'.level.size = d.g.numNodes := by
  have hex := bfs_exact d hwf huq hrc hN hsz hs ht hst d' b h
  obtain ⟨lv, hl, hi, _⟩ := bfs_run d hwf huq hrc hN hsz ht hst
  rw [hl] at h
  cases h
  exact ⟨hex, rfl, rfl, rfl, rfl, hi.hsz⟩

/-- on the final state of the model's run on D1's witness `bfs()` answers `false` -/
example : (((Dinic.fromEdgeList d1Edges 0 4).bind (·.run 100)).bind (·.bfs)).map (·.2) = some false :=
  d1_dinic_facts.2.2.1
example : (residualDinic d1Edges).numNodes = 5 ∧ (residualDinic d1Edges).tgt.size = 12 :=
  d1_dinic_facts.2.2.2.1

/-- whenever `dfs` reaches the target through an edge `e : u → t` from a
    node `u` with simple parent chain `lu` (which holds for every node on the stack: `DI.stk`), the path
    `t :: lu` is simple and ends in the source, each of its windows is an existing residual edge, the
    pushed amount `fl` — recomputed along the parent chain — is ≥ 0 and ≤ every CURRENT residual capacity
    of the path, the augmentation is exactly `pushPath` along it, and the flow invariant holds afterwards
    with the flow raised by `fl`.  This is the statement that fails for the pre-fix `dfs`
    (`Tbx.FlowLegacy`, example at the end of this file).  It needs only the parent structure (`DI`); that
    the amount is moreover ≥ 1 needs the stack/unwinding invariant `DP`: `dinic_aug_valid` below -/
theorem dinic_aug_valid_partial {n : Nat} {c : Fin n → Fin n → ℤ} {s t : Fin n} (hst : s ≠ t)
    (hN : n ≤ INV) (d : Dinic) (F : ℤ) (hi : DI c s t d F) (u e : Nat) (lu : List Nat)
    (hcu : PChain n s.val d.parents u lu) (hun : u < n) (hre : InRange d.g u e)
    (hte : gt d.g.tgt e = t.val) (fl : ℤ)
    (hcm : chainMin d.g (st d.parents t.val u) (d.g.numNodes + 1) u (gt d.g.cap e) = some fl)
    (g' : Graph) (ct : Nat)
    (hau : augChain (st d.parents t.val u) fl (d.g.numNodes + 1) t.val u d.g = some (g', ct)) :
    (t.val :: lu).Nodup ∧ (t.val :: lu).getLast? = some s.val ∧ 0 ≤ fl ∧
    (∀ ab, ab ∈ windows (t.val :: lu) → ∃ e', d.g.findEdge ab.2 ab.1 = some e' ∧ fl ≤ gt d.g.cap e') ∧
    pushPath d.g fl (windows (t.val :: lu)) = some g' ∧
    FInv c s t g' (F + fl) ∧ g'.first = d.g.first ∧ g'.tgt = d.g.tgt :=
  aug_valid hst hN d F hi u e lu hcu hun hre hte fl hcm g' ct hau

/-- the model's run on D1's witness goes through this branch twice (paths 0-1-4 with 3, 0-1-2-4 with 7;
    the pre-fix code pushed 10 along the second) -/
example : ((Dinic.fromEdgeList d1Edges 0 4).bind (·.run 100)).map (·.trace) =
    some [(1, [4, 2, 1, 0], 7), (1, [4, 1, 0], 3)] := d1_dinic_facts.2.2.2.2.1

/-- under the stack/unwinding invariant `DP` — every stack entry's parent
    chain consists of edges of positive residual capacity, entries are leaves of the parent forest and are
    ordered by ancestry of their parents — an augmentation through `e : u → t` pushes a strictly positive
    amount along a simple path of positive residual edges, and the entries that survive the unwinding to
    the tail of the saturated edge closest to the source satisfy `DP` again in the new graph -/
theorem dinic_aug_valid {n : Nat} {c : Fin n → Fin n → ℤ} {s t : Fin n} (hst : s ≠ t) (hN : n ≤ INV)
    (d : Dinic) (F : ℤ) (hi : DI c s t d F) (hp : DP n s.val d.g d.parents (d.stack.map Prod.fst))
    (u e : Nat) (lu : List Nat) (hcu : PChain n s.val d.parents u lu) (hun : u < n)
    (hposu : ∀ ab, ab ∈ windows lu → PosW d.g ab) (hunot : u ∉ d.stack.map Prod.fst)
    (hre : InRange d.g u e) (hte : gt d.g.tgt e = t.val) (hav : gt d.g.cap e ≠ 0) (fl : ℤ)
    (hcm : chainMin d.g (st d.parents t.val u) (d.g.numNodes + 1) u (gt d.g.cap e) = some fl)
    (g' : Graph) (ct : Nat)
    (hau : augChain (st d.parents t.val u) fl (d.g.numNodes + 1) t.val u d.g = some (g', ct)) :
    0 < fl ∧ (∀ ab, ab ∈ windows (t.val :: lu) → PosW d.g ab) ∧
    pushPath d.g fl (windows (t.val :: lu)) = some g' ∧ FInv c s t g' (F + fl) ∧
    DP n s.val g' (st (st d.parents t.val u) t.val INV)
      ((unwind (st d.parents t.val u) ct d.stack).map Prod.fst) := by
  obtain ⟨h1, h2⟩ := dp_target hst hN d F hi hp u e lu hcu hun hposu hunot hre hte hav fl hcm g' ct hau
  obtain ⟨_, _, _, _, h5, h6, _, _⟩ := aug_valid hst hN d F hi u e lu hcu hun hre hte fl hcm g' ct hau
  exact ⟨h1, posW_target_path hi hcu hposu hre hte hav, h5, h6, h2⟩

/-- every augmentation performed by a run of the Dinic model pushes ≥ 1
    (`trace` is the model's ghost log of (phase, path, amount)) -/
theorem dinic_aug_positive (es : List Edge) (s t : Nat) (hnn : ∀ e, e ∈ es → 0 ≤ e.cap) (hst : s ≠ t)
    (hN : nNodes (es.map toE) + 2 < INV) (d : Dinic) (hd : Dinic.fromEdgeList es s t = some d)
    (fuel : Nat) (d' : Dinic) (h : d.run fuel = some d') : ∀ tr, tr ∈ d'.trace → 0 < tr.2.2 :=
  Flow.dinic_aug_positive es s t hnn hst hN d hd fuel d' h

/-- the DFS invariant is kept by the whole `while let Some((u, flow)) = stack.pop()` loop, and the
    blocking flow it returns is the amount by which the flow value grew -/
theorem dinic_dfs_invariant {n : Nat} {c : Fin n → Fin n → ℤ} {s t : Fin n} (hst : s ≠ t) (hN : n ≤ INV)
    (d : Dinic) (F : ℤ) (hi : DL c s t d F) (d' : Dinic) (bf : ℤ) (h : d.dfs = some (d', bf)) :
    DL c s t d' (F + bf) ∧ 0 ≤ bf :=
  dfs_spec hst hN d F hi d' bf h

/-- partial correctness: for every non-empty edge list with non-negative capacities
    and every source ≠ target, a `run` (without bound) of the Dinic model that returns has computed the
    maximum s-t flow value of the merged input capacities, and `max_flow()` then returns it.
    (`dinic_terminates` below shows that with the driver's fuel it does return.) -/
theorem dinic_correct (es : List Edge) (s t : Nat) (hnn : ∀ e, e ∈ es → 0 ≤ e.cap) (hst : s ≠ t)
    (hN : nNodes (es.map toE) + 2 < INV) (d : Dinic) (hd : Dinic.fromEdgeList es s t = some d)
    (fuel : Nat) (d' : Dinic) (h : d.run fuel = some d') :
    ∃ (hs : s < nNodes (es.map toE)) (ht : t < nNodes (es.map toE)),
      IsMaxFlowValue (cF (es.map toE) (nNodes (es.map toE))) ⟨s, hs⟩ ⟨t, ht⟩ d'.maxFlow ∧
      d'.maxFlow? = .ok d'.maxFlow :=
  Flow.dinic_correct es s t hnn hst hN d hd fuel d' h

example : ((Dinic.fromEdgeList d1Edges 0 4).bind (·.run 100)).isSome = true := d1_dinic_facts.2.2.2.2.2.1
example : nNodes (d1Edges.map toE) + 2 < INV := by decide

/-- clause "a reused / re-run solver" (defect D24): `Dinic.run` is `runAgain` on a
    fresh object, and after a completed run of the Dinic model any number `k` of further `run()` calls on the
    same object - each modelled by `Dinic.runAgain`, which continues from the stored flow counter exactly as the
    repaired Rust does - return (one BFS each, any fuel ≥ 1) and leave the reported value and the residual graph
    unchanged.  With the pre-fix `let mut flow = 0` the second run reports 0; the `rerun` family replays that. -/
theorem dinic_rerun_same_value (es : List Edge) (s t : Nat) (hnn : ∀ e, e ∈ es → 0 ≤ e.cap) (hst : s ≠ t)
    (hN : nNodes (es.map toE) + 2 < INV) (d : Dinic) (hd : Dinic.fromEdgeList es s t = some d)
    (fuel : Nat) (d' : Dinic) (h : d.run fuel = some d') (fuel' k : Nat) :
    d.run fuel = d.runAgain fuel ∧
    ∃ d'', Dinic.runAgainN (fuel' + 1) k d' = some d'' ∧ d''.maxFlow? = d'.maxFlow? ∧ d''.g = d'.g ∧
      d''.maxFlow? = .ok d'.maxFlow := by
  have h0 : d.maxFlow = 0 := by
    cases fromEdgeList_eq hd; rfl
  refine ⟨run_eq_runAgain d fuel h0, ?_⟩
  obtain ⟨hs, ht, hq, _⟩ := run_spec es s t hnn hst hN d hd fuel d' h
  obtain ⟨d'', h2, m2, g2, q2⟩ := runAgainN_fixed (fun e => hst (Fin.mk.inj e)) hN fuel' k d' hq
  exact ⟨d'', h2, by rw [q2.maxFlow?, hq.maxFlow?, m2], g2, by rw [q2.maxFlow?, m2]⟩

example : (((Dinic.fromEdgeList d1Edges 0 4).bind (·.run 100)).bind (Dinic.runAgainN 1 3)).map (·.maxFlow)
    = some 10 := d1_dinic_facts.2.2.2.2.2.2.1

/-- the EdmondsKarp / FordFulkerson models continue from their stored flow counter,
    so a re-run is `Solver.run` itself; after a completed run, `k` further runs of the same object return and
    report the same value on an unchanged residual graph -/
theorem ek_ff_rerun_same_value (es : List Edge) (s t : Nat) (hnn : ∀ e, e ∈ es → 0 ≤ e.cap) (hst : s ≠ t)
    (hN : nNodes (es.map toE) ≤ INV) (pop : List Nat → Option (Nat × List Nat)) (hp : PopOK pop)
    (hl : PopLen pop) (fuel : Nat) (sv' : Solver) (h : (Solver.fromEdgeList es s t).run pop fuel = some sv')
    (fuel' k : Nat) :
    ∃ sv'', Solver.runN pop (fuel' + 1) k sv' = some sv'' ∧ sv''.maxFlow? = sv'.maxFlow? ∧ sv''.g = sv'.g := by
  obtain ⟨s2, h2, m2, g2, f2, f1⟩ := Flow.ek_ff_rerun es s t hnn hst hN pop hp hl fuel sv' h fuel' k
  refine ⟨s2, h2, ?_, g2⟩
  unfold Solver.maxFlow?; rw [m2, f2, f1]

example : (((Solver.fromEdgeList d1Edges 0 4).runEK 100).bind (Solver.runN popBack 1 3)).map (·.maxFlow)
    = some 10 := d1_ek_facts.2.2

/-- every history of runs on one object, aborts included: let a Dinic model object be
    built from any admissible edge list and then driven through ANY sequence of `run()` /
    `run_with_upper_bound(b)` calls - `bs` lists the value the consulted bound has at each call, so a call may be
    aborted, resumed later under a larger bound, repeated after completion, in any order
    (`InertialFlow.runBoundedAgain` is the repaired loop that continues from the stored counter; the first call
    on the fresh object is `runBounded`).  Whenever `max_flow()` then answers `Ok x`, `x` is the maximum s-t flow
    value.  (That the call sequence returns is `dinic_terminates` for the first run; for later runs the fuel is a
    parameter here.)  A counter that loses the phase pushed before an abort (seeded change C02-r4m2) or restarts
    at 0 (D24) falsifies the invariant `Carried` this rests on. -/
theorem dinic_history_maxflow (es : List Edge) (s t : Nat) (hnn : ∀ e, e ∈ es → 0 ≤ e.cap) (hst : s ≠ t)
    (hs : s < nNodes (es.map toE)) (ht : t < nNodes (es.map toE)) (hN : nNodes (es.map toE) + 2 < INV)
    (d : Dinic) (hd : Dinic.fromEdgeList es s t = some d) (fuel : Nat) (bs : List Int) (d' : Dinic)
    (h : InertialFlow.runsBounded fuel bs d = some d') (x : Int) (hx : d'.maxFlow? = .ok x) :
    IsMaxFlowValue (cF (es.map toE) (nNodes (es.map toE))) ⟨s, hs⟩ ⟨t, ht⟩ x := by
  obtain ⟨hc, hf⟩ := InertialFlow.fresh_carried es s t hnn hs ht d hd
  obtain ⟨_, hdone⟩ := InertialFlow.runsBounded_spec (fun e => hst (Fin.mk.inj e)) hN fuel bs d d' hc
    (fun hft => by rw [hf] at hft; cases hft) h
  obtain ⟨hfin, rfl⟩ := Dinic.maxFlow?_eq_ok.mp hx
  exact (hdone hfin).1

/-- the same for the very function the driver runs on the `bounded-rerun` family
    (`InertialFlow.rerunHistory`: first a bounded run, then `k` further runs under the stored bound / a new bound
    i32::MAX alternating): whenever the model object answers `Ok x` afterwards, `x` is the maximum flow -/
theorem dinic_rerun_history_maxflow (es : List Edge) (s t : Nat) (hnn : ∀ e, e ∈ es → 0 ≤ e.cap) (hst : s ≠ t)
    (hs : s < nNodes (es.map toE)) (ht : t < nNodes (es.map toE)) (hN : nNodes (es.map toE) + 2 < INV)
    (d : Dinic) (hd : Dinic.fromEdgeList es s t = some d) (fuel : Nat) (B : Int) (d1 : Dinic) (b1 : Int)
    (h1 : InertialFlow.runBoundedAgain d fuel B = some (d1, b1)) (k i : Nat) (r : Dinic × Int)
    (h2 : InertialFlow.rerunHistory fuel k i d1 b1 = some r) (x : Int) (hx : r.1.maxFlow? = .ok x) :
    IsMaxFlowValue (cF (es.map toE) (nNodes (es.map toE))) ⟨s, hs⟩ ⟨t, ht⟩ x := by
  obtain ⟨bs, _, hbs⟩ := InertialFlow.rerunHistory_runsBounded fuel k i d1 b1 r h2
  refine dinic_history_maxflow es s t hnn hst hs ht hN d hd fuel (B :: bs) r.1 ?_ x hx
  simp only [InertialFlow.runsBounded, h1]
  exact hbs

/-- on a fresh object the bounded run used elsewhere (`InertialFlow.runBounded`: C03, C04, the driver's first
    bounded run) is the general `runBoundedAgain` -/
theorem run_bounded_is_history_step (d : Dinic) (fuel : Nat) (bound : Int) (h0 : d.maxFlow = 0) :
    InertialFlow.runBounded d fuel bound = InertialFlow.runBoundedAgain d fuel bound := by
  unfold InertialFlow.runBounded InertialFlow.runBoundedAgain
  rw [h0]

/-- non-vacuity: D1's witness aborted at bound 2, run again under the same bound, then completed under i32::MAX -/
example : ((Dinic.fromEdgeList d1Edges 0 4).bind (InertialFlow.runsBounded 100 [2, 2, I32MAX])).map
    (fun d => (d.finished, d.maxFlow)) = some (true, 10) := d1_dinic_facts.2.2.2.2.2.2.2.1
example : ((Dinic.fromEdgeList d1Edges 0 4).bind (InertialFlow.runsBounded 100 [2])).map
    (fun d => d.finished) = some false := d1_dinic_facts.2.2.2.2.2.2.2.2.1

/-- `solvers_agree` on the models: the three models return the same value whenever they return -/
theorem models_agree (es : List Edge) (s t : Nat) (hnn : ∀ e, e ∈ es → 0 ≤ e.cap) (hst : s ≠ t)
    (hN : nNodes (es.map toE) + 2 < INV) (d d' : Dinic) (hd : Dinic.fromEdgeList es s t = some d)
    (f1 f2 f3 : Nat) (hr : d.run f1 = some d') (ek ff : Solver)
    (hek : (Solver.fromEdgeList es s t).runEK f2 = some ek)
    (hff : (Solver.fromEdgeList es s t).runFF f3 = some ff) :
    d'.maxFlow = ek.maxFlow ∧ ek.maxFlow = ff.maxFlow := by
  obtain ⟨_, _, m1, _⟩ := Flow.dinic_correct es s t hnn hst hN d hd f1 d' hr
  obtain ⟨_, _, m2, _⟩ := Flow.ek_ff_correct es s t hnn hst (by omega) popBack popBack_ok f2 ek hek
  obtain ⟨_, _, m3, _⟩ := Flow.ek_ff_correct es s t hnn hst (by omega) popFront popFront_ok f3 ff hff
  exact ⟨maxFlowValue_unique m1 m2, maxFlowValue_unique m2 m3⟩

/-- with the fuel the driver passes (2 + sum of all capacities) the run of the
    EdmondsKarp (`popBack`) / FordFulkerson (`popFront`) model returns.  Each node is marked at most once
    per search, a parent chain is simple (pigeonhole), every augmentation raises the value by ≥ 1 and the
    value is bounded by the capacity of the cut ({s}, rest) ≤ Σ capacities (`weak_duality`) -/
theorem ek_ff_terminates (es : List Edge) (s t : Nat) (hnn : ∀ e, e ∈ es → 0 ≤ e.cap) (hst : s ≠ t)
    (hs : s < nNodes (es.map toE)) (ht : t < nNodes (es.map toE)) (hN : nNodes (es.map toE) ≤ INV)
    (pop : List Nat → Option (Nat × List Nat)) (hp : PopOK pop) (hl : PopLen pop) :
    ∃ sv', (Solver.fromEdgeList es s t).run pop ((es.map Edge.cap).sum.toNat + 2) = some sv' :=
  ek_ff_run_total es s t hnn hst hs ht hN pop hp hl

theorem pops_len : PopLen popBack ∧ PopLen popFront := ⟨popBack_len, popFront_len⟩

/-- with the same fuel the run of the Dinic model returns: `bfs` labels each node
    at most once, `dfs` marks each node at most once per phase, a phase that starts after `bfs() = true`
    pushes ≥ 1 (the DFS is complete on the admissible edges until its first augmentation, and
    `dinic_aug_positive`), and the value is bounded by Σ capacities -/
theorem dinic_terminates (es : List Edge) (s t : Nat) (hnn : ∀ e, e ∈ es → 0 ≤ e.cap) (hst : s ≠ t)
    (hs : s < nNodes (es.map toE)) (ht : t < nNodes (es.map toE)) (hN : nNodes (es.map toE) + 2 < INV)
    (d : Dinic) (hd : Dinic.fromEdgeList es s t = some d) :
    ∃ d', d.run ((es.map Edge.cap).sum.toNat + 2) = some d' :=
  dinic_run_total es s t hnn hst hs ht hN d hd

/-- total correctness for all three models: for every edge list with non-negative
    capacities and every pair of distinct nodes s, t, each of the three models — run with the fuel the
    driver passes — returns, `max_flow()` is `Ok x`, x is the same for the three, and x is the maximum s-t
    flow value of the merged input capacities (= the capacity of a minimum cut, `maxflow_certificate`) -/
theorem solvers_return_maxflow (es : List Edge) (s t : Nat) (hnn : ∀ e, e ∈ es → 0 ≤ e.cap) (hst : s ≠ t)
    (hs : s < nNodes (es.map toE)) (ht : t < nNodes (es.map toE)) (hN : nNodes (es.map toE) + 2 < INV) :
    ∃ (x : ℤ) (d d' : Dinic) (ek ff : Solver),
      IsMaxFlowValue (cF (es.map toE) (nNodes (es.map toE))) ⟨s, hs⟩ ⟨t, ht⟩ x ∧
      Dinic.fromEdgeList es s t = some d ∧ d.run ((es.map Edge.cap).sum.toNat + 2) = some d' ∧
      d'.maxFlow? = .ok x ∧
      (Solver.fromEdgeList es s t).runEK ((es.map Edge.cap).sum.toNat + 2) = some ek ∧ ek.maxFlow? = .ok x ∧
      (Solver.fromEdgeList es s t).runFF ((es.map Edge.cap).sum.toNat + 2) = some ff ∧ ff.maxFlow? = .ok x := by
  obtain ⟨_, x, d, d', ek, ff, h1, h2, h3, h4, o1, o2, o3, _, _, _, _, _, _, _, m, _⟩ :=
    Flow.solvers_return_canonical_cut es s t hnn hst hs ht hN
  exact ⟨x, d, d', ek, ff, m, h1, h2, o1, h3, o2, h4, o3⟩

/-- `from_generic_edge_list` with ANY capacity closure `f` whose values on
    the given payloads are non-negative yields solvers that return the maximum flow of the capacities
    `f(payload)` — in particular edges with payload ≤ 0 count with capacity `f(payload)` -/
theorem generic_constructor_maxflow (f : Int → Int) (es : List Edge) (s t : Nat)
    (hnn : ∀ e, e ∈ es → 0 ≤ f e.cap) (hst : s ≠ t)
    (hs : s < nNodes ((mapCaps f es).map toE)) (ht : t < nNodes ((mapCaps f es).map toE))
    (hN : nNodes ((mapCaps f es).map toE) + 2 < INV) :
    ∃ (x : ℤ) (d d' : Dinic) (ek ff : Solver),
      IsMaxFlowValue (cF ((mapCaps f es).map toE) (nNodes ((mapCaps f es).map toE))) ⟨s, hs⟩ ⟨t, ht⟩ x ∧
      Dinic.fromGenericEdgeList f es s t = some d ∧
      d.run (((mapCaps f es).map Edge.cap).sum.toNat + 2) = some d' ∧ d'.maxFlow? = .ok x ∧
      (Solver.fromGenericEdgeList f es s t).runEK (((mapCaps f es).map Edge.cap).sum.toNat + 2) = some ek ∧
      ek.maxFlow? = .ok x ∧
      (Solver.fromGenericEdgeList f es s t).runFF (((mapCaps f es).map Edge.cap).sum.toNat + 2) = some ff ∧
      ff.maxFlow? = .ok x :=
  solvers_return_maxflow (mapCaps f es) s t
    (fun e he => by
      obtain ⟨x, hx, rfl⟩ := List.mem_map.mp he
      exact hnn x hx) hst hs ht hN

/-- the closures of the harness on payloads that include 0 and negatives -/
example : (mapCaps (genCap 2) [⟨0,1,-7⟩, ⟨1,2,-2⟩, ⟨0,2,0⟩]).map Edge.cap = [7, 2, 0] ∧
    (mapCaps (genCap 0) [⟨0,1,0⟩, ⟨1,2,-3⟩]).map Edge.cap = [1, 1] ∧
    (mapCaps (genCap 3) [⟨0,1,-5⟩, ⟨1,2,0⟩, ⟨0,2,-3⟩]).map Edge.cap = [3, 3, 5] := by decide

example : nNodes (d1Edges.map toE) = 5 ∧ (d1Edges.map Edge.cap).sum.toNat + 2 = 55 := by decide

/-- the legacy model reports 13 on D1's witness, whose maximum flow is 10 -/
example : ((Dinic.fromEdgeList d1Edges 0 4).bind (FlowLegacy.run · 100)).map (·.maxFlow) = some 13 :=
  d1_dinic_facts.2.2.2.2.2.2.2.2.2

end Tbx.Props.C01
