import Tbx.Gen.Loops
import Tbx.Model.Arr
import Tbx.Model.NextFit
import Tbx.Model.PartitionID
import Tbx.Props.GenTie
import Tbx.Props.C20
/-
Ties between the loop-bearing definitions regenerated from /repo on every run (Tbx/Gen/Loops.lean) and the
hand-written models the property theorems speak about:
  * `bin_pack_next_fit`  (src/bin_pack.rs)      — `Tbx.Gen.Loops.nextFit`  vs `Tbx.NextFit.nextFit`
  * `lowest_common_ancestor` (src/partition_id.rs) — `Tbx.Gen.Loops.pidLca` vs `Tbx.PartitionID.lowestCommonAncestor`
-/
namespace Tbx.Props.GenLoopsMisc
open Tbx

theorem aget_eq_gt {α : Type} [Inhabited α] (a : Array α) (i : Nat) : Tbx.Gen.aget a i = Tbx.gt a i := rfl
theorem aset_eq_st {α : Type} (a : Array α) (i : Nat) (x : α) : Tbx.Gen.aset a i x = Tbx.st a i x := rfl

/-- a `whileFuel` loop with the condition and body of the generated `while left != right` ends, on the left, where the
    model's `lcaLoop` ends, if that answers -/
theorem genLcaLoop_eq_model {cond : Nat × Nat → Bool} {body : Nat × Nat → Nat × Nat}
    (hc : ∀ l r, cond (l, r) = (l != r)) (hb : ∀ l r, body (l, r) = (Tbx.Gen.pidParent l, Tbx.Gen.pidParent r))
    (fuel l r v : Nat) (h : PartitionID.lcaLoop fuel l r = some v) :
    (Tbx.Gen.whileFuel fuel cond body (l, r)).1 = v := by
  induction fuel generalizing l r with
  | zero =>
    simp only [PartitionID.lcaLoop] at h
    split at h
    · exact Option.some.inj h
    · exact absurd h (by simp)
  | succ n ih =>
    simp only [PartitionID.lcaLoop] at h
    simp only [Tbx.Gen.whileFuel, hc, hb]
    by_cases hlr : l = r
    · subst hlr
      simp only [ne_eq, not_true_eq_false, if_false] at h
      simp only [bne_self_eq_false, Bool.false_eq_true, if_false]
      exact Option.some.inj h
    · simp only [ne_eq, hlr, not_false_eq_true, if_true] at h
      have hb : (l != r) = true := by simpa using hlr
      simp only [hb, if_true]
      exact ih _ _ h

/-- on non-zero 32-bit ids the regenerated `lowest_common_ancestor` returns what the hand
    model returns (the generated text repeats the loop in each of the four branches of the level comparison) -/
theorem gen_lca_eq_model (x y r : Nat) (hx : 1 ≤ x) (hx' : x < 2^32) (hy : 1 ≤ y) (hy' : y < 2^32) :
    Tbx.PartitionID.lowestCommonAncestor x y = some r → Tbx.Gen.Loops.pidLca x y = r := by
  intro h
  simp only [PartitionID.lowestCommonAncestor, GenTie.pid_level x hx hx', GenTie.pid_level y hy hy'] at h
  unfold Tbx.Gen.Loops.pidLca
  by_cases h1 : Tbx.Gen.pidLevel x > Tbx.Gen.pidLevel y <;>
    by_cases h2 : Tbx.Gen.pidLevel y > Tbx.Gen.pidLevel x <;>
    simp only [h1, h2, decide_true, decide_false, if_true, if_false, Bool.false_eq_true] at h ⊢ <;>
    exact genLcaLoop_eq_model (fun _ _ => rfl) (fun _ _ => rfl) _ _ _ _ h

example : Tbx.Gen.Loops.pidLca 8 5 = 2 :=
  gen_lca_eq_model 8 5 2 (by decide) (by decide) (by decide) (by decide) (by decide)

/-- `lca_deepest` (Props/C20) restated for the regenerated function: on non-zero 32-bit ids its result is an
    ancestor of both arguments and every common ancestor is an ancestor of it -/
theorem gen_lca_deepest (x y : Nat) (hx1 : 1 ≤ x) (hx : x < 2 ^ 32) (hy1 : 1 ≤ y) (hy : y < 2 ^ 32) :
    Spec.IdTree.IsLCA (Tbx.Gen.Loops.pidLca x y) x y := by
  obtain ⟨a, ha, hl⟩ := C20.lca_deepest x y hx1 hx hy1 hy
  rw [gen_lca_eq_model x y a hx1 hx hy1 hy ha]
  exact hl

example : Spec.IdTree.IsLCA (Tbx.Gen.Loops.pidLca 4294967295 2147483648) 4294967295 2147483648 :=
  gen_lca_deepest _ _ (by decide) (by decide) (by decide) (by decide)

/-- the body of the generated `for (i, &item) in items.iter().enumerate()` loop -/
def genNfStep (items : Array Nat) (capacity : Nat) : Nat × Nat × Array Nat → Nat → Nat × Nat × Array Nat :=
  (fun (current_bin_4, remaining_capacity_5, assignments_6) i_7 =>
            let item_8 : Nat := Tbx.Gen.aget items i_7
            if (decide (item_8 > remaining_capacity_5)) then
              let current_bin_12 : Nat := (current_bin_4 + (1 : Nat))
              let remaining_capacity_13 : Nat := capacity
              let assignments_14 : Array Nat := Tbx.Gen.aset assignments_6 i_7 current_bin_12
              let remaining_capacity_15 : Nat := (remaining_capacity_13 - item_8)
              (current_bin_12, remaining_capacity_15, assignments_14)
            else
              let assignments_16 : Array Nat := Tbx.Gen.aset assignments_6 i_7 current_bin_4
              let remaining_capacity_17 : Nat := (remaining_capacity_5 - item_8)
              (current_bin_4, remaining_capacity_17, assignments_16))

theorem genNfStep_eq (items : Array Nat) (cap cur rem : Nat) (arr : Array Nat) (i : Nat) :
    genNfStep items cap (cur, rem, arr) i =
      if Tbx.gt items i > rem then (cur + 1, cap - Tbx.gt items i, Tbx.st arr i (cur + 1))
      else (cur, rem - Tbx.gt items i, Tbx.st arr i cur) := by
  simp only [genNfStep, aget_eq_gt, aset_eq_st]
  by_cases h : Tbx.gt items i > rem <;> simp only [h, decide_true, decide_false, if_true, if_false, Bool.false_eq_true]

theorem take_succ_set (l : List Nat) (k c : Nat) (h : k < l.length) :
    (l.set k c).take (k + 1) = l.take k ++ [c] := by
  rw [List.take_add_one, List.take_set_of_le (Nat.le_refl _), List.getElem?_set_self h]
  rfl

theorem gt_append_cons (pre : List Nat) (x : Nat) (xs : List Nat) :
    Tbx.gt (pre ++ x :: xs).toArray pre.length = x := by
  simp only [Tbx.gt, Array.getD_eq_getD_getElem?, List.getElem?_toArray,
    List.getElem?_append_right (Nat.le_refl _), Nat.sub_self, List.getElem?_cons_zero, Option.getD_some]

/-- loop invariant: having processed the prefix `pre`, folding the generated body over the remaining indices
    gives the model loop's final bin and writes the model loop's assignments behind the first `pre.length` cells -/
theorem genNf_fold (cap : Nat) (xs pre : List Nat) (cur rem : Nat) (arr : Array Nat)
    (hsz : arr.size = pre.length + xs.length) :
    ((List.range' pre.length xs.length).foldl (genNfStep (pre ++ xs).toArray cap) (cur, rem, arr)).1 =
        (NextFit.loop cap xs cur rem).1 ∧
    ((List.range' pre.length xs.length).foldl (genNfStep (pre ++ xs).toArray cap) (cur, rem, arr)).2.2.toList =
        arr.toList.take pre.length ++ (NextFit.loop cap xs cur rem).2 := by
  induction xs generalizing pre cur rem arr with
  | nil =>
    simp only [List.length_nil, List.range'_zero, List.foldl_nil, NextFit.loop, List.append_nil, true_and]
    rw [List.take_of_length_le]
    simp [hsz]
  | cons x xs ih =>
    have hk : pre.length < arr.toList.length := by simp [hsz]
    have happ : pre ++ x :: xs = (pre ++ [x]) ++ xs := by simp
    have hlen : (pre ++ [x]).length = pre.length + 1 := by simp
    simp only [List.length_cons, List.range'_succ, List.foldl_cons, genNfStep_eq, gt_append_cons]
    -- whichever bin `c` the item goes to, with `r` left in it
    have key : ∀ c r,
        ((List.range' (pre.length + 1) xs.length).foldl (genNfStep (pre ++ x :: xs).toArray cap)
          (c, r, Tbx.st arr pre.length c)).1 = (NextFit.loop cap xs c r).1 ∧
        ((List.range' (pre.length + 1) xs.length).foldl (genNfStep (pre ++ x :: xs).toArray cap)
          (c, r, Tbx.st arr pre.length c)).2.2.toList =
            arr.toList.take pre.length ++ c :: (NextFit.loop cap xs c r).2 := by
      intro c r
      have := ih (pre ++ [x]) c r (Tbx.st arr pre.length c) (by simp [hsz]; omega)
      rw [hlen, ← happ] at this
      refine ⟨this.1, ?_⟩
      rw [this.2]
      simp only [Tbx.st, Array.toList_setIfInBounds, take_succ_set _ _ _ hk, List.append_assoc, List.cons_append,
        List.nil_append]
    by_cases hgt : x > rem <;> simp only [hgt, if_true, if_false, NextFit.loop] <;> exact key _ _

theorem nextFit_unfold (items : Array Nat) (capacity : Nat) :
    Tbx.Gen.Loops.nextFit items capacity =
      if capacity = 0 then none
      else if items.size = 0 then some (0, #[])
      else if items.any (fun x => decide (x > capacity)) = true then none
      else
        some (((List.range items.size).foldl (genNfStep items capacity)
                (0, capacity, Array.replicate items.size 0)).1 + 1,
              ((List.range items.size).foldl (genNfStep items capacity)
                (0, capacity, Array.replicate items.size 0)).2.2) := by
  unfold Tbx.Gen.Loops.nextFit
  by_cases h0 : capacity = 0
  · simp [h0]
  · by_cases h1 : items.size = 0
    · simp [h0, h1]
    · by_cases h2 : items.any (fun x => decide (x > capacity)) = true
      · simp only [h0, h1, h2, beq_iff_eq, if_true, if_false]
      · simp only [h0, h1, h2, beq_iff_eq, if_false, Bool.false_eq_true]
        rfl

/-- the regenerated `bin_pack_next_fit` (arrays, index loop) and the hand model (lists,
    structural recursion) are the same function, `Err` cases included -/
theorem gen_next_fit_eq_model (items : List Nat) (cap : Nat) :
    (Tbx.Gen.Loops.nextFit items.toArray cap).map (fun p => (p.1, p.2.toList)) = Tbx.NextFit.nextFit items cap := by
  rw [nextFit_unfold]
  have hany : items.toArray.any (fun x => decide (x > cap)) = items.any (fun x => decide (x > cap)) := by simp
  rw [hany]
  simp only [NextFit.nextFit, List.size_toArray, List.isEmpty_iff, ← List.length_eq_zero_iff]
  by_cases h0 : cap = 0
  · simp [h0]
  · by_cases h1 : items.length = 0
    · simp [h0, h1]
    · by_cases h2 : items.any (fun x => decide (x > cap)) = true
      · simp [h0, h1, h2]
      · have hf := genNf_fold cap items [] 0 cap (Array.replicate items.length 0) (by simp)
        simp only [List.length_nil, List.nil_append, List.take_zero, ← List.range_eq_range'] at hf
        simp only [h0, h1, h2, if_false, Option.map_some, hf.1, hf.2, Bool.false_eq_true]

/-- non-vacuity: a run that opens three bins, and the two `Err` branches -/
example : (Tbx.Gen.Loops.nextFit [4, 8, 1, 4, 2, 1].toArray 10).map (fun p => (p.1, p.2.toList)) =
      some (3, [0, 1, 1, 2, 2, 2]) ∧
    (Tbx.Gen.Loops.nextFit [4, 11].toArray 10).map (fun p => (p.1, p.2.toList)) = none ∧
    (Tbx.Gen.Loops.nextFit [4].toArray 0).map (fun p => (p.1, p.2.toList)) = none := by
  simp only [gen_next_fit_eq_model]; decide

end Tbx.Props.GenLoopsMisc
