import Tbx.Model.LruL0
/-
What "least recently used" means, stated over the HISTORY of operations and independent of how
the cache keeps its order.

* An operation *uses* key `k` iff it is `push k _` or `get k` (`contains`, `front`, `len`, `clear`
  and a mutation through `get_front_mut` are not uses).
* `lastUse ops k` is the position (0-based, chronological) of the last operation in `ops` that
  uses `k`; `lastUse_eq_some_iff` characterises it without reference to the recursive definition.
* `writes op k` / `Undisturbed` say which operations may change the value stored for `k`
  (used to state "get returns the value of the latest push").
-/
namespace Tbx.LruSpec
open Tbx.LruL0

variable {K V : Type} [DecidableEq K]

def isUse (op : Op K V) (k : K) : Bool :=
  match op with
  | .push k' _ => k' == k
  | .get k' => k' == k
  | _ => false

/-- on the history newest first; positions are still counted from the oldest operation -/
def lastUseR : List (Op K V) → K → Option Nat
  | [], _ => none
  | op :: older, k => if isUse op k then some older.length else lastUseR older k

def lastUse (ops : List (Op K V)) (k : K) : Option Nat := lastUseR ops.reverse k

theorem lastUse_nil (k : K) : lastUse ([] : List (Op K V)) k = none := rfl

theorem lastUse_snoc (ops : List (Op K V)) (op : Op K V) (k : K) :
    lastUse (ops ++ [op]) k = if isUse op k then some ops.length else lastUse ops k := by
  simp [lastUse, lastUseR]

theorem snoc_induction {α : Type} {motive : List α → Prop} (l : List α) (nil : motive [])
    (snoc : ∀ l a, motive l → motive (l ++ [a])) : motive l := by
  have h : ∀ r : List α, motive r.reverse := by
    intro r
    induction r with
    | nil => exact nil
    | cons a r ih => rw [List.reverse_cons]; exact snoc _ _ ih
  have := h l.reverse
  rwa [List.reverse_reverse] at this

theorem lastUse_eq_some_iff (ops : List (Op K V)) (k : K) (t : Nat) :
    lastUse ops k = some t ↔
      ∃ h : t < ops.length, isUse ops[t] k = true ∧
        ∀ j (hj : j < ops.length), t < j → isUse ops[j] k = false := by
  induction ops using snoc_induction generalizing t with
  | nil => simp [lastUse_nil]
  | snoc ops op ih =>
    rw [lastUse_snoc]
    by_cases hu : isUse op k = true
    · simp only [hu, if_true, Option.some.injEq]
      constructor
      · intro h; subst h
        refine ⟨by simp, by simp [hu], ?_⟩
        intro j hj hlt; simp at hj; omega
      · rintro ⟨h, _, h3⟩
        simp at h
        by_cases ht : t = ops.length
        · exact ht.symm
        · have := h3 ops.length (by simp) (by omega)
          simp [hu] at this
    · have hu' : isUse op k = false := by simpa using hu
      simp only [hu', Bool.false_eq_true, if_false]
      rw [ih]
      constructor
      · rintro ⟨h, h2, h3⟩
        refine ⟨by simp; omega, by rw [List.getElem_append_left h]; exact h2, ?_⟩
        intro j hj hlt
        simp at hj
        by_cases hje : j = ops.length
        · subst hje; simp [hu']
        · rw [List.getElem_append_left (by omega)]; exact h3 j (by omega) hlt
      · rintro ⟨h, h2, h3⟩
        simp at h
        have htl : t < ops.length := by
          by_cases ht : t = ops.length
          · subst ht; simp [hu'] at h2
          · omega
        refine ⟨htl, by rw [List.getElem_append_left htl] at h2; exact h2, ?_⟩
        intro j hj hlt
        have := h3 j (by simp; omega) hlt
        rw [List.getElem_append_left hj] at this; exact this

theorem lastUse_lt (ops : List (Op K V)) (k : K) (t : Nat) (h : lastUse ops k = some t) : t < ops.length :=
  let ⟨ht, _⟩ := (lastUse_eq_some_iff ops k t).1 h
  ht

def UsedBefore (ops : List (Op K V)) (a b : K) : Prop :=
  ∃ ta tb, lastUse ops a = some ta ∧ lastUse ops b = some tb ∧ ta < tb

def writes (s : Cache K V) (op : Op K V) (k : K) : Bool :=
  match op with
  | .push k' _ => k' == k
  | .clear => true
  | .setFront _ => (s.items.head?.map (·.1)) == some k
  | _ => false

def Undisturbed (s : Cache K V) (ops : List (Op K V)) (k : K) : Prop :=
  match ops with
  | [] => True
  | op :: rest => writes s op k = false ∧ Undisturbed (step s op).1 rest k

/-- the values an operation hands over to the cache (`get_front_mut` of an empty cache is `None`: nothing stored) -/
def newValues (s : Cache K V) : Op K V → List V
  | .push _ v => [v]
  | .setFront v => if s.items.isEmpty then [] else [v]
  | _ => []

def introduced (s : Cache K V) : List (Op K V) → List V
  | [] => []
  | op :: ops => newValues s op ++ introduced (step s op).1 ops

instance decUndisturbed (s : Cache K V) (ops : List (Op K V)) (k : K) : Decidable (Undisturbed s ops k) :=
  match ops with
  | [] => isTrue trivial
  | op :: rest =>
    match decUndisturbed (step s op).1 rest k with
    | isTrue h => if hw : writes s op k = false then isTrue ⟨hw, h⟩ else isFalse (fun hh => hw hh.1)
    | isFalse h => isFalse (fun hh => h hh.2)

end Tbx.LruSpec
