/-
Spec for the partition-id tree of C20: ids are the positive naturals, the root is 1, the children
of `x` are `2x` and `2x+1`.  `Anc c x`: `c` is an ancestor of `x` (reflexive).  Independent of the
shift arithmetic in /repo.
-/
namespace Tbx.Spec.IdTree

def Anc (c x : Nat) : Prop := 1 ≤ c ∧ ∃ k, x / 2 ^ k = c

def IsLCA (a x y : Nat) : Prop := Anc a x ∧ Anc a y ∧ ∀ c, Anc c x → Anc c y → Anc c a

/-- checker for ids below 2^64 -/
def ancB (c x : Nat) : Bool := decide (1 ≤ c) && (List.range 64).any fun k => x / 2 ^ k == c

def isLCAB (a x y : Nat) : Bool :=
  ancB a x && ancB a y &&
  (List.range 64).all fun k => !(ancB (x / 2 ^ k) y) || ancB (x / 2 ^ k) a

/-- depth of an id: number of binary digits minus one -/
def depth : Nat → Nat → Nat
  | 0, _ => 0
  | fuel + 1, x => if x ≥ 2 then depth fuel (x / 2) + 1 else 0

def leftK : Nat → Nat → Nat
  | 0, x => x
  | k + 1, x => leftK k (2 * x)
def rightK : Nat → Nat → Nat
  | 0, x => x
  | k + 1, x => rightK k (2 * x + 1)

theorem ancB_sound (c x : Nat) (h : ancB c x = true) : Anc c x := by
  simp only [ancB, Bool.and_eq_true, decide_eq_true_eq, List.any_eq_true, beq_iff_eq] at h
  obtain ⟨h1, k, _, hk⟩ := h
  exact ⟨h1, k, hk⟩

theorem ancB_complete (c x : Nat) (hx : x < 2 ^ 64) (h : Anc c x) : ancB c x = true := by
  obtain ⟨h1, k, hk⟩ := h
  simp only [ancB, Bool.and_eq_true, decide_eq_true_eq, List.any_eq_true, beq_iff_eq]
  refine ⟨h1, k, ?_, hk⟩
  rw [List.mem_range]
  apply Decidable.byContradiction
  intro hge
  have hle : (2:Nat) ^ 64 ≤ 2 ^ k := Nat.pow_le_pow_right (by decide) (by omega)
  have : x / 2 ^ k = 0 := Nat.div_eq_of_lt (by omega)
  omega

/-- soundness of the LCA checker (what the judge relies on) -/
theorem isLCAB_sound (a x y : Nat) (hx : x < 2 ^ 64) (hy : y < 2 ^ 64)
    (h : isLCAB a x y = true) : IsLCA a x y := by
  simp only [isLCAB, Bool.and_eq_true, List.all_eq_true, Bool.or_eq_true, Bool.not_eq_eq_eq_not,
    Bool.not_true] at h
  obtain ⟨⟨hax, hay⟩, hall⟩ := h
  refine ⟨ancB_sound _ _ hax, ancB_sound _ _ hay, ?_⟩
  intro c hcx hcy
  have hcxb := ancB_complete c x hx hcx
  simp only [ancB, Bool.and_eq_true, decide_eq_true_eq, List.any_eq_true, beq_iff_eq] at hcxb
  obtain ⟨_, k, hk, hkc⟩ := hcxb
  have := hall k hk
  rw [hkc] at this
  rcases this with h | h
  · rw [ancB_complete c y hy hcy] at h; cases h
  · exact ancB_sound _ _ h

end Tbx.Spec.IdTree
