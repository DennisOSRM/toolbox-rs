/-
Spec for C16: what "strongly connected", "has a directed cycle", "spanning forest of minimal
weight" and "joined by unions" MEAN, independent of any algorithm, plus executable checkers.  Proved exact here:
the closure `reachSet` (`reachSet_spec`), `hasCycleB`, `acyclicB`, `sameSccB`; the forest checkers `spansB`, `forestB`,
`minForestCost`, `countClasses`, which the judge also runs, have no theorem.  The judge of the C16 driver uses only
the checkers.

A digraph is its list of edges `(u, v)`; an undirected multigraph is a list of pairs read in
both directions; weighted edges are triples `(u, v, w)`.
-/
namespace Tbx.Comp

abbrev Edges := List (Nat × Nat)

inductive Reach (es : Edges) : Nat → Nat → Prop where
  | refl (u : Nat) : Reach es u u
  | tail {u v w : Nat} : Reach es u v → (v, w) ∈ es → Reach es u w

theorem Reach.trans {es : Edges} {u v w : Nat} (h1 : Reach es u v) (h2 : Reach es v w) : Reach es u w := by
  induction h2 with
  | refl => exact h1
  | tail _ he ih => exact .tail ih he

theorem Reach.single {es : Edges} {u v : Nat} (h : (u, v) ∈ es) : Reach es u v := .tail (.refl u) h

theorem Reach.head {es : Edges} {u v w : Nat} (h : (u, v) ∈ es) (h2 : Reach es v w) : Reach es u w :=
  (Reach.single h).trans h2

theorem Reach.mono {es es' : Edges} (hs : ∀ p, p ∈ es → p ∈ es') {u v : Nat} (h : Reach es u v) :
    Reach es' u v := by
  induction h with
  | refl => exact .refl _
  | tail _ he ih => exact .tail ih (hs _ he)

theorem Reach.cases_head {es : Edges} {u w : Nat} (h : Reach es u w) :
    u = w ∨ ∃ v, (u, v) ∈ es ∧ Reach es v w := by
  induction h with
  | refl => exact Or.inl rfl
  | tail _ he ih =>
    rcases ih with rfl | ⟨x, hx, hr⟩
    · exact Or.inr ⟨_, he, .refl _⟩
    · exact Or.inr ⟨x, hx, .tail hr he⟩

theorem Reach.closed {es : Edges} {A : Nat → Prop} (hA : ∀ v x, A v → (v, x) ∈ es → A x) {v x : Nat}
    (hv : A v) (hr : Reach es v x) : A x := by
  induction hr with
  | refl => exact hv
  | tail _ he ih => exact hA _ _ ih he

def SameSCC (es : Edges) (u v : Nat) : Prop := Reach es u v ∧ Reach es v u

/-- the digraph has a directed cycle (self-loops count) -/
def HasCycle (es : Edges) : Prop := ∃ u v, (u, v) ∈ es ∧ Reach es v u

def expand (es : Edges) (S : List Nat) : List Nat :=
  es.foldl (fun S p => if S.contains p.1 && !S.contains p.2 then p.2 :: S else S) S

def closed (es : Edges) (S : List Nat) : Bool := es.all fun p => !S.contains p.1 || S.contains p.2

/-- expand until closed; `none` if the fuel runs out first (the result is never guessed) -/
def closure (es : Edges) : Nat → List Nat → Option (List Nat)
  | 0, S => if closed es S then some S else none
  | f + 1, S => if closed es S then some S else closure es f (expand es S)

def reachSet (es : Edges) (u : Nat) : Option (List Nat) := closure es es.length [u]

def reachB (es : Edges) (u v : Nat) : Option Bool := (reachSet es u).map (·.contains v)

theorem expand_sound (es0 es : Edges) (hsub : ∀ p, p ∈ es → p ∈ es0) (u : Nat) (S : List Nat)
    (h : ∀ x, x ∈ S → Reach es0 u x) : ∀ x, x ∈ expand es S → Reach es0 u x := by
  induction es generalizing S with
  | nil => simpa [expand] using h
  | cons p ps ih =>
    intro x hx
    simp only [expand, List.foldl_cons] at hx
    refine ih (fun q hq => hsub q (List.mem_cons_of_mem _ hq)) _ ?_ x hx
    intro y hy
    split at hy
    · rename_i hc
      simp only [Bool.and_eq_true, List.contains_iff_mem, Bool.not_eq_true'] at hc
      rcases List.mem_cons.mp hy with rfl | hy
      · exact .tail (h _ hc.1) (hsub _ List.mem_cons_self)
      · exact h _ hy
    · exact h _ hy

theorem expand_mono (es : Edges) (S : List Nat) : ∀ x, x ∈ S → x ∈ expand es S := by
  induction es generalizing S with
  | nil => simp [expand]
  | cons p ps ih =>
    intro x hx
    simp only [expand, List.foldl_cons]
    apply ih
    split
    · exact List.mem_cons_of_mem _ hx
    · exact hx

theorem closed_complete (es : Edges) (S : List Nat) (hc : closed es S = true) (u : Nat) (hu : u ∈ S)
    (x : Nat) (hr : Reach es u x) : x ∈ S := by
  simp only [closed, List.all_eq_true, Bool.or_eq_true, Bool.not_eq_true', List.contains_iff_mem] at hc
  refine Reach.closed (A := (· ∈ S)) (fun v x hv he => (hc _ he).resolve_left fun h => ?_) hu hr
  exact absurd hv (by simpa using h)

theorem closure_spec (es : Edges) (u : Nat) (f : Nat) (S R : List Nat) (hu : u ∈ S)
    (hs : ∀ x, x ∈ S → Reach es u x) (h : closure es f S = some R) : ∀ x, x ∈ R ↔ Reach es u x := by
  induction f generalizing S with
  | zero =>
    simp only [closure] at h
    split at h
    · exact Option.some.inj h ▸ fun x => ⟨hs x, closed_complete es S ‹_› u hu x⟩
    · cases h
  | succ f ih =>
    simp only [closure] at h
    split at h
    · exact Option.some.inj h ▸ fun x => ⟨hs x, closed_complete es S ‹_› u hu x⟩
    · exact ih (expand es S) (expand_mono es S u hu) (expand_sound es es (fun _ h => h) u S hs) h

theorem reachSet_spec (es : Edges) (u : Nat) (R : List Nat) (h : reachSet es u = some R) (x : Nat) :
    x ∈ R ↔ Reach es u x :=
  closure_spec es u es.length [u] R (by simp) (by intro x hx; simp at hx; subst hx; exact .refl _) h x

theorem reachB_spec (es : Edges) (u v : Nat) (b : Bool) (h : reachB es u v = some b) :
    b = true ↔ Reach es u v := by
  simp only [reachB, Option.map_eq_some_iff] at h
  obtain ⟨R, hR, hb⟩ := h
  subst hb
  rw [List.contains_iff_mem]
  exact reachSet_spec es u R hR v

def sameSccB (es : Edges) (u v : Nat) : Option Bool :=
  match reachB es u v, reachB es v u with
  | some a, some b => some (a && b)
  | _, _ => none

theorem sameSccB_spec (es : Edges) (u v : Nat) (b : Bool) (h : sameSccB es u v = some b) :
    b = true ↔ SameSCC es u v := by
  unfold sameSccB at h
  split at h
  · rename_i a c ha hc
    cases h
    have h1 := reachB_spec es u v a ha
    have h2 := reachB_spec es v u c hc
    simp only [Bool.and_eq_true, SameSCC, h1, h2]
  · cases h

def anyBack (es : Edges) : Edges → Option Bool
  | [] => some false
  | p :: ps =>
    match reachB es p.2 p.1 with
    | none => none
    | some true => some true
    | some false => anyBack es ps

def hasCycleB (es : Edges) : Option Bool := anyBack es es

theorem anyBack_spec (es ps : Edges) (b : Bool) (h : anyBack es ps = some b) :
    b = true ↔ ∃ u v, (u, v) ∈ ps ∧ Reach es v u := by
  induction ps with
  | nil => simp only [anyBack] at h; cases h; simp
  | cons p ps ih =>
    simp only [anyBack] at h
    split at h
    · cases h
    · rename_i hr
      cases h
      have := (reachB_spec es p.2 p.1 true hr).mp rfl
      simp only [true_iff]
      exact ⟨p.1, p.2, List.mem_cons_self, this⟩
    · rename_i hr
      have hn : ¬ Reach es p.2 p.1 := fun hh => by
        have := (reachB_spec es p.2 p.1 false hr).mpr hh
        cases this
      rw [ih h]
      constructor
      · rintro ⟨u, v, hm, hr'⟩
        exact ⟨u, v, List.mem_cons_of_mem _ hm, hr'⟩
      · rintro ⟨u, v, hm, hr'⟩
        rcases List.mem_cons.mp hm with rfl | hm
        · exact absurd hr' hn
        · exact ⟨u, v, hm, hr'⟩

theorem hasCycleB_spec (es : Edges) (b : Bool) (h : hasCycleB es = some b) : b = true ↔ HasCycle es :=
  anyBack_spec es es b h

def sym (ps : Edges) : Edges := ps ++ ps.map fun p => (p.2, p.1)

def Conn (ps : Edges) (a b : Nat) : Prop := Reach (sym ps) a b

def connB (ps : Edges) (a b : Nat) : Option Bool := reachB (sym ps) a b

theorem connB_spec (ps : Edges) (a b : Nat) (r : Bool) (h : connB ps a b = some r) :
    r = true ↔ Conn ps a b := reachB_spec _ _ _ _ h

theorem mem_sym {ps : Edges} {a b : Nat} : (a, b) ∈ sym ps ↔ (a, b) ∈ ps ∨ (b, a) ∈ ps := by
  simp only [sym, List.mem_append, List.mem_map, Prod.mk.injEq, Prod.exists]
  constructor
  · rintro (h | ⟨x, y, h, rfl, rfl⟩)
    · exact Or.inl h
    · exact Or.inr h
  · rintro (h | h)
    · exact Or.inl h
    · exact Or.inr ⟨b, a, h, rfl, rfl⟩

theorem Conn.refl (ps : Edges) (a : Nat) : Conn ps a a := Reach.refl a

theorem Conn.trans {ps : Edges} {a b c : Nat} (h1 : Conn ps a b) (h2 : Conn ps b c) : Conn ps a c :=
  Reach.trans h1 h2

theorem Conn.symm {ps : Edges} {a b : Nat} (h : Conn ps a b) : Conn ps b a := by
  unfold Conn at *
  induction h with
  | refl => exact .refl _
  | @tail v w _ he ih =>
    have : (w, v) ∈ sym ps := by
      rw [mem_sym] at he ⊢
      exact he.symm
    exact Reach.head this ih

theorem Conn.of_mem {ps : Edges} {a b : Nat} (h : (a, b) ∈ ps) : Conn ps a b :=
  Reach.single (mem_sym.mpr (Or.inl h))

/-- `Conn ps` lies in every equivalence that relates the two ends of each pair -/
theorem Conn.least {ps : Edges} {R : Nat → Nat → Prop} (refl : ∀ a, R a a) (symm : ∀ {a b}, R a b → R b a)
    (trans : ∀ {a b c}, R a b → R b c → R a c) (h : ∀ p, p ∈ ps → R p.1 p.2) {a b : Nat} (hab : Conn ps a b) :
    R a b := by
  unfold Conn at hab
  induction hab with
  | refl => exact refl _
  | tail _ he ih =>
    rcases mem_sym.mp he with h1 | h1
    · exact trans ih (h _ h1)
    · exact trans ih (symm (h _ h1))

theorem Conn.mono {ps qs : Edges} (hs : ∀ p, p ∈ ps → p ∈ qs) {a b : Nat} (h : Conn ps a b) : Conn qs a b :=
  h.least (Conn.refl qs) Conn.symm Conn.trans fun p hp => Conn.of_mem (hs p hp)

/-- the textbook definition: smallest equivalence relation containing the pairs -/
inductive EqvClosure (ps : Edges) : Nat → Nat → Prop where
  | rel {a b : Nat} : (a, b) ∈ ps → EqvClosure ps a b
  | refl (a : Nat) : EqvClosure ps a a
  | symm {a b : Nat} : EqvClosure ps a b → EqvClosure ps b a
  | trans {a b c : Nat} : EqvClosure ps a b → EqvClosure ps b c → EqvClosure ps a c

theorem conn_iff_eqvClosure (ps : Edges) (a b : Nat) : Conn ps a b ↔ EqvClosure ps a b := by
  constructor
  · exact Conn.least .refl .symm .trans fun _ => .rel
  · intro h
    induction h with
    | rel h => exact Conn.of_mem h
    | refl => exact Conn.refl _ _
    | symm _ ih => exact ih.symm
    | trans _ _ ih1 ih2 => exact ih1.trans ih2

/-- cycle-free: no edge joins two nodes that the remaining edges already connect
    (so self-loops and doubled edges are excluded too) -/
def Acyclic (F : Edges) : Prop := ∀ e, e ∈ F → ¬ Conn (F.erase e) e.1 e.2

def acyclicAux (F : Edges) : Edges → Option Bool
  | [] => some true
  | e :: ps =>
    match connB (F.erase e) e.1 e.2 with
    | none => none
    | some true => some false
    | some false => acyclicAux F ps

def acyclicB (F : Edges) : Option Bool := acyclicAux F F

theorem acyclicAux_spec (F ps : Edges) (b : Bool) (h : acyclicAux F ps = some b) :
    b = true ↔ ∀ e, e ∈ ps → ¬ Conn (F.erase e) e.1 e.2 := by
  induction ps with
  | nil => simp only [acyclicAux] at h; cases h; simp
  | cons p ps ih =>
    simp only [acyclicAux] at h
    split at h
    · cases h
    · rename_i hr
      cases h
      have := (connB_spec _ _ _ true hr).mp rfl
      constructor
      · intro hh; cases hh
      · intro hh; exact absurd this (hh p List.mem_cons_self)
    · rename_i hr
      have hn : ¬ Conn (F.erase p) p.1 p.2 := fun hh => by
        have := (connB_spec _ _ _ false hr).mpr hh
        cases this
      rw [ih h]
      constructor
      · intro hh e he
        rcases List.mem_cons.mp he with rfl | he
        · exact hn
        · exact hh e he
      · intro hh e he
        exact hh e (List.mem_cons_of_mem _ he)

theorem acyclicB_spec (F : Edges) (b : Bool) (h : acyclicB F = some b) : b = true ↔ Acyclic F :=
  acyclicAux_spec F F b h

abbrev WEdge := Nat × Nat × Nat

def ends (E : List WEdge) : Edges := E.map fun e => (e.1, e.2.1)
def cost (E : List WEdge) : Nat := (E.map fun e => e.2.2).sum

def SubMulti (F inp : List WEdge) : Prop := ∀ e, F.count e ≤ inp.count e

structure SpanningForest (inp F : List WEdge) : Prop where
  sub : SubMulti F inp
  acyclic : Acyclic (ends F)
  spans : ∀ a b, Conn (ends F) a b ↔ Conn (ends inp) a b

def MinSpanningForest (inp F : List WEdge) : Prop :=
  SpanningForest inp F ∧ ∀ F', SpanningForest inp F' → cost F ≤ cost F'

/-- all sub-multisets, as sublists in input order -/
def sublists : List WEdge → List (List WEdge)
  | [] => [[]]
  | e :: es => let r := sublists es; r ++ r.map (e :: ·)

/-- does `F` connect the two ends of every edge of `inp` (⇔ everything `inp` connects) -/
def spansAux (F : Edges) : Edges → Option Bool
  | [] => some true
  | e :: ps =>
    match connB F e.1 e.2 with
    | none => none
    | some false => some false
    | some true => spansAux F ps

def spansB (inp F : Edges) : Option Bool := spansAux F inp

/-- the Boolean counterpart of `SpanningForest` for a sublist of the input -/
def forestB (inp F : List WEdge) : Option Bool :=
  match acyclicB (ends F), spansB (ends inp) (ends F) with
  | some a, some b => some (a && b)
  | _, _ => none

/-- minimum cost over all spanning forests by enumeration (`none`: a closure ran out of fuel, or,
    impossible, no spanning forest exists) -/
def minForestCost (inp : List WEdge) : Option Nat :=
  (sublists inp).foldl (fun acc F =>
    match acc with
    | none => none
    | some best =>
      match forestB inp F with
      | none => none
      | some false => some best
      | some true => some (match best with | none => some (cost F) | some c => some (Nat.min c (cost F))))
    (some none) |>.bind id

/-- number of classes among `0..n-1`: nodes that are not connected to a smaller node -/
def countClasses (ps : Edges) (n : Nat) : Option Nat :=
  (List.range n).foldl (fun acc v =>
    match acc with
    | none => none
    | some k =>
      match (List.range v).foldl (fun a u => match a with
          | none => none
          | some found => match connB ps u v with | none => none | some c => some (found || c)) (some false) with
      | none => none
      | some true => some k
      | some false => some (k + 1)) (some 0)

end Tbx.Comp
