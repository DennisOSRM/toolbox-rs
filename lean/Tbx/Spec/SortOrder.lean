/-
Spec for C17: what "sorted" means for each element type supported by `rdx_sort`, independent of
any sorting algorithm.

Elements are exchanged and modelled as their bit patterns (`Nat < 256^w`, `w` = width in bytes).
The order of a type is defined on the *decoded* value:
  * unsigned / bool : the pattern itself (bool: false = 0 < true = 1),
  * signed          : the two's complement value `toInt`,
  * float           : IEEE-754 `totalOrder` read off the sign–magnitude form: every negative value is
                      before every non-negative one, non-negative values ascend with the magnitude
                      bits, negative values descend with them (so −0.0 < +0.0, −∞ first, +∞ last).
                      On non-NaN values this is `f32::total_cmp` / `f64::total_cmp`; it refines
                      `partial_cmp` (which only identifies −0.0 and +0.0).

`IsSortOf t inp out`  :=  `out` is a permutation of `inp` and pairwise ordered by `le t`.
`checkB` is the executable checker used by the judge; `checkB_iff` is its soundness/completeness.
-/
namespace Tbx.SortSpec

inductive Kind where
  | unsigned | signed | float | bool
deriving DecidableEq, Repr, Inhabited

/-- an element type: width in bytes and kind -/
structure Ty where
  w : Nat
  kind : Kind
deriving DecidableEq, Repr, Inhabited

/-- number of bit patterns, `2^(8w)` -/
def Ty.card (t : Ty) : Nat := 256 ^ t.w
/-- the sign bit, `2^(8w-1)` -/
def Ty.half (t : Ty) : Nat := 128 * 256 ^ (t.w - 1)

/-- two's complement value of a pattern -/
def toInt (t : Ty) (x : Nat) : Int := if x < t.half then (x : Int) else (x : Int) - (t.card : Int)

/-- sign bit set -/
def fneg (t : Ty) (x : Nat) : Prop := t.half ≤ x
/-- magnitude bits (exponent and mantissa) -/
def fmag (t : Ty) (x : Nat) : Nat := x % t.half

instance (t : Ty) (x : Nat) : Decidable (fneg t x) := by unfold fneg; infer_instance

/-- IEEE totalOrder on sign–magnitude patterns -/
def fle (t : Ty) (a b : Nat) : Prop :=
  if fneg t a then (if fneg t b then fmag t b ≤ fmag t a else True)
  else (if fneg t b then False else fmag t a ≤ fmag t b)

def le (t : Ty) (a b : Nat) : Prop :=
  match t.kind with
  | .unsigned => a ≤ b
  | .bool => a ≤ b
  | .signed => toInt t a ≤ toInt t b
  | .float => fle t a b

instance (t : Ty) (a b : Nat) : Decidable (fle t a b) := by unfold fle; infer_instance
instance (t : Ty) (a b : Nat) : Decidable (le t a b) := by unfold le; split <;> infer_instance

def leB (t : Ty) (a b : Nat) : Bool := decide (le t a b)

/-- patterns that are values of the type (`bool` only has 0 and 1) -/
def Valid (t : Ty) (x : Nat) : Prop := x < t.card ∧ (t.kind = .bool → x < 2)
instance (t : Ty) (x : Nat) : Decidable (Valid t x) := by unfold Valid; infer_instance

/-- bit pattern of +∞ (exponent all ones, mantissa 0) for the two IEEE widths -/
def infBits (t : Ty) : Nat := if t.w = 4 then 0x7F800000 else 0x7FF0000000000000
/-- NaN patterns (outside the property's quantifier) -/
def isNaN (t : Ty) (x : Nat) : Bool := t.kind == .float && decide (infBits t < fmag t x)

/-! ### `partial_cmp` / `==` on non-NaN float patterns (the two zeros are equal) -/

/-- IEEE zero of either sign -/
def isZeroF (t : Ty) (x : Nat) : Bool := fmag t x == 0
/-- `partial_cmp(a,b) != Greater` on non-NaN patterns: totalOrder, except that −0.0 and +0.0 are equal -/
def pleB (t : Ty) (a b : Nat) : Bool := leB t a b || (isZeroF t a && isZeroF t b)
/-- float `==` on non-NaN patterns -/
def feqB (t : Ty) (a b : Nat) : Bool := a == b || (isZeroF t a && isZeroF t b)
/-- representative of the `==` class: −0.0 ↦ +0.0, everything else itself -/
def canon (t : Ty) (x : Nat) : Nat := if fmag t x = 0 then 0 else x

def IsSortOf (t : Ty) (inp out : List Nat) : Prop := out.Perm inp ∧ out.Pairwise (le t)

theorem fle_trans (t : Ty) {a b c : Nat} (h1 : fle t a b) (h2 : fle t b c) : fle t a c := by
  unfold fle at *
  by_cases ha : fneg t a <;> by_cases hb : fneg t b <;> by_cases hc : fneg t c <;>
    simp only [ha, hb, hc, if_true, if_false] at * <;> omega

theorem le_trans (t : Ty) {a b c : Nat} (h1 : le t a b) (h2 : le t b c) : le t a c := by
  unfold le at *
  cases hk : t.kind <;> simp only [hk] at h1 h2 ⊢
  · exact Nat.le_trans h1 h2
  · exact Int.le_trans h1 h2
  · exact fle_trans t h1 h2
  · exact Nat.le_trans h1 h2

theorem fle_total (t : Ty) (a b : Nat) : fle t a b ∨ fle t b a := by
  unfold fle
  by_cases ha : fneg t a <;> by_cases hb : fneg t b <;> simp only [ha, hb, if_true, if_false] <;>
    first | omega | simp

theorem le_total (t : Ty) (a b : Nat) : le t a b ∨ le t b a := by
  unfold le
  cases hk : t.kind <;> simp only
  · exact Nat.le_total a b
  · exact Int.le_total _ _
  · exact fle_total t a b
  · exact Nat.le_total a b

/-- adjacent pairs are ordered (equivalent to `Pairwise` for a transitive relation) -/
def sortedAdjB (r : Nat → Nat → Bool) : List Nat → Bool
  | [] => true
  | [_] => true
  | a :: b :: l => r a b && sortedAdjB r (b :: l)

theorem sortedAdjB_iff (r : Nat → Nat → Bool) (trans : ∀ a b c, r a b = true → r b c = true → r a c = true)
    (l : List Nat) : sortedAdjB r l = true ↔ l.Pairwise (fun a b => r a b = true) := by
  induction l with
  | nil => simp [sortedAdjB]
  | cons a l ih =>
    cases l with
    | nil => simp [sortedAdjB]
    | cons b l =>
      simp only [sortedAdjB, Bool.and_eq_true, ih, List.pairwise_cons]
      constructor
      · rintro ⟨hab, hb, hl⟩
        refine ⟨?_, hb, hl⟩
        intro c hc
        rcases List.mem_cons.mp hc with rfl | hc
        · exact hab
        · exact trans a b c hab (hb c hc)
      · rintro ⟨ha, hb, hl⟩
        exact ⟨ha b (List.mem_cons_self), hb, hl⟩

def natLeB (a b : Nat) : Bool := decide (a ≤ b)

/-- multiset equality of two lists of patterns: both have the same sorted arrangement as numbers -/
def permB (l₁ l₂ : List Nat) : Bool := l₁.mergeSort natLeB == l₂.mergeSort natLeB

theorem permB_iff (l₁ l₂ : List Nat) : permB l₁ l₂ = true ↔ l₁.Perm l₂ := by
  unfold permB
  have tr : ∀ a b c : Nat, natLeB a b = true → natLeB b c = true → natLeB a c = true := by
    intro a b c; simp only [natLeB, decide_eq_true_eq]; omega
  have tot : ∀ a b : Nat, (natLeB a b || natLeB b a) = true := by
    intro a b; simp only [natLeB, Bool.or_eq_true, decide_eq_true_eq]; omega
  constructor
  · intro h
    have h' : l₁.mergeSort natLeB = l₂.mergeSort natLeB := by simpa using h
    exact ((List.mergeSort_perm l₁ natLeB).symm.trans (h' ▸ List.Perm.refl _)).trans
      (List.mergeSort_perm l₂ natLeB)
  · intro h
    have p : (l₁.mergeSort natLeB).Perm (l₂.mergeSort natLeB) :=
      ((List.mergeSort_perm l₁ natLeB).trans h).trans (List.mergeSort_perm l₂ natLeB).symm
    have e := List.Perm.eq_of_pairwise (le := fun a b => natLeB a b = true)
      (by intro a b _ _; simp only [natLeB, decide_eq_true_eq]; omega)
      (List.pairwise_mergeSort tr tot l₁) (List.pairwise_mergeSort tr tot l₂) p
    simp [e]

def checkB (t : Ty) (inp out : List Nat) : Bool := permB out inp && sortedAdjB (leB t) out

theorem checkB_iff (t : Ty) (inp out : List Nat) : checkB t inp out = true ↔ IsSortOf t inp out := by
  unfold checkB IsSortOf
  rw [Bool.and_eq_true, permB_iff, sortedAdjB_iff]
  · simp only [leB, decide_eq_true_eq]
  · intro a b c; simp only [leB, decide_eq_true_eq]; exact le_trans t

end Tbx.SortSpec
