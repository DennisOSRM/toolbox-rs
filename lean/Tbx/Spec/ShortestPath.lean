import Tbx.Model.Arr
/-
Specification of C08 / C09: what a shortest-path distance and a shortest path ARE, independent of
Dijkstra, heaps or graph representations.  Core Lean only (the drivers link this file).

A graph is an adjacency function `g u = [(target, weight), …]` (parallel edges, self-loops and zero
weights allowed; weights are natural numbers, so non-negative by construction).

  Walk g s t d      there is a walk s ⇝ t whose edge weights add up to d
  IsDist g s t d    d is the weight of a walk s ⇝ t and no walk s ⇝ t is lighter
  ValidPath g s v p d   p is a node-simple path s … v, consecutive nodes joined by an edge, and d is
                    the sum of the cheapest parallel-edge weights along it

Executable checkers used by the judges (with soundness theorems below):

  distB g n s       Bellman-Ford label array; `certB` re-checks that the array is a fixpoint
                    (certificate check), and `distB_spec` shows: certificate ok ⇒ every entry is
                    `IsDist` / unreachable.  Convergence within n rounds is NOT assumed by the
                    theorem: a non-converged array fails `certB` and the judge reports that.
  validPathB        decides `ValidPath`.
-/
namespace Tbx.SP

abbrev Adj := Nat → List (Nat × Nat)

/-- walks from `s`, built edge by edge at the far end -/
inductive Walk (g : Adj) (s : Nat) : Nat → Nat → Prop
  | nil : Walk g s s 0
  | snoc {u v d w : Nat} : Walk g s u d → (v, w) ∈ g u → Walk g s v (d + w)

def Reachable (g : Adj) (s t : Nat) : Prop := ∃ d, Walk g s t d

def IsDist (g : Adj) (s t d : Nat) : Prop := Walk g s t d ∧ ∀ d', Walk g s t d' → d ≤ d'

theorem IsDist.unique {g : Adj} {s t d₁ d₂ : Nat} (h₁ : IsDist g s t d₁) (h₂ : IsDist g s t d₂) : d₁ = d₂ :=
  Nat.le_antisymm (h₁.2 _ h₂.1) (h₂.2 _ h₁.1)

theorem isDist_self (g : Adj) (s : Nat) : IsDist g s s 0 := ⟨.nil, fun _ _ => Nat.zero_le _⟩

theorem Walk.trans {g : Adj} {a b c d₁ d₂ : Nat} (h₁ : Walk g a b d₁) (h₂ : Walk g b c d₂) : Walk g a c (d₁ + d₂) := by
  induction h₂ with
  | nil => simpa using h₁
  | snoc _ he ih => rw [← Nat.add_assoc]; exact Walk.snoc ih he

theorem Walk.cons {g : Adj} {a b v w d : Nat} (he : (b, w) ∈ g a) (h : Walk g b v d) : Walk g a v (w + d) := by
  simpa using Walk.trans (Walk.snoc Walk.nil he) h

abbrev DistArr := Array (Option Nat)

def relaxB (D : DistArr) (u v w : Nat) : DistArr :=
  match gt D u with
  | none => D
  | some du =>
    match gt D v with
    | none => st D v (some (du + w))
    | some dv => if du + w < dv then st D v (some (du + w)) else D

def relaxNodeB (g : Adj) (D : DistArr) (u : Nat) : DistArr :=
  (g u).foldl (fun D e => relaxB D u e.1 e.2) D

/-- one round: all nodes in ascending, then in descending order (long chains in either id
direction converge in one round; soundness does not depend on the order) -/
def roundB (g : Adj) (n : Nat) (D : DistArr) : DistArr :=
  (List.range n ++ (List.range n).reverse).foldl (relaxNodeB g) D

def iterB (g : Adj) (n : Nat) : Nat → DistArr → DistArr
  | 0, D => D
  | k + 1, D =>
    let D' := roundB g n D
    if D' == D then D else iterB g n k D'

def initB (n s : Nat) : DistArr := st (Array.replicate n none) s (some 0)

def distB (g : Adj) (n s : Nat) : DistArr := iterB g n (n + 1) (initB n s)

/-- every edge out of a node `< n` stays below `n`, and no edge can lower a label any more -/
def closedB (g : Adj) (n : Nat) (D : DistArr) : Bool :=
  (List.range n).all fun u => (g u).all fun e =>
    decide (e.1 < n) &&
    match gt D u with
    | none => true
    | some du =>
      match gt D e.1 with
      | none => false
      | some dv => decide (dv ≤ du + e.2)

def certB (g : Adj) (n s : Nat) (D : DistArr) : Bool :=
  decide (s < n) && (gt D s == some 0) && closedB g n D

def SoundD (g : Adj) (s : Nat) (D : DistArr) : Prop := ∀ v d, gt D v = some d → Walk g s v d

theorem SoundD.st {g : Adj} {s v d : Nat} {D : DistArr} (h : SoundD g s D) (hw : Walk g s v d) :
    SoundD g s (st D v (some d)) := by
  intro x d' hx
  rw [gt_st] at hx
  split at hx
  · rename_i hc; cases hx; rw [← hc.1]; exact hw
  · exact h x d' hx

theorem relaxB_sound {g : Adj} {s : Nat} {D : DistArr} (u v w : Nat) (he : (v, w) ∈ g u) (h : SoundD g s D) :
    SoundD g s (relaxB D u v w) := by
  unfold relaxB
  split
  · exact h
  · rename_i du hu
    have key := h.st (Walk.snoc (h u du hu) he)
    split
    · exact key
    · split
      · exact key
      · exact h

theorem iterB_sound {g : Adj} {s : Nat} (n k : Nat) (D : DistArr) (h : SoundD g s D) : SoundD g s (iterB g n k D) := by
  induction k generalizing D with
  | zero => exact h
  | succ k ih =>
    simp only [iterB]
    split
    · exact h
    · exact ih _ (List.foldlRecOn (motive := SoundD g s) _ _ h fun _ h u _ =>
        List.foldlRecOn (motive := SoundD g s) (g u) _ h fun _ h e he => relaxB_sound u e.1 e.2 he h)

theorem initB_sound (g : Adj) (n s : Nat) : SoundD g s (initB n s) :=
  SoundD.st (fun v d hv => by have h := hv.symm.trans (gt_replicate_default n v); cases h) Walk.nil

theorem distB_sound (g : Adj) (n s : Nat) : SoundD g s (distB g n s) :=
  iterB_sound n (n + 1) _ (initB_sound g n s)

theorem closedB_edge {g : Adj} {n : Nat} {D : DistArr} (h : closedB g n D = true) {u v w : Nat} (hu : u < n)
    (he : (v, w) ∈ g u) :
    v < n ∧ ∀ du, gt D u = some du → ∃ dv, gt D v = some dv ∧ dv ≤ du + w := by
  unfold closedB at h
  rw [List.all_eq_true] at h
  have h1 := h u (List.mem_range.mpr hu)
  rw [List.all_eq_true] at h1
  have h2 := h1 (v, w) he
  simp only [Bool.and_eq_true, decide_eq_true_eq] at h2
  refine ⟨h2.1, ?_⟩
  intro du hdu
  have h3 := h2.2
  rw [hdu] at h3
  simp only at h3
  split at h3
  · cases h3
  · rename_i dv hdv
    exact ⟨dv, hdv, by simpa using h3⟩

theorem cert_lower {g : Adj} {n s : Nat} {D : DistArr} (h : certB g n s D = true) {v d' : Nat}
    (hw : Walk g s v d') : v < n ∧ ∃ d, gt D v = some d ∧ d ≤ d' := by
  unfold certB at h
  simp only [Bool.and_eq_true, decide_eq_true_eq, beq_iff_eq] at h
  obtain ⟨⟨hs, h0⟩, hc⟩ := h
  induction hw with
  | nil => exact ⟨hs, 0, h0, Nat.le_refl _⟩
  | snoc _ he ih =>
    obtain ⟨hu, du, hdu, hle⟩ := ih
    obtain ⟨hv, hrel⟩ := closedB_edge hc hu he
    obtain ⟨dv, hdv, hle2⟩ := hrel du hdu
    exact ⟨hv, dv, hdv, by omega⟩

theorem distB_spec {g : Adj} {n s : Nat} (h : certB g n s (distB g n s) = true) (t : Nat) :
    match gt (distB g n s) t with
    | some d => IsDist g s t d
    | none => ¬ Reachable g s t := by
  split
  · rename_i d hd
    refine ⟨distB_sound g n s t d hd, ?_⟩
    intro d' hw
    obtain ⟨_, d0, hd0, hle⟩ := cert_lower h hw
    rw [hd] at hd0; cases hd0; exact hle
  · rename_i hn
    rintro ⟨d', hw⟩
    obtain ⟨_, d0, hd0, _⟩ := cert_lower h hw
    rw [hn] at hd0; cases hd0

/-- `w` is the weight of a cheapest edge among the parallel edges `a → b` -/
def IsCheapest (g : Adj) (a b w : Nat) : Prop := (b, w) ∈ g a ∧ ∀ w', (b, w') ∈ g a → w ≤ w'

/-- node list with the sum of cheapest parallel-edge weights between consecutive nodes -/
inductive PathW (g : Adj) : List Nat → Nat → Prop
  | single (a : Nat) : PathW g [a] 0
  | cons {a b : Nat} {rest : List Nat} {d w : Nat} :
      IsCheapest g a b w → PathW g (b :: rest) d → PathW g (a :: b :: rest) (w + d)

def ValidPath (g : Adj) (s v : Nat) (p : List Nat) (d : Nat) : Prop :=
  p.head? = some s ∧ p.getLast? = some v ∧ p.Nodup ∧ PathW g p d

def cheapestIn (b : Nat) : List (Nat × Nat) → Option Nat
  | [] => none
  | e :: es =>
    if e.1 = b then
      match cheapestIn b es with
      | none => some e.2
      | some m => some (if e.2 ≤ m then e.2 else m)
    else cheapestIn b es

def cheapest (g : Adj) (a b : Nat) : Option Nat := cheapestIn b (g a)

def pathWeightB (g : Adj) : List Nat → Option Nat
  | [] => none
  | [_] => some 0
  | a :: b :: rest =>
    match cheapest g a b, pathWeightB g (b :: rest) with
    | some w, some r => some (w + r)
    | _, _ => none

def validPathB (g : Adj) (s v : Nat) (p : List Nat) (d : Nat) : Bool :=
  (p.head? == some s) && (p.getLast? == some v) && decide p.Nodup && (pathWeightB g p == some d)

theorem cheapestIn_eq (b : Nat) (l : List (Nat × Nat)) :
    cheapestIn b l = ((l.filter fun e => e.1 = b).map (·.2)).min? := by
  induction l with
  | nil => rfl
  | cons e l ih =>
    rw [cheapestIn, List.filter_cons]
    split
    · rename_i h
      rw [ih, if_pos (decide_eq_true h), List.map_cons, List.min?_cons]
      cases ((l.filter fun e => e.1 = b).map (·.2)).min? with
      | none => rfl
      | some m => simp only [Option.elim, Nat.min_def]
    · rename_i h
      rw [ih, if_neg (by simpa using h)]

theorem cheapest_iff {g : Adj} {a b w : Nat} : cheapest g a b = some w ↔ IsCheapest g a b w := by
  have mem : ∀ w, w ∈ ((g a).filter fun e => e.1 = b).map (·.2) ↔ (b, w) ∈ g a := fun w => by
    simp only [List.mem_map, List.mem_filter, decide_eq_true_eq]
    exact ⟨fun ⟨e, ⟨he, h1⟩, h2⟩ => by rw [← h1, ← h2]; exact he, fun h => ⟨_, ⟨h, rfl⟩, rfl⟩⟩
  unfold cheapest IsCheapest
  simp only [cheapestIn_eq, List.min?_eq_some_iff, mem]

theorem pathWeightB_iff {g : Adj} {p : List Nat} {d : Nat} : pathWeightB g p = some d ↔ PathW g p d := by
  constructor
  · intro h
    induction p generalizing d with
    | nil => simp [pathWeightB] at h
    | cons a rest ih =>
      cases rest with
      | nil => simp only [pathWeightB, Option.some.injEq] at h; subst h; exact .single a
      | cons b rest =>
        simp only [pathWeightB] at h
        split at h
        · rename_i w r hw hr
          cases h
          exact .cons (cheapest_iff.mp hw) (ih hr)
        · cases h
  · intro h
    induction h with
    | single a => rfl
    | cons hc _ ih => simp only [pathWeightB, cheapest_iff.mpr hc, ih]

theorem validPathB_iff (g : Adj) (s v : Nat) (p : List Nat) (d : Nat) :
    validPathB g s v p d = true ↔ ValidPath g s v p d := by
  simp only [validPathB, ValidPath, Bool.and_eq_true, beq_iff_eq, decide_eq_true_eq, pathWeightB_iff, and_assoc]

theorem PathW.walk {g : Adj} {p : List Nat} {d : Nat} (h : PathW g p d) :
    ∀ a v, p.head? = some a → p.getLast? = some v → Walk g a v d := by
  induction h with
  | single a =>
    intro a' v h1 h2
    simp at h1 h2; subst h1; subst h2; exact .nil
  | cons hc _ ih =>
    intro a' v h1 h2
    simp only [List.head?_cons, Option.some.injEq] at h1
    subst h1
    rw [List.getLast?_cons_cons] at h2
    exact Walk.cons hc.1 (ih _ v rfl h2)

theorem ValidPath.walk {g : Adj} {s v : Nat} {p : List Nat} {d : Nat} (h : ValidPath g s v p d) : Walk g s v d :=
  h.2.2.2.walk s v h.1 h.2.1

end Tbx.SP
