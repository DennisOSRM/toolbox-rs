/-
Spec for the Huffman clauses of C20: what a prefix-free code is, its weighted length, Kraft's sum and
the optimum cost computed by the textbook greedy on a sorted list (independent of the two
constructions in /repo: no trees, no queues, no heap).  Core Lean only.
-/
namespace Tbx.Spec.Huff

abbrev Code := List Bool

/-- no code word is a prefix of another one (positions, not values: duplicates are excluded too) -/
def PrefixFree (cs : List Code) : Prop := cs.Pairwise fun a b => ¬ a <+: b ∧ ¬ b <+: a

def prefixFreeB : List Code → Bool
  | [] => true
  | c :: cs => (cs.all fun d => !c.isPrefixOf d && !d.isPrefixOf c) && prefixFreeB cs

theorem prefixFreeB_iff (cs : List Code) : prefixFreeB cs = true ↔ PrefixFree cs := by
  induction cs with
  | nil => simp [prefixFreeB, PrefixFree]
  | cons c cs ih => simp [prefixFreeB, PrefixFree.eq_1, List.pairwise_cons, Bool.eq_false_iff, ih]

/-- Kraft sum scaled by `2^L` -/
def kraftSum (L : Nat) (cs : List Code) : Nat := (cs.map fun c => 2 ^ (L - c.length)).sum

def maxLen (cs : List Code) : Nat := cs.foldl (fun m c => max m c.length) 0

/-- `Σ 2^(-len) = 1`: the code tree is full (necessary for optimality with ≥ 2 symbols) -/
def kraftEqB (cs : List Code) : Bool := kraftSum (maxLen cs) cs == 2 ^ maxLen cs

def freqOf (table : List (Nat × Int)) (s : Nat) : Int :=
  match table.find? (fun e => e.1 == s) with
  | some e => e.2
  | none => 0

/-- weighted length `Σ f(s) · |code(s)|` -/
def cost (table : List (Nat × Int)) (book : List (Nat × Code)) : Int :=
  (book.map fun e => freqOf table e.1 * (e.2.length : Int)).sum

def insertSorted (x : Int) : List Int → List Int
  | [] => [x]
  | y :: ys => if x ≤ y then x :: y :: ys else y :: insertSorted x ys

def sortInts (l : List Int) : List Int := l.foldr insertSorted []

/-- repeated merge of the two smallest weights; the cost of a Huffman tree is the sum of the merged weights -/
def greedyCost : Nat → List Int → Int
  | _, [] => 0
  | _, [_] => 0
  | 0, _ :: _ :: _ => 0
  | fuel + 1, a :: b :: rest => (a + b) + greedyCost fuel (insertSorted (a + b) rest)

def optCost (fs : List Int) : Int := greedyCost fs.length (sortInts fs)

/-- every symbol of the table has exactly one code word -/
def allCodedB (table : List (Nat × Int)) (book : List (Nat × Code)) : Bool :=
  (book.map (·.1)).isPerm (table.map (·.1))

end Tbx.Spec.Huff
