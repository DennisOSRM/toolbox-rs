/-
Reference priority queue for C10 (and, through it, for the Dijkstra models of C08/C09):
the list of all entries ever inserted since the last clear, in insertion order.
Nothing here knows about heaps.  After the definitions: what `find?` returns on an appended entry and after a map
that keeps ids, which is how the observers see `insert` and the three updates.
-/
namespace Tbx.PQ

structure Entry where
  id : Int
  weight : Int
  data : Int
  live : Bool
deriving Repr, DecidableEq, Inhabited

abbrev Q := List Entry

def find? (q : Q) (id : Int) : Option Entry := q.find? (fun e => e.id == id)

def insert (q : Q) (id w d : Int) : Q := q ++ [⟨id, w, d, true⟩]
def decreaseKey (q : Q) (id w : Int) : Q := q.map fun e => if e.id == id then { e with weight := w } else e
def setData (q : Q) (id d : Int) : Q := q.map fun e => if e.id == id then { e with data := d } else e
def remove (q : Q) (id : Int) : Q := q.map fun e => if e.id == id then { e with live := false } else e
def flush (q : Q) : Q := q.map fun e => { e with live := false }
def clear (_ : Q) : Q := []

def len (q : Q) : Nat := (q.filter (·.live)).length
def insertedLen (q : Q) : Nat := q.length

/-- `id` is contained and no contained entry is lighter -/
def IsMin (q : Q) (id : Int) : Prop :=
  ∃ e ∈ q, e.id = id ∧ e.live = true ∧ ∀ e' ∈ q, e'.live = true → e.weight ≤ e'.weight

/-- executable version of `IsMin` (equivalence: `Tbx.PQ.isMinB_iff`) -/
def isMinB (q : Q) (id : Int) : Bool :=
  q.any fun e => e.id == id && e.live && q.all fun e' => !e'.live || decide (e.weight ≤ e'.weight)

theorem isMinB_iff (q : Q) (id : Int) : isMinB q id = true ↔ IsMin q id := by
  unfold isMinB IsMin
  simp only [List.any_eq_true, Bool.and_eq_true, beq_iff_eq, List.all_eq_true, Bool.or_eq_true,
    Bool.not_eq_eq_eq_not, Bool.not_true, decide_eq_true_eq]
  constructor
  · rintro ⟨e, he, ⟨h1, h2⟩, h3⟩
    refine ⟨e, he, h1, h2, ?_⟩
    intro e' he' hl
    rcases h3 e' he' with h | h
    · rw [hl] at h; cases h
    · exact h
  · rintro ⟨e, he, h1, h2, h3⟩
    refine ⟨e, he, ⟨h1, h2⟩, ?_⟩
    intro e' he'
    cases hl : e'.live
    · left; rfl
    · right; exact h3 e' he' hl

def weight (q : Q) (wmax : Int) (id : Int) : Int := match find? q id with | some e => e.weight | none => wmax
def contains (q : Q) (id : Int) : Bool := match find? q id with | some e => e.live | none => false
def removed (q : Q) (id : Int) : Bool := match find? q id with | some e => !e.live | none => false
def inserted (q : Q) (id : Int) : Bool := (find? q id).isSome
def data? (q : Q) (id : Int) : Option Int := (find? q id).map (·.data)

theorem find_mem {q : Q} {x : Int} {e : Entry} (h : find? q x = some e) : e ∈ q ∧ e.id = x := by
  unfold find? at h
  exact ⟨List.mem_of_find?_eq_some h, by simpa using List.find?_some h⟩

theorem find_append_single (q : Q) (e : Entry) (x : Int) :
    find? (q ++ [e]) x = (find? q x).or (if e.id == x then some e else none) := by
  unfold find?
  rw [List.find?_append, List.find?_singleton]

theorem find_map (q : Q) (f : Entry → Entry) (hf : ∀ e, (f e).id = e.id) (x : Int) :
    find? (q.map f) x = (find? q x).map f := by
  unfold find?
  induction q with
  | nil => rfl
  | cons a q ih =>
    simp only [List.map_cons, List.find?_cons, hf]
    cases h : (a.id == x)
    · simpa using ih
    · rfl

theorem find_map_upd (q : Q) (id : Int) (f : Entry → Entry) (hf : ∀ e, (f e).id = e.id) (x : Int) :
    find? (q.map fun e => if e.id == id then f e else e) x =
      if x = id then (find? q x).map f else find? q x := by
  rw [find_map _ _ (fun e => by split <;> first | exact hf e | rfl)]
  cases h : find? q x with
  | none => split <;> rfl
  | some e =>
    have := (find_mem h).2
    by_cases hx : x = id
    · rw [if_pos hx, Option.map_some, if_pos (by rw [this, hx]; exact beq_self_eq_true _)]; rfl
    · rw [if_neg hx, Option.map_some, if_neg (by rw [this]; exact fun g => hx (beq_iff_eq.mp g))]

end Tbx.PQ
