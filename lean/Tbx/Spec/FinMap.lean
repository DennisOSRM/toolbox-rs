/-
Reference finite map for C13: what "a reference map returns".

A map from `Nat` keys to `Int` values is an association list without duplicate keys.  Its meaning
is given by the laws below (`get?_insert`, `get?_erase`, `get?_clear`, `len_insert`, `len_erase`):
`get?` after an update is the updated function, `len` is the number of keys present.  `erase` is a
`filter` (`erase_eq_filter`), and with distinct keys a lookup sees the entries, not their order
(`get?_perm`).  Nothing here knows about hashing, probing or generations.  Core Lean only (linked into the
driver).
-/
namespace Tbx.FinMap

abbrev M := List (Nat × Int)

def get? : M → Nat → Option Int
  | [], _ => none
  | (k', v) :: m, k => if k' = k then some v else get? m k

def erase : M → Nat → M
  | [], _ => []
  | (k', v) :: m, k => if k' = k then erase m k else (k', v) :: erase m k

def contains (m : M) (k : Nat) : Bool := (get? m k).isSome
def insert (m : M) (k : Nat) (v : Int) : M := (k, v) :: erase m k
def clear : M := []
def len (m : M) : Nat := m.length
def isEmpty (m : M) : Bool := m.length == 0

/-- get-or-create with default `d`: the value handed out and the map afterwards -/
def getOrCreate (m : M) (k : Nat) (d : Int) : M × Int :=
  match get? m k with
  | some v => (m, v)
  | none => (insert m k d, d)

/-- `remove`: the map afterwards and whether the key was present -/
def remove (m : M) (k : Nat) : M × Bool := (erase m k, contains m k)

def keys (m : M) : List Nat := m.map (·.1)

def NoDup (m : M) : Prop := (keys m).Nodup

theorem get?_clear (k : Nat) : get? clear k = none := rfl

theorem get?_erase (m : M) (k k' : Nat) : get? (erase m k) k' = if k = k' then none else get? m k' := by
  induction m with
  | nil => simp [erase, get?]
  | cons e m ih =>
    obtain ⟨a, v⟩ := e
    by_cases h1 : a = k
    · subst h1
      simp only [erase, if_true, ih, get?]
      by_cases h2 : a = k' <;> simp [h2]
    · simp only [erase, h1, if_false, get?, ih]
      by_cases h2 : a = k'
      · subst h2
        have : ¬ k = a := fun h => h1 h.symm
        simp [this]
      · simp [h2]

theorem get?_insert (m : M) (k k' : Nat) (v : Int) :
    get? (insert m k v) k' = if k = k' then some v else get? m k' := by
  simp only [insert, get?, get?_erase]
  by_cases h : k = k' <;> simp [h]

theorem erase_eq_filter (m : M) (k : Nat) : erase m k = m.filter (fun e => !(e.1 == k)) := by
  induction m with
  | nil => rfl
  | cons e m ih =>
    obtain ⟨a, v⟩ := e
    by_cases h : a = k <;> simp [erase, h, ih]

theorem erase_erase (m : M) (k : Nat) : erase (erase m k) k = erase m k := by
  simp only [erase_eq_filter, List.filter_filter, Bool.and_self]

theorem insert_getOrCreate (m : M) (k : Nat) (d v : Int) :
    insert (getOrCreate m k d).1 k v = insert m k v := by
  simp only [getOrCreate]
  cases get? m k with
  | some w => rfl
  | none => simp only [insert, erase, if_true, erase_erase]

theorem mem_keys_iff (m : M) (k : Nat) : k ∈ keys m ↔ contains m k = true := by
  induction m with
  | nil => simp [keys, contains, get?]
  | cons e m ih =>
    obtain ⟨a, v⟩ := e
    simp only [keys, List.map_cons, List.mem_cons, contains, get?] at ih ⊢
    by_cases h : a = k
    · simp [h]
    · have h' : ¬ k = a := fun x => h x.symm
      simp [h, h', ih]

theorem noDup_erase (m : M) (k : Nat) (h : NoDup m) : NoDup (erase m k) :=
  erase_eq_filter m k ▸ h.sublist (List.filter_sublist.map _)

theorem erase_of_not_mem (m : M) (k : Nat) (h : k ∉ keys m) : erase m k = m := by
  rw [erase_eq_filter, List.filter_eq_self]
  intro e he
  simpa using fun hk : e.1 = k => h (hk ▸ List.mem_map_of_mem he)

theorem not_mem_keys_erase (m : M) (k : Nat) : k ∉ keys (erase m k) := by
  rw [mem_keys_iff]; simp [contains, get?_erase]

theorem get?_iff_mem (m : M) (hn : NoDup m) (k : Nat) (v : Int) : get? m k = some v ↔ (k, v) ∈ m := by
  induction m with
  | nil => simp [get?]
  | cons e m ih =>
    obtain ⟨a, w⟩ := e
    obtain ⟨hn1, hn2⟩ := List.nodup_cons.1 hn
    simp only [get?, List.mem_cons, Prod.mk.injEq]
    by_cases h : a = k
    · subst h
      simp only [if_true, Option.some.injEq]
      exact ⟨fun e => Or.inl ⟨trivial, e.symm⟩,
        fun o => o.elim (·.2.symm) fun hm => absurd (List.mem_map_of_mem (f := (·.1)) hm) hn1⟩
    · rw [if_neg h, ih hn2]
      exact ⟨Or.inr, fun o => o.resolve_left fun e => h e.1.symm⟩

theorem noDup_perm {t m : M} (hp : t.Perm m) : NoDup t ↔ NoDup m :=
  (hp.map (fun e : Nat × Int => e.1)).nodup_iff

theorem get?_perm {t m : M} (hp : t.Perm m) (hn : NoDup m) (k : Nat) : get? t k = get? m k :=
  Option.ext fun v => by rw [get?_iff_mem t ((noDup_perm hp).2 hn), get?_iff_mem m hn, hp.mem_iff]

theorem erase_perm {t m : M} (hp : t.Perm m) (k : Nat) : (erase t k).Perm (erase m k) := by
  rw [erase_eq_filter, erase_eq_filter]; exact hp.filter _

theorem noDup_insert (m : M) (k : Nat) (v : Int) (h : NoDup m) : NoDup (insert m k v) := by
  simp only [insert, NoDup, keys, List.map_cons, List.nodup_cons]
  exact ⟨not_mem_keys_erase m k, noDup_erase m k h⟩

theorem noDup_clear : NoDup clear := by simp [NoDup, keys, clear]

theorem pos_of_contains (m : M) (k : Nat) (h : contains m k = true) : 0 < m.length := by
  cases m with
  | nil => simp [contains, get?] at h
  | cons _ _ => simp

theorem len_erase (m : M) (k : Nat) (h : NoDup m) :
    len (erase m k) = if contains m k then len m - 1 else len m := by
  unfold len
  induction m with
  | nil => rfl
  | cons e m ih =>
    obtain ⟨a, v⟩ := e
    obtain ⟨h1, h2⟩ := List.nodup_cons.1 h
    by_cases hk : a = k
    · subst hk
      rw [erase, if_pos rfl, erase_of_not_mem m a h1, contains, get?, if_pos rfl]; rfl
    · have hcc : contains ((a, v) :: m) k = contains m k := by rw [contains, get?, if_neg hk]; rfl
      rw [erase, if_neg hk, hcc, List.length_cons, ih h2]
      by_cases hc : contains m k = true
      · have := pos_of_contains m k hc
        rw [if_pos hc, if_pos hc, List.length_cons]; omega
      · rw [if_neg hc, if_neg hc]; rfl

theorem len_insert (m : M) (k : Nat) (v : Int) (h : NoDup m) :
    len (insert m k v) = if contains m k then len m else len m + 1 := by
  have he := len_erase m k h
  simp only [insert, len, List.length_cons] at he ⊢
  rw [he]
  by_cases hc : contains m k = true
  · have := pos_of_contains m k hc
    simp only [hc, if_true]; omega
  · simp [hc]

theorem len_meaning (m : M) (h : NoDup m) :
    len m = (keys m).length ∧ (keys m).Nodup ∧ ∀ k, k ∈ keys m ↔ (get? m k).isSome = true :=
  ⟨by simp [len, keys], h, fun k => mem_keys_iff m k⟩

/-! ### checker used by the judge: the observed answers over a key universe are the map's answers -/

structure Obs where
  len : Nat
  empty : Bool
  peek : List (Option Int)
  contains : List Bool
deriving DecidableEq, Repr

def observe (m : M) (U : List Nat) : Obs :=
  { len := len m, empty := isEmpty m, peek := U.map (get? m), contains := U.map (contains m) }

def checkObs (m : M) (U : List Nat) (o : Obs) : Bool := decide (o = observe m U)

theorem checkObs_sound (m : M) (U : List Nat) (o : Obs) :
    checkObs m U o = true ↔
      (o.len = len m ∧ o.empty = isEmpty m ∧ o.peek = U.map (get? m) ∧ o.contains = U.map (contains m)) := by
  unfold checkObs observe
  rw [decide_eq_true_eq]
  constructor
  · intro h; rw [h]; exact ⟨rfl, rfl, rfl, rfl⟩
  · rintro ⟨h1, h2, h3, h4⟩
    cases o; simp_all

end Tbx.FinMap
