/-
Meaning of property C19's exact (integer) clauses, independent of any algorithm.

* `Coord`        fixed-point coordinate (micro-degrees), `ValidCoord` = the latitude/longitude range
* `cross`        integer orientation test  (a - o) x (b - o)  with x = lon, y = lat
                 (`> 0` is what /repo calls a "clockwise turn")
* `IsHullOf`     what a correct hull of more than three points is: input points only, and either a
                 strictly convex polygon enclosing every input point, or the two end points of the
                 segment carrying all points, or copies of the single point
* `zkey`         interleaved 64-bit key of the z-order (sign bit flipped, latitude bit above the
                 longitude bit of every pair)
* box clauses    componentwise minimum / maximum

Every predicate has a decidable checker with a soundness theorem; the judge in
`Tbx/Drv/C19.lean` uses the checkers on the implementation's output.  Core Lean only.
-/
namespace Tbx.Geo

structure Coord where
  lat : Int
  lon : Int
deriving DecidableEq, Repr, Inhabited

/-- the valid latitude / longitude range in micro-degrees -/
def ValidCoord (c : Coord) : Prop :=
  -90000000 ≤ c.lat ∧ c.lat ≤ 90000000 ∧ -180000000 ≤ c.lon ∧ c.lon ≤ 180000000

instance (c : Coord) : Decidable (ValidCoord c) := by unfold ValidCoord; infer_instance

/-- orientation of the triple (o, a, b): twice the signed area, x = lon, y = lat -/
def cross (o a b : Coord) : Int :=
  (a.lon - o.lon) * (b.lat - o.lat) - (a.lat - o.lat) * (b.lon - o.lon)

/-- directed edges of the closed polygon through the vertex list: (h_i, h_{i+1 mod k}) -/
def edges : List Coord → List (Coord × Coord)
  | [] => []
  | x :: xs => (x :: xs).zip (xs ++ [x])

/-- every point of `pts` is on the inner side of (or on) every edge; `s = 1`: inner side is where
`cross > 0`, `s = -1`: the polygon is traversed the other way round -/
def Encloses (s : Int) (h pts : List Coord) : Prop :=
  ∀ e ∈ edges h, ∀ p ∈ pts, 0 ≤ s * cross e.1 e.2 p

/-- global strict convexity: at least three pairwise different vertices, and every vertex other than
an edge's own end points lies strictly on the inner side of that edge (so no three vertices are
collinear, the polygon is simple and winds around once) -/
def StrictlyConvex (s : Int) (h : List Coord) : Prop :=
  3 ≤ h.length ∧ h.Nodup ∧ ∀ e ∈ edges h, ∀ p ∈ h, p ≠ e.1 → p ≠ e.2 → 0 < s * cross e.1 e.2 p

def OnSegment (a b p : Coord) : Prop :=
  cross a b p = 0 ∧ min a.lat b.lat ≤ p.lat ∧ p.lat ≤ max a.lat b.lat ∧
  min a.lon b.lon ≤ p.lon ∧ p.lon ≤ max a.lon b.lon

instance (a b p : Coord) : Decidable (OnSegment a b p) := by unfold OnSegment; infer_instance

/-- the three shapes the property allows for the hull of more than three points -/
def IsPolygonHull (h pts : List Coord) : Prop :=
  ∃ s : Int, (s = 1 ∨ s = -1) ∧ StrictlyConvex s h ∧ Encloses s h pts
def IsSegmentHull (h pts : List Coord) : Prop :=
  ∃ a b, a ≠ b ∧ h = [a, b] ∧ ∀ p ∈ pts, OnSegment a b p
def IsPointHull (h pts : List Coord) : Prop :=
  ∃ a, h ≠ [] ∧ (∀ v ∈ h, v = a) ∧ ∀ p ∈ pts, p = a

def IsHullOf (h pts : List Coord) : Prop :=
  (∀ v ∈ h, v ∈ pts) ∧ (IsPolygonHull h pts ∨ IsSegmentHull h pts ∨ IsPointHull h pts)

/-- what `monotone_chain` owes for any input: up to three points are returned as they are -/
def HullSpec (pts h : List Coord) : Prop :=
  if pts.length ≤ 3 then h = pts else IsHullOf h pts

def enclosesB (s : Int) (h pts : List Coord) : Bool :=
  (edges h).all fun e => pts.all fun p => decide (0 ≤ s * cross e.1 e.2 p)

def nodupB : List Coord → Bool
  | [] => true
  | x :: xs => !xs.contains x && nodupB xs

def strictlyConvexB (s : Int) (h : List Coord) : Bool :=
  decide (3 ≤ h.length) && nodupB h &&
  (edges h).all fun e => h.all fun p => p == e.1 || p == e.2 || decide (0 < s * cross e.1 e.2 p)

def isPolygonHullB (h pts : List Coord) : Bool :=
  (strictlyConvexB 1 h && enclosesB 1 h pts) || (strictlyConvexB (-1) h && enclosesB (-1) h pts)

def isSegmentHullB (h pts : List Coord) : Bool :=
  match h with
  | [a, b] => a != b && pts.all fun p => decide (OnSegment a b p)
  | _ => false

def isPointHullB (h pts : List Coord) : Bool :=
  match h with
  | [] => false
  | a :: _ => h.all (· == a) && pts.all (· == a)

def isHullOfB (h pts : List Coord) : Bool :=
  h.all (fun v => pts.contains v) && (isPolygonHullB h pts || isSegmentHullB h pts || isPointHullB h pts)

def hullSpecB (pts h : List Coord) : Bool :=
  if pts.length ≤ 3 then h == pts else isHullOfB h pts

theorem enclosesB_iff (s : Int) (h pts : List Coord) : enclosesB s h pts = true ↔ Encloses s h pts := by
  simp [enclosesB, Encloses]

theorem nodupB_iff (l : List Coord) : nodupB l = true ↔ l.Nodup := by
  induction l with
  | nil => simp [nodupB]
  | cons x xs ih => simp [nodupB, ih]

theorem strictlyConvexB_iff (s : Int) (h : List Coord) :
    strictlyConvexB s h = true ↔ StrictlyConvex s h := by
  simp only [strictlyConvexB, StrictlyConvex, Bool.and_eq_true, decide_eq_true_eq, nodupB_iff,
    List.all_eq_true, Bool.or_eq_true, beq_iff_eq, and_assoc, ne_eq,
    Decidable.or_iff_not_imp_left, Decidable.not_imp_iff_and_not, and_imp]

theorem isPolygonHullB_iff (h pts : List Coord) : isPolygonHullB h pts = true ↔ IsPolygonHull h pts := by
  simp only [isPolygonHullB, IsPolygonHull, Bool.or_eq_true, Bool.and_eq_true, strictlyConvexB_iff,
    enclosesB_iff, or_and_right, exists_or, exists_eq_left]

theorem isSegmentHullB_iff (h pts : List Coord) : isSegmentHullB h pts = true ↔ IsSegmentHull h pts := by
  unfold isSegmentHullB IsSegmentHull
  constructor
  · intro hb
    split at hb
    · rename_i a b
      simp only [Bool.and_eq_true, bne_iff_ne, ne_eq, List.all_eq_true, decide_eq_true_eq] at hb
      exact ⟨a, b, hb.1, rfl, hb.2⟩
    · cases hb
  · rintro ⟨a, b, hne, rfl, hp⟩
    simp only [Bool.and_eq_true, bne_iff_ne, ne_eq, List.all_eq_true, decide_eq_true_eq]
    exact ⟨hne, hp⟩

theorem isPointHullB_iff (h pts : List Coord) : isPointHullB h pts = true ↔ IsPointHull h pts := by
  unfold isPointHullB IsPointHull
  cases h with
  | nil => simp
  | cons a t =>
    simp only [Bool.and_eq_true, List.all_eq_true, beq_iff_eq, ne_eq, reduceCtorEq, not_false_eq_true,
      true_and]
    constructor
    · rintro ⟨h1, h2⟩
      exact ⟨a, h1, h2⟩
    · rintro ⟨b, h1, h2⟩
      have hab : a = b := h1 a (List.mem_cons_self)
      subst hab
      exact ⟨h1, h2⟩

theorem isHullOfB_iff (h pts : List Coord) : isHullOfB h pts = true ↔ IsHullOf h pts := by
  simp only [isHullOfB, IsHullOf, Bool.and_eq_true, Bool.or_eq_true, List.all_eq_true,
    List.contains_iff_mem, isPolygonHullB_iff, isSegmentHullB_iff, isPointHullB_iff, or_assoc]

theorem hullSpecB_iff (pts h : List Coord) : hullSpecB pts h = true ↔ HullSpec pts h := by
  unfold hullSpecB HullSpec
  split
  · simp
  · exact isHullOfB_iff h pts

/-- an i32 with its sign bit flipped, read as an unsigned number (order preserving) -/
def off32 (x : Int) : Nat := (x + 2147483648).toNat

/-- bit interleaving of two `n`-bit numbers; bit i of `hi` lands on bit 2i+1, bit i of `lo` on bit 2i -/
def interleave : Nat → Nat → Nat → Nat
  | 0, _, _ => 0
  | n + 1, hi, lo => 4 * interleave n (hi / 2) (lo / 2) + 2 * (hi % 2) + lo % 2

/-- position of a coordinate on the z-order curve: latitude is the more significant bit of each pair -/
def zkey (c : Coord) : Nat := interleave 32 (off32 c.lat) (off32 c.lon)

def InI32 (x : Int) : Prop := -2147483648 ≤ x ∧ x ≤ 2147483647
instance (x : Int) : Decidable (InI32 x) := by unfold InI32; infer_instance
def CoordI32 (c : Coord) : Prop := InI32 c.lat ∧ InI32 c.lon
instance (c : Coord) : Decidable (CoordI32 c) := by unfold CoordI32; infer_instance

/-- the order the property demands: a strict total order consistent with equality, given by the key -/
def zcmpSpec (a b : Coord) : Ordering := compare (zkey a) (zkey b)

structure BoxCorners where
  minLat : Int
  minLon : Int
  maxLat : Int
  maxLon : Int
deriving DecidableEq, Repr, Inhabited

def Between (b : BoxCorners) (q : Coord) : Prop :=
  b.minLat ≤ q.lat ∧ q.lat ≤ b.maxLat ∧ b.minLon ≤ q.lon ∧ q.lon ≤ b.maxLon

instance (b : BoxCorners) (q : Coord) : Decidable (Between b q) := by unfold Between; infer_instance

/-- `b` is the tightest box around the (non-empty) list -/
def IsBoxOf (b : BoxCorners) (cs : List Coord) : Prop :=
  (∀ c ∈ cs, Between b c) ∧
  (∃ c ∈ cs, c.lat = b.minLat) ∧ (∃ c ∈ cs, c.lon = b.minLon) ∧
  (∃ c ∈ cs, c.lat = b.maxLat) ∧ (∃ c ∈ cs, c.lon = b.maxLon)

def isBoxOfB (b : BoxCorners) (cs : List Coord) : Bool :=
  cs.all (fun c => decide (Between b c)) &&
  cs.any (fun c => c.lat == b.minLat) && cs.any (fun c => c.lon == b.minLon) &&
  cs.any (fun c => c.lat == b.maxLat) && cs.any (fun c => c.lon == b.maxLon)

theorem isBoxOfB_iff (b : BoxCorners) (cs : List Coord) : isBoxOfB b cs = true ↔ IsBoxOf b cs := by
  simp only [isBoxOfB, IsBoxOf, Bool.and_eq_true, List.all_eq_true, decide_eq_true_eq, List.any_eq_true,
    beq_iff_eq, and_assoc]

def joinCorners (a b : BoxCorners) : BoxCorners :=
  ⟨min a.minLat b.minLat, min a.minLon b.minLon, max a.maxLat b.maxLat, max a.maxLon b.maxLon⟩

/-- closest point of a (valid) box to `q`: componentwise clamp -/
def clampInto (b : BoxCorners) (q : Coord) : Coord :=
  ⟨max b.minLat (min q.lat b.maxLat), max b.minLon (min q.lon b.maxLon)⟩

end Tbx.Geo
