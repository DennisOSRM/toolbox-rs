/-
Specification for C14: a graph *is* its number of nodes and the multiset of edges it was given.

The state is `n` and the list of (source,target,data) triples in the order they were given; the
adjacency of node `v` is `adjOf es v : List (target,data)`, meaningful **up to permutation**
(`List.Perm`).  Nothing here knows about offsets, slices or spare slots.

Executable comparison of adjacencies: `canon` (sort by (target,data)) with
`canon_eq_iff_perm : canon a = canon b ↔ a.Perm b`; the judge compares canonical forms.
-/
namespace Tbx.Adj

structure Edge where
  src : Nat
  tgt : Nat
  data : Int
deriving Repr, Inhabited, DecidableEq

def adjOf (es : List Edge) (v : Nat) : List (Nat × Int) :=
  (es.filter fun e => e.src == v).map fun e => (e.tgt, e.data)

structure S where
  n : Nat
  es : List Edge
deriving Repr

def IsMaxId (es : List Edge) (m : Nat) : Prop :=
  (∃ e ∈ es, e.src = m ∨ e.tgt = m) ∧ ∀ e ∈ es, e.src ≤ m ∧ e.tgt ≤ m

/-- executable maximum id; 0 for the empty list (convention of the code: the running maximum
    starts at 0, so an empty edge list yields a graph with ONE node) -/
def maxIdOf (es : List Edge) : Nat := es.foldr (fun e m => max (max e.src e.tgt) m) 0

/-- a static graph built from `es` -/
def ofList (es : List Edge) : S := { n := maxIdOf es + 1, es := es }

/-- a dynamic graph built from `n` nodes and `es` (domain: all ids below `n`) -/
def init (n : Nat) (es : List Edge) : S := { n := n, es := es }
def idsBelow (n : Nat) (es : List Edge) : Bool := es.all fun e => decide (e.src < n) && decide (e.tgt < n)

def insertNode (σ : S) : S := { σ with n := σ.n + 1 }
/-- inserting an edge creates every node up to its endpoints -/
def insertEdge (σ : S) (s t : Nat) (d : Int) : S :=
  { n := max σ.n (max s t + 1), es := σ.es ++ [⟨s, t, d⟩] }
/-- removes one occurrence (domain: the edge is present) -/
def removeEdge (σ : S) (s t : Nat) (d : Int) : S := { σ with es := σ.es.erase ⟨s, t, d⟩ }

def replaceFirst (a b : Edge) : List Edge → List Edge
  | [] => []
  | x :: xs => if x = a then b :: xs else x :: replaceFirst a b xs

/-- overwrite the data of one occurrence of the edge (s,t,d) (domain: the edge is present) -/
def setData (σ : S) (s t : Nat) (d d' : Int) : S :=
  { σ with es := replaceFirst ⟨s, t, d⟩ ⟨s, t, d'⟩ σ.es }

def numNodes (σ : S) : Nat := σ.n
def numEdges (σ : S) : Nat := σ.es.length
def degree (σ : S) (v : Nat) : Nat := (adjOf σ.es v).length
/-- `find_edge(s,t)` must answer iff this holds -/
def HasEdge (σ : S) (s t : Nat) : Prop := s < σ.n ∧ ∃ e ∈ σ.es, e.src = s ∧ e.tgt = t
def hasEdgeB (σ : S) (s t : Nat) : Bool := decide (s < σ.n) && σ.es.any fun e => e.src == s && e.tgt == t

theorem hasEdgeB_iff (σ : S) (s t : Nat) : hasEdgeB σ s t = true ↔ HasEdge σ s t := by
  simp [hasEdgeB, HasEdge]

def pairLe (a b : Nat × Int) : Bool := a.1 < b.1 || (a.1 == b.1 && decide (a.2 ≤ b.2))

def canon (l : List (Nat × Int)) : List (Nat × Int) := l.mergeSort fun a b => pairLe a b

theorem lex_trans {α : Type} (R : α → α → Bool) (hR : ∀ a b c, R a b = true → R b c = true → R a c = true)
    (x y z : Nat) (a b c : α) : (decide (x < y) || (x == y && R a b)) = true →
    (decide (y < z) || (y == z && R b c)) = true → (decide (x < z) || (x == z && R a c)) = true := by
  simp only [Bool.or_eq_true, Bool.and_eq_true, decide_eq_true_eq, beq_iff_eq]
  intro h1 h2
  rcases h1 with h1 | ⟨e1, r1⟩
  · rcases h2 with h2 | ⟨e2, _⟩
    · exact Or.inl (Nat.lt_trans h1 h2)
    · exact Or.inl (e2 ▸ h1)
  · rcases h2 with h2 | ⟨e2, r2⟩
    · exact Or.inl (e1 ▸ h2)
    · exact Or.inr ⟨e1.trans e2, hR a b c r1 r2⟩

theorem lex_total {α : Type} (R : α → α → Bool) (hR : ∀ a b, (R a b || R b a) = true) (x y : Nat) (a b : α) :
    ((decide (x < y) || (x == y && R a b)) || (decide (y < x) || (y == x && R b a))) = true := by
  have := hR a b
  simp only [Bool.or_eq_true, Bool.and_eq_true, decide_eq_true_eq, beq_iff_eq] at this ⊢
  rcases Nat.lt_trichotomy x y with h | h | h
  · exact Or.inl (Or.inl h)
  · exact this.elim (fun r => Or.inl (Or.inr ⟨h, r⟩)) (fun r => Or.inr (Or.inr ⟨h.symm, r⟩))
  · exact Or.inr (Or.inl h)

theorem pairLe_trans (a b c : Nat × Int) : pairLe a b = true → pairLe b c = true → pairLe a c = true :=
  lex_trans (fun p q : Int => decide (p ≤ q))
    (fun _ _ _ h1 h2 => decide_eq_true (Int.le_trans (of_decide_eq_true h1) (of_decide_eq_true h2))) a.1 b.1 c.1 a.2 b.2 c.2

theorem pairLe_total (a b : Nat × Int) : (pairLe a b || pairLe b a) = true :=
  lex_total (fun p q : Int => decide (p ≤ q))
    (fun p q => (Int.le_total p q).elim (fun h => by simp [h]) (fun h => by simp [h])) a.1 b.1 a.2 b.2

theorem pairLe_antisymm (a b : Nat × Int) : pairLe a b = true → pairLe b a = true → a = b := by
  simp only [pairLe, Bool.or_eq_true, Bool.and_eq_true, decide_eq_true_eq, beq_iff_eq]
  intro h1 h2
  have : a.1 = b.1 ∧ a.2 = b.2 := by omega
  exact Prod.ext this.1 this.2

theorem canon_perm (l : List (Nat × Int)) : (canon l).Perm l := List.mergeSort_perm l _

theorem canon_sorted (l : List (Nat × Int)) : (canon l).Pairwise fun a b => pairLe a b = true :=
  List.pairwise_mergeSort (le := fun a b => pairLe a b) pairLe_trans pairLe_total l

/-- the judge's comparison is exactly "equal as multisets" -/
theorem canon_eq_iff_perm (a b : List (Nat × Int)) : canon a = canon b ↔ a.Perm b := by
  constructor
  · intro h
    exact (canon_perm a).symm.trans (h ▸ canon_perm b)
  · intro h
    have hp : (canon a).Perm (canon b) := (canon_perm a).trans (h.trans (canon_perm b).symm)
    exact List.Perm.eq_of_pairwise (le := fun a b => pairLe a b = true)
      (fun x y _ _ hxy hyx => pairLe_antisymm x y hxy hyx) (canon_sorted a) (canon_sorted b) hp

end Tbx.Adj
