/-
Spec for C15 (and for the searches inside the augmenting-path max-flow solvers): what reachability,
a valid path and "no shorter path" MEAN, independent of any search algorithm; plus executable checkers
with kernel-checked soundness/completeness theorems.  The judge of the C15 driver uses only the checkers.

Graph: `g u` = list of `(target, edge id)` of the out-edges of `u`.  `filt e = true` = edge `e` is removed.
-/
namespace Tbx.Reach

abbrev Graph := Nat → List (Nat × Nat)

def Edge (g : Graph) (filt : Nat → Bool) (u v : Nat) : Prop := ∃ e, (v, e) ∈ g u ∧ filt e = false

def edgeB (g : Graph) (filt : Nat → Bool) (u v : Nat) : Bool := (g u).any (fun p => p.1 == v && !filt p.2)

theorem edgeB_iff (g : Graph) (filt : Nat → Bool) (u v : Nat) : edgeB g filt u v = true ↔ Edge g filt u v := by
  simp only [edgeB, Edge, List.any_eq_true, Bool.and_eq_true, beq_iff_eq, Bool.not_eq_true']
  constructor
  · rintro ⟨⟨w, e⟩, hm, hw, hf⟩
    simp only at hw hf
    subst hw
    exact ⟨e, hm, hf⟩
  · rintro ⟨e, hm, hf⟩
    exact ⟨(v, e), hm, rfl, hf⟩

def succs (g : Graph) (filt : Nat → Bool) (u : Nat) : List Nat :=
  ((g u).filter (fun p => !filt p.2)).map (·.1)

theorem mem_succs (g : Graph) (filt : Nat → Bool) (u v : Nat) : v ∈ succs g filt u ↔ Edge g filt u v := by
  simp only [succs, Edge, List.mem_map, List.mem_filter, Bool.not_eq_true']
  constructor
  · rintro ⟨⟨w, e⟩, ⟨hm, hf⟩, hw⟩
    simp only at hw hf
    subst hw
    exact ⟨e, hm, hf⟩
  · rintro ⟨e, hm, hf⟩
    exact ⟨(v, e), ⟨hm, hf⟩, rfl⟩

inductive Reachable (g : Graph) (filt : Nat → Bool) (isSrc : Nat → Prop) : Nat → Prop where
  | src (v : Nat) : isSrc v → Reachable g filt isSrc v
  | step (u v : Nat) : Reachable g filt isSrc u → Edge g filt u v → Reachable g filt isSrc v

inductive Walk (g : Graph) (filt : Nat → Bool) (isSrc : Nat → Prop) : Nat → Nat → Prop where
  | src (v : Nat) : isSrc v → Walk g filt isSrc 0 v
  | step (k u v : Nat) : Walk g filt isSrc k u → Edge g filt u v → Walk g filt isSrc (k + 1) v

theorem reachable_iff_walk (g : Graph) (filt : Nat → Bool) (isSrc : Nat → Prop) (v : Nat) :
    Reachable g filt isSrc v ↔ ∃ k, Walk g filt isSrc k v := by
  constructor
  · intro h
    induction h with
    | src v hs => exact ⟨0, .src v hs⟩
    | step u v _ he ih =>
      obtain ⟨k, hk⟩ := ih
      exact ⟨k + 1, .step k u v hk he⟩
  · rintro ⟨k, hk⟩
    induction hk with
    | src v hs => exact .src v hs
    | step k u v _ he ih => exact .step u v ih he

def addNew (acc : List Nat) (v : Nat) : List Nat := if acc.contains v then acc else acc ++ [v]

def addAll (acc : List Nat) (vs : List Nat) : List Nat := vs.foldl addNew acc

theorem mem_addNew (acc : List Nat) (v x : Nat) : x ∈ addNew acc v ↔ x ∈ acc ∨ x = v := by
  unfold addNew
  split
  · rename_i h
    have hv : v ∈ acc := by simpa using h
    exact ⟨Or.inl, fun h => h.elim id (· ▸ hv)⟩
  · simp

theorem mem_addAll (vs acc : List Nat) (x : Nat) : x ∈ addAll acc vs ↔ x ∈ acc ∨ x ∈ vs := by
  induction vs generalizing acc with
  | nil => simp [addAll]
  | cons v vs ih =>
    have : addAll acc (v :: vs) = addAll (addNew acc v) vs := rfl
    rw [this, ih, mem_addNew, List.mem_cons]
    exact or_assoc

def expand (g : Graph) (filt : Nat → Bool) (C : List Nat) : List Nat :=
  addAll C (C.flatMap (succs g filt))

theorem mem_expand (g : Graph) (filt : Nat → Bool) (C : List Nat) (x : Nat) :
    x ∈ expand g filt C ↔ x ∈ C ∨ ∃ u, u ∈ C ∧ Edge g filt u x := by
  simp only [expand, mem_addAll, List.mem_flatMap, mem_succs]

def ball (g : Graph) (filt : Nat → Bool) (srcs : List Nat) : Nat → List Nat
  | 0 => srcs
  | k + 1 => expand g filt (ball g filt srcs k)

theorem ball_mono (g : Graph) (filt : Nat → Bool) (srcs : List Nat) (k j : Nat) (h : j ≤ k) (x : Nat)
    (hx : x ∈ ball g filt srcs j) : x ∈ ball g filt srcs k := by
  induction h with
  | refl => exact hx
  | step _ ih => exact (mem_expand g filt _ x).mpr (Or.inl ih)

theorem mem_ball (g : Graph) (filt : Nat → Bool) (srcs : List Nat) (k : Nat) (x : Nat) :
    x ∈ ball g filt srcs k ↔ ∃ j, j ≤ k ∧ Walk g filt (· ∈ srcs) j x := by
  induction k generalizing x with
  | zero =>
    constructor
    · intro h; exact ⟨0, Nat.le_refl 0, .src x h⟩
    · rintro ⟨j, hj, hw⟩
      obtain rfl := Nat.le_zero.mp hj
      cases hw with
      | src _ hs => exact hs
  | succ k ih =>
    show x ∈ expand g filt (ball g filt srcs k) ↔ _
    rw [mem_expand]
    constructor
    · rintro (h | ⟨u, hu, he⟩)
      · obtain ⟨j, hj, hw⟩ := (ih x).mp h
        exact ⟨j, Nat.le_succ_of_le hj, hw⟩
      · obtain ⟨j, hj, hw⟩ := (ih u).mp hu
        exact ⟨j + 1, Nat.succ_le_succ hj, .step j u x hw he⟩
    · rintro ⟨j, hj, hw⟩
      cases hw with
      | src _ hs =>
        left
        exact ball_mono g filt srcs k 0 (Nat.zero_le k) x hs
      | step j' u _ hw' he =>
        right
        exact ⟨u, (ih u).mpr ⟨j', Nat.le_of_succ_le_succ hj, hw'⟩, he⟩

def closedB (g : Graph) (filt : Nat → Bool) (C : List Nat) : Bool :=
  C.all (fun u => (succs g filt u).all (fun v => C.contains v))

/-- the reachability checker: once a ball is closed it IS the reachable set.  (The judge computes
    `ball n` for a graph on `n` nodes and evaluates `closedB` on it instead of trusting a pigeonhole
    argument; a ball that is not closed is reported, never used.) -/
theorem closed_ball_reachable (g : Graph) (filt : Nat → Bool) (srcs : List Nat) (k : Nat)
    (hc : closedB g filt (ball g filt srcs k) = true) (x : Nat) :
    x ∈ ball g filt srcs k ↔ Reachable g filt (· ∈ srcs) x := by
  constructor
  · intro h
    obtain ⟨j, _, hw⟩ := (mem_ball g filt srcs k x).mp h
    exact (reachable_iff_walk g filt _ x).mpr ⟨j, hw⟩
  · intro h
    induction h with
    | src v hs => exact ball_mono g filt srcs k 0 (Nat.zero_le k) v hs
    | step u v _ he ih =>
      simp only [closedB, List.all_eq_true, List.contains_iff_mem] at hc
      exact hc u ih v ((mem_succs g filt u v).mpr he)

/-- reachability of some target, as a Bool (meaningful when `closedB (ball k)` holds) -/
def anyTargetIn (C : List Nat) (tgts : List Nat) : Bool := tgts.any (fun t => C.contains t)

theorem anyTargetIn_iff (g : Graph) (filt : Nat → Bool) (srcs tgts : List Nat) (k : Nat)
    (hc : closedB g filt (ball g filt srcs k) = true) :
    anyTargetIn (ball g filt srcs k) tgts = true ↔ ∃ t, t ∈ tgts ∧ Reachable g filt (· ∈ srcs) t := by
  simp only [anyTargetIn, List.any_eq_true, List.contains_iff_mem]
  constructor
  · rintro ⟨t, ht, hb⟩
    exact ⟨t, ht, (closed_ball_reachable g filt srcs k hc t).mp hb⟩
  · rintro ⟨t, ht, hr⟩
    exact ⟨t, ht, (closed_ball_reachable g filt srcs k hc t).mpr hr⟩

def Linked (R : Nat → Nat → Prop) : List Nat → Prop
  | [] => True
  | [_] => True
  | u :: v :: rest => R u v ∧ Linked R (v :: rest)

def linkedB (r : Nat → Nat → Bool) : List Nat → Bool
  | [] => true
  | [_] => true
  | u :: v :: rest => r u v && linkedB r (v :: rest)

theorem linkedB_iff (R : Nat → Nat → Prop) (r : Nat → Nat → Bool) (h : ∀ u v, r u v = true ↔ R u v)
    (l : List Nat) : linkedB r l = true ↔ Linked R l := by
  induction l with
  | nil => simp [linkedB, Linked]
  | cons u l ih =>
    cases l with
    | nil => simp [linkedB, Linked]
    | cons v rest => simp only [linkedB, Linked, Bool.and_eq_true, h, ih]

theorem linked_snoc (R : Nat → Nat → Prop) (l : List Nat) (p v : Nat) (hl : Linked R l)
    (hlast : l.getLast? = some p) (hr : R p v) : Linked R (l ++ [v]) := by
  induction l with
  | nil => simp at hlast
  | cons a as ih =>
    cases as with
    | nil =>
      simp only [List.getLast?_singleton, Option.some.injEq] at hlast
      subst hlast
      exact ⟨hr, trivial⟩
    | cons b bs => exact ⟨hl.1, ih hl.2 (by simpa [List.getLast?_cons_cons] using hlast)⟩

structure ValidPath (g : Graph) (filt : Nat → Bool) (isSrc isT : Nat → Prop) (p : List Nat) : Prop where
  first  : ∃ s, p.head? = some s ∧ isSrc s
  last   : ∃ t, p.getLast? = some t ∧ isT t
  simple : p.Nodup
  linked : Linked (Edge g filt) p

def nodupB : List Nat → Bool
  | [] => true
  | x :: xs => !xs.contains x && nodupB xs

theorem nodupB_iff (l : List Nat) : nodupB l = true ↔ l.Nodup := by
  induction l with
  | nil => simp [nodupB]
  | cons x xs ih => simp [nodupB, ih, List.nodup_cons]

def validPathB (g : Graph) (filt : Nat → Bool) (srcs tgts : List Nat) (p : List Nat) : Bool :=
  (match p.head? with | some s => srcs.contains s | none => false) &&
  (match p.getLast? with | some t => tgts.contains t | none => false) &&
  nodupB p && linkedB (edgeB g filt) p

theorem validPathB_iff (g : Graph) (filt : Nat → Bool) (srcs tgts : List Nat) (p : List Nat) :
    validPathB g filt srcs tgts p = true ↔ ValidPath g filt (· ∈ srcs) (· ∈ tgts) p := by
  simp only [validPathB, Bool.and_eq_true, nodupB_iff, linkedB_iff (Edge g filt) (edgeB g filt) (edgeB_iff g filt)]
  constructor
  · rintro ⟨⟨⟨h1, h2⟩, h3⟩, h4⟩
    refine ⟨?_, ?_, h3, h4⟩
    · cases hh : p.head? with
      | none => simp [hh] at h1
      | some s => simp only [hh, List.contains_iff_mem] at h1; exact ⟨s, rfl, h1⟩
    · cases hh : p.getLast? with
      | none => simp [hh] at h2
      | some t => simp only [hh, List.contains_iff_mem] at h2; exact ⟨t, rfl, h2⟩
  · rintro ⟨⟨s, hs, hs'⟩, ⟨t, ht, ht'⟩, h3, h4⟩
    refine ⟨⟨⟨?_, ?_⟩, h3⟩, h4⟩
    · simp [hs, hs']
    · simp [ht, ht']

/-- the edge list has exactly one edge per hop of the node list, edge `i` leading from node `i` to node `i+1`
    (an edge id `e` joins `u → v` iff `(v, e)` is an out-edge entry of `u`) -/
def EdgesJoin (g : Graph) : List Nat → List Nat → Prop
  | [_], [] => True
  | u :: v :: rest, e :: es => (v, e) ∈ g u ∧ EdgesJoin g (v :: rest) es
  | _, _ => False

def edgesJoinB (g : Graph) : List Nat → List Nat → Bool
  | [_], [] => true
  | u :: v :: rest, e :: es => (g u).contains (v, e) && edgesJoinB g (v :: rest) es
  | _, _ => false

theorem edgesJoinB_iff (g : Graph) (p es : List Nat) : edgesJoinB g p es = true ↔ EdgesJoin g p es := by
  induction p generalizing es with
  | nil => simp [edgesJoinB, EdgesJoin]
  | cons u p ih =>
    cases p with
    | nil => cases es <;> simp [edgesJoinB, EdgesJoin]
    | cons v rest =>
      cases es with
      | nil => simp [edgesJoinB, EdgesJoin]
      | cons e es => simp only [edgesJoinB, EdgesJoin, Bool.and_eq_true, List.contains_iff_mem, ih]

theorem edgesJoin_snoc (g : Graph) (l es : List Nat) (p v e : Nat) (hj : EdgesJoin g l es)
    (hlast : l.getLast? = some p) (he : (v, e) ∈ g p) : EdgesJoin g (l ++ [v]) (es ++ [e]) := by
  induction l generalizing es with
  | nil => simp at hlast
  | cons a as ih =>
    cases as with
    | nil =>
      cases es with
      | nil =>
        simp only [List.getLast?_singleton, Option.some.injEq] at hlast
        subst hlast
        exact ⟨he, trivial⟩
      | cons _ _ => simp [EdgesJoin] at hj
    | cons b bs =>
      cases es with
      | nil => simp [EdgesJoin] at hj
      | cons e0 es0 => exact ⟨hj.1, ih es0 hj.2 (by simpa [List.getLast?_cons_cons] using hlast)⟩

def NoShorter (g : Graph) (filt : Nat → Bool) (isSrc isT : Nat → Prop) (h : Nat) : Prop :=
  ∀ k v, k < h → Walk g filt isSrc k v → ¬ isT v

def noShorterB (g : Graph) (filt : Nat → Bool) (srcs tgts : List Nat) (h : Nat) : Bool :=
  match h with
  | 0 => true
  | h' + 1 => tgts.all (fun t => !(ball g filt srcs h').contains t)

theorem noShorterB_iff (g : Graph) (filt : Nat → Bool) (srcs tgts : List Nat) (h : Nat) :
    noShorterB g filt srcs tgts h = true ↔ NoShorter g filt (· ∈ srcs) (· ∈ tgts) h := by
  cases h with
  | zero =>
    simp only [noShorterB, NoShorter, true_iff]
    exact fun k v hk => absurd hk (Nat.not_lt_zero k)
  | succ h' =>
    simp only [noShorterB, NoShorter, List.all_eq_true, Bool.not_eq_true', List.contains_eq_mem,
      decide_eq_false_iff_not]
    constructor
    · intro hall k v hk hw ht
      exact hall v ht ((mem_ball g filt srcs h' v).mpr ⟨k, Nat.le_of_lt_succ hk, hw⟩)
    · intro hns t ht hb
      obtain ⟨j, hj, hw⟩ := (mem_ball g filt srcs h' t).mp hb
      exact hns j t (Nat.lt_succ_of_le hj) hw ht

def minDist (g : Graph) (filt : Nat → Bool) (srcs tgts : List Nat) (bound : Nat) : Option Nat :=
  (List.range (bound + 1)).find? (fun k => anyTargetIn (ball g filt srcs k) tgts)

end Tbx.Reach
