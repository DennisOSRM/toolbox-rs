import Tbx.Model.Bincode
/-
C07 Spec: what an abstract DIMACS / METIS / DDSG file *describes*, independent of any parser.
(Only the two record types `InputEdge` / `FPCoordinate` are shared with the model.)

An abstract file is the list of its meaningful items in file order.  The graph it describes is a list
of directed weighted edges with 0-based node ids, without self-loops, in file order:

* DIMACS `.gr`: `c` comment lines, `p sp n m`, `a u v w` with 1-based u, v: edge (u-1, v-1, w).
* DIMACS `.co`: `c`, `p aux sp co n`, `v id lon lat` with integer coordinates copied as they are.
* METIS: header `n m`, then line i (0-based) lists the 1-based neighbours of node i; an empty line is an
  isolated node; every edge has weight 1.
* DDSG: `d`, `n m`, then `u v w dir` with 0-based u, v and dir 0 = open in both directions (u->v then
  v->u), 1 = forward only, 2 = backward only (v->u), 3 = closed (no edge).
* METIS / DDSG coordinates: decimal numbers in units of 1e-5 degree, lon before lat; the stored value
  is in micro-degrees and may deviate by at most one micro-degree (`WithinMicro`).

The judge of the driver evaluates exactly these functions on the abstract description that the
generator attaches to every text line and compares with what the real pipeline wrote and read back.
-/
namespace Tbx.GraphSpec
open Tbx.Bincode

inductive DimacsItem where
  | comment
  | problem (n m : Nat)
  | arc (u v w : Nat)            -- 1-based ids
deriving DecidableEq, Repr, Inhabited

def dimacsEdges : List DimacsItem → List InputEdge
  | [] => []
  | .arc u v w :: r => if u = v then dimacsEdges r else ⟨u - 1, v - 1, w⟩ :: dimacsEdges r
  | _ :: r => dimacsEdges r

def DimacsWF (F : List DimacsItem) : Prop :=
  ∀ u v w, DimacsItem.arc u v w ∈ F → 1 ≤ u ∧ 1 ≤ v

inductive DimacsCoItem where
  | comment
  | problem (n : Nat)
  | vertex (id : Nat) (lon lat : Int)
deriving DecidableEq, Repr, Inhabited

def dimacsCoords : List DimacsCoItem → List FPCoordinate
  | [] => []
  | .vertex _ lon lat :: r => ⟨lat, lon⟩ :: dimacsCoords r
  | _ :: r => dimacsCoords r

/-- the edges of the adjacency lines of nodes `i, i+1, …` -/
def metisEdgesFrom : Nat → List (List Nat) → List InputEdge
  | _, [] => []
  | i, nbrs :: r =>
    (nbrs.filter (fun t => t - 1 ≠ i)).map (fun t => ⟨i, t - 1, 1⟩) ++ metisEdgesFrom (i + 1) r

def metisEdges (adj : List (List Nat)) : List InputEdge := metisEdgesFrom 0 adj

def MetisWF (n : Nat) (adj : List (List Nat)) : Prop :=
  adj.length ≤ n ∧ ∀ nbrs ∈ adj, ∀ t ∈ nbrs, 1 ≤ t ∧ t ≤ n

structure DdsgArc where
  u : Nat
  v : Nat
  w : Nat
  dir : Nat                     -- 0 both, 1 forward, 2 backward, 3 closed
deriving DecidableEq, Repr, Inhabited

def ddsgArcEdges (a : DdsgArc) : List InputEdge :=
  if a.u = a.v then []
  else if a.dir = 0 then [⟨a.u, a.v, a.w⟩, ⟨a.v, a.u, a.w⟩]
  else if a.dir = 1 then [⟨a.u, a.v, a.w⟩]
  else if a.dir = 2 then [⟨a.v, a.u, a.w⟩]
  else []

def ddsgEdges : List DdsgArc → List InputEdge
  | [] => []
  | a :: r => ddsgArcEdges a ++ ddsgEdges r

def DdsgWF (arcs : List DdsgArc) : Prop := ∀ a ∈ arcs, a.dir ≤ 3

/-- the decimal number `mant / 10^scale`, in units of 1e-5 degree -/
structure Dec where
  mant : Int
  scale : Nat
deriving DecidableEq, Repr, Inhabited

/-- `r` micro-degrees is within one micro-degree of `d`·1e-5 degrees:
|r − 10·mant/10^scale| ≤ 1, cleared of the denominator -/
def WithinMicro (d : Dec) (r : Int) : Prop :=
  r * 10 ^ d.scale - 10 * d.mant ≤ 10 ^ d.scale ∧ 10 * d.mant - r * 10 ^ d.scale ≤ 10 ^ d.scale

def withinMicroB (d : Dec) (r : Int) : Bool :=
  decide (r * 10 ^ d.scale - 10 * d.mant ≤ 10 ^ d.scale) && decide (10 * d.mant - r * 10 ^ d.scale ≤ 10 ^ d.scale)

theorem withinMicroB_iff (d : Dec) (r : Int) : withinMicroB d r = true ↔ WithinMicro d r := by
  simp [withinMicroB, WithinMicro]

def CoordsWithin : List (Dec × Dec) → List FPCoordinate → Prop
  | [], [] => True
  | (lon, lat) :: ds, c :: cs => WithinMicro lat c.lat ∧ WithinMicro lon c.lon ∧ CoordsWithin ds cs
  | _, _ => False

def coordsWithinB : List (Dec × Dec) → List FPCoordinate → Bool
  | [], [] => true
  | (lon, lat) :: ds, c :: cs => withinMicroB lat c.lat && withinMicroB lon c.lon && coordsWithinB ds cs
  | _, _ => false

theorem coordsWithinB_iff (ds : List (Dec × Dec)) (cs : List FPCoordinate) :
    coordsWithinB ds cs = true ↔ CoordsWithin ds cs := by
  induction ds generalizing cs with
  | nil => cases cs <;> simp [coordsWithinB, CoordsWithin]
  | cons d ds ih =>
    obtain ⟨lon, lat⟩ := d
    cases cs with
    | nil => simp [coordsWithinB, CoordsWithin]
    | cons c cs =>
      simp only [coordsWithinB, CoordsWithin, Bool.and_eq_true, withinMicroB_iff, ih, and_assoc]

/-- the intermediate file decodes (completely) to the described list, and the loader read back the same -/
def Delivered {α : Type} (dec : List Nat → Option (List α × List Nat)) (bytes : List Nat)
    (readBack expected : List α) : Prop :=
  dec bytes = some (expected, []) ∧ readBack = expected

def deliveredB {α : Type} [DecidableEq α] (dec : List Nat → Option (List α × List Nat)) (bytes : List Nat)
    (readBack expected : List α) : Bool :=
  decide (dec bytes = some (expected, [])) && decide (readBack = expected)

theorem deliveredB_iff {α : Type} [DecidableEq α] (dec : List Nat → Option (List α × List Nat))
    (bytes : List Nat) (readBack expected : List α) :
    deliveredB dec bytes readBack expected = true ↔ Delivered dec bytes readBack expected := by
  simp [deliveredB, Delivered]

end Tbx.GraphSpec
