/-
Plain-array meaning of the Fenwick tree's queries (zero-based external indices):
  rank i      = v[0] + … + v[i]
  range i j   = v[i+1] + … + v[j]          (what both `range` and `slow_range` compute: rank j − rank i)
  update i x  : v[i] += x
  select x    = the largest index whose prefix sum is ≤ x (entries non-negative), None if there is none
-/
namespace Tbx.PrefixSum

def pre (v : List Int) (p : Nat) : Int := (v.take p).sum

def rank (v : List Int) (i : Nat) : Option Int := if i < v.length then some (pre v (i + 1)) else none

def range (v : List Int) (i j : Nat) : Int := ((v.drop (i + 1)).take (j - i)).sum

def update (v : List Int) (i : Nat) (x : Int) : List Int := v.set i (v.getD i 0 + x)

def IsSelect (v : List Int) (x : Int) (r : Option Nat) : Prop :=
  match r with
  | none => ∀ i, i < v.length → x < pre v (i + 1)
  | some i => i < v.length ∧ pre v (i + 1) ≤ x ∧ ∀ i', i' < v.length → pre v (i' + 1) ≤ x → i' ≤ i

def isSelectB (v : List Int) (x : Int) (r : Option Nat) : Bool :=
  match r with
  | none => (List.range v.length).all fun i => decide (x < pre v (i + 1))
  | some i => decide (i < v.length) && decide (pre v (i + 1) ≤ x) &&
      (List.range v.length).all fun i' => !decide (pre v (i' + 1) ≤ x) || decide (i' ≤ i)

theorem isSelectB_iff (v : List Int) (x : Int) (r : Option Nat) : isSelectB v x r = true ↔ IsSelect v x r := by
  cases r with
  | none => simp [isSelectB, IsSelect]
  | some i =>
    simp only [isSelectB, IsSelect, Bool.and_eq_true, decide_eq_true_eq, List.all_eq_true, List.mem_range,
      Bool.or_eq_true, Bool.not_eq_eq_eq_not, Bool.not_true, decide_eq_false_iff_not]
    constructor
    · rintro ⟨⟨h1, h2⟩, h3⟩
      refine ⟨h1, h2, ?_⟩
      intro i' hi' hp
      rcases h3 i' hi' with h | h
      · exact absurd hp h
      · exact h
    · rintro ⟨h1, h2, h3⟩
      refine ⟨⟨h1, h2⟩, ?_⟩
      intro i' hi'
      by_cases hp : pre v (i' + 1) ≤ x
      · right; exact h3 i' hi' hp
      · left; exact hp

end Tbx.PrefixSum
