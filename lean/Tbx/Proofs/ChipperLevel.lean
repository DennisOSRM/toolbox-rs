import Tbx.Proofs.ChipperJob
import Tbx.Proofs.HierarchyCheck
/-
One level of chipper and the level loop.  A level is read through the indexed queue `Q.zipIdx idx` (the model searches
job number `k` as `best lvl (idx + k) job`): on a queue of well-formed, pairwise disjoint jobs (`QueueOK`) it changes the
id of a node by the `jobId` of the one job that holds it and leaves the queue `stepNext`, the kids of all jobs, again
`QueueOK`; so the invariant holds of every queue of a run (C06 `jobs_disjoint`), and two `best` functions that agree on
well-formed jobs give the same run (C06 `par_eq_seq`).
-/
namespace Tbx.Chipper
open Tbx Tbx.Gen Tbx.InertialFlow

def BestOK (n : Nat) (best : Nat → Nat → Job → Best) : Prop :=
  ∀ lvl idx job res, JobOK n job → best lvl idx job = .some res → ResOK job res

def kids (cfg : Cfg) (job : Job) : Best → List Job
  | .some res => children cfg job res
  | _ => []

def jobId (cfg : Cfg) (lvl : Nat) : Best → Nat → Nat → Nat
  | .some res, x, old => newId cfg lvl res x old
  | _, _, old => old

def stepNext (cfg : Cfg) (best : Nat → Nat → Job → Best) (lvl idx : Nat) (Q : List Job) : List Job :=
  (Q.zipIdx idx).flatMap fun p => kids cfg p.1 (best lvl p.2 p.1)

structure QueueOK (n : Nat) (Q : List Job) : Prop where
  jobs : ∀ job ∈ Q, JobOK n job
  disj : Q.Pairwise Disj

theorem QueueOK.tail {n : Nat} {job : Job} {Q : List Job} (h : QueueOK n (job :: Q)) : QueueOK n Q :=
  ⟨fun j hj => h.jobs j (List.mem_cons_of_mem _ hj), (List.pairwise_cons.mp h.disj).2⟩

theorem kids_ok {n : Nat} {cfg : Cfg} {job : Job} {b : Best} (hm : 1 ≤ cfg.m) (hjob : JobOK n job)
    (hres : ∀ res, b = .some res → ResOK job res) :
    (∀ c ∈ kids cfg job b, JobOK n c ∧ ∀ x ∈ c.ids, x ∈ job.ids) ∧ (kids cfg job b).Pairwise Disj := by
  cases b with
  | some res => exact ⟨children_ok hm hjob (hres res rfl), children_disj (hres res rfl)⟩
  | none => exact ⟨fun _ h => absurd h List.not_mem_nil, List.Pairwise.nil⟩
  | panic => exact ⟨fun _ h => absurd h List.not_mem_nil, List.Pairwise.nil⟩

theorem jobId_of_not_mem {cfg : Cfg} {lvl : Nat} {b : Best} {job : Job} {x : Nat} (old : Nat)
    (hres : ∀ res, b = .some res → ResOK job res) (hx : x ∉ job.ids) : jobId cfg lvl b x old = old := by
  cases b with
  | some res => exact newId_of_not_mem _ _ _ _ _ fun h => hx ((hres res rfl).sub x h)
  | _ => rfl

theorem levelStep_spec (cfg : Cfg) (best : Nat → Nat → Job → Best) (lvl n : Nat) (hbest : BestOK n best) :
    ∀ (Q : List Job) (idx : Nat) (pid : Array Nat) (out : Array Nat × List Job),
      pid.size = n → QueueOK n Q →
      levelStep cfg best lvl idx pid Q = some out →
      out.1.size = n ∧ out.2 = stepNext cfg best lvl idx Q ∧
        (∀ p ∈ Q.zipIdx idx, ∀ x ∈ p.1.ids, gt out.1 x = jobId cfg lvl (best lvl p.2 p.1) x (gt pid x)) ∧
        (∀ x, (∀ job ∈ Q, x ∉ job.ids) → gt out.1 x = gt pid x) := by
  intro Q
  induction Q with
  | nil =>
    intro idx pid out hsz _ h
    cases h
    exact ⟨hsz, rfl, fun _ h => absurd h List.not_mem_nil, fun _ _ => rfl⟩
  | cons job rest ih =>
    intro idx pid out hsz hQ h
    have hjob := hQ.jobs job List.mem_cons_self
    have hhead := (List.pairwise_cons.mp hQ.disj).1
    have hres := fun res => hbest lvl idx job res hjob
    -- the ids after this job, whatever its outcome
    obtain ⟨pid', hsz', hid', h'⟩ : ∃ pid', pid'.size = n ∧
        (∀ x, gt pid' x = jobId cfg lvl (best lvl idx job) x (gt pid x)) ∧
        (levelStep cfg best lvl (idx + 1) pid' rest).map
          (fun q => (q.1, kids cfg job (best lvl idx job) ++ q.2)) = some out := by
      unfold levelStep at h
      cases hb : best lvl idx job with
      | panic => rw [hb] at h; cases h
      | none =>
        rw [hb] at h
        exact ⟨pid, hsz, fun _ => rfl, (congrArg (Option.map _) h).trans rfl⟩
      | some res =>
        rw [hb] at h
        simp only [] at h
        obtain ⟨hs, hid, hch⟩ := processJob_spec cfg lvl pid job res (hres res hb) fun x hx => by
          rw [hsz]; exact hjob.lt x ((hres res hb).sub x hx)
        refine ⟨_, hs.trans hsz, hid, ?_⟩
        show Option.map (fun q : Array Nat × List Job => (q.1, children cfg job res ++ q.2)) _ = _
        rw [← hch]
        cases hq : levelStep cfg best lvl (idx + 1) (processJob cfg lvl pid job res).1 rest with
        | none => rw [hq] at h; cases h
        | some q => rw [hq] at h; exact h
    obtain ⟨q, hq, rfl⟩ := Option.map_eq_some_iff.mp h'
    obtain ⟨i1, i2, i3, i4⟩ := ih (idx + 1) pid' q hsz' hQ.tail hq
    refine ⟨i1, by rw [i2]; rfl, ?_, ?_⟩
    · intro p hp x hx
      rcases List.mem_cons.mp hp with rfl | hp
      · rw [i4 x fun j hj => hhead j hj x hx, hid' x]
      · rw [i3 p hp x hx, hid' x,
          jobId_of_not_mem _ (hres ·) fun h => hhead p.1 (List.fst_mem_of_mem_zipIdx hp) x h hx]
    · intro x hx
      rw [i4 x fun j hj => hx j (List.mem_cons_of_mem _ hj), hid' x,
        jobId_of_not_mem _ (hres ·) (hx job List.mem_cons_self)]

theorem stepNext_queueOK (cfg : Cfg) (best : Nat → Nat → Job → Best) (lvl n : Nat) (hm : 1 ≤ cfg.m)
    (hbest : BestOK n best) (Q : List Job) (idx : Nat) (hQ : QueueOK n Q) :
    QueueOK n (stepNext cfg best lvl idx Q) := by
  have hk := fun p (hp : p ∈ Q.zipIdx idx) =>
    have hj := hQ.jobs _ (List.fst_mem_of_mem_zipIdx hp)
    kids_ok hm hj (hbest lvl p.2 p.1 · hj)
  constructor
  · intro c hc
    obtain ⟨p, hp, hc⟩ := List.mem_flatMap.mp hc
    exact ((hk p hp).1 c hc).1
  · refine List.pairwise_flatMap.mpr ⟨fun p hp => (hk p hp).2, ?_⟩
    have hd := hQ.disj
    rw [← List.zipIdx_map_fst idx Q, List.pairwise_map] at hd
    -- kids of disjoint jobs are disjoint: their nodes are nodes of the jobs
    exact hd.imp_of_mem fun hp hq hpq a ha b hb x hxa hxb =>
      hpq x (((hk _ hp).1 a ha).2 x hxa) (((hk _ hq).1 b hb).2 x hxb)

theorem levels_of_isEmpty (cfg : Cfg) (best : Nat → Nat → Job → Best) (fuel lvl : Nat) (pid : Array Nat)
    {Q : List Job} (he : Q.isEmpty) : levels cfg best fuel lvl pid Q = some (pid, []) := by
  cases fuel with
  | zero => rfl
  | succ fuel => exact if_pos he

theorem levels_succ (cfg : Cfg) (best : Nat → Nat → Job → Best) (n : Nat) (hm : 1 ≤ cfg.m) (hbest : BestOK n best)
    {fuel lvl : Nat} {pid : Array Nat} {Q : List Job} {out : Array Nat × List (List Job)}
    (hsz : pid.size = n) (hQ : QueueOK n Q) (hne : ¬ Q.isEmpty)
    (h : levels cfg best (fuel + 1) lvl pid Q = some out) :
    ∃ (p : Array Nat × List Job) (q : Array Nat × List (List Job)),
      p.1.size = n ∧ p.2 = stepNext cfg best lvl 0 Q ∧
      (∀ j ∈ Q.zipIdx, ∀ x ∈ j.1.ids, gt p.1 x = jobId cfg lvl (best lvl j.2 j.1) x (gt pid x)) ∧
      (∀ x, (∀ job ∈ Q, x ∉ job.ids) → gt p.1 x = gt pid x) ∧
      QueueOK n p.2 ∧
      levels cfg best fuel (lvl + 1) p.1 p.2 = some q ∧ out = (q.1, Q :: q.2) := by
  rw [levels, if_neg hne] at h
  cases hp : levelStep cfg best lvl 0 pid Q with
  | none => rw [hp] at h; cases h
  | some p =>
    obtain ⟨s1, s2, s3, s4⟩ := levelStep_spec cfg best lvl n hbest Q 0 pid p hsz hQ hp
    rw [hp] at h
    cases hq : levels cfg best fuel (lvl + 1) p.1 p.2 with
    | none => simp only [hq] at h; cases h
    | some q =>
      simp only [hq] at h
      exact ⟨p, q, s1, s2, s3, s4, s2 ▸ stepNext_queueOK cfg best lvl n hm hbest Q 0 hQ, hq, (Option.some.inj h).symm⟩

theorem levels_trace_ok (cfg : Cfg) (best : Nat → Nat → Job → Best) (n : Nat) (hm : 1 ≤ cfg.m)
    (hbest : BestOK n best) :
    ∀ (fuel lvl : Nat) (pid : Array Nat) (Q : List Job) (out : Array Nat × List (List Job)),
      pid.size = n → QueueOK n Q → levels cfg best fuel lvl pid Q = some out → ∀ q ∈ out.2, QueueOK n q := by
  intro fuel
  induction fuel with
  | zero =>
    intro lvl pid Q out _ _ h
    cases h
    exact fun q hq => by cases hq
  | succ fuel ih =>
    intro lvl pid Q out hsz hQ h
    by_cases he : Q.isEmpty
    · rw [levels_of_isEmpty cfg best _ lvl pid he] at h
      cases h
      exact fun q hq => by cases hq
    · obtain ⟨p, q, s1, _, _, _, hQ', hq, rfl⟩ := levels_succ cfg best n hm hbest hsz hQ he h
      intro q' hq'
      rcases List.mem_cons.mp hq' with rfl | hq'
      · exact hQ
      · exact ih (lvl + 1) p.1 p.2 q s1 hQ' hq q' hq'

theorem levelStep_congr (cfg : Cfg) (b1 b2 : Nat → Nat → Job → Best) (lvl n : Nat)
    (heq : ∀ lvl idx job, JobOK n job → b1 lvl idx job = b2 lvl idx job) :
    ∀ (Q : List Job) (idx : Nat) (pid : Array Nat), (∀ job ∈ Q, JobOK n job) →
      levelStep cfg b1 lvl idx pid Q = levelStep cfg b2 lvl idx pid Q := by
  intro Q
  induction Q with
  | nil => intro idx pid _; rfl
  | cons job rest ih =>
    intro idx pid hjobs
    have hjob := hjobs job List.mem_cons_self
    have hrest : ∀ j ∈ rest, JobOK n j := fun j hj => hjobs j (List.mem_cons_of_mem _ hj)
    unfold levelStep
    rw [heq lvl idx job hjob]
    cases best2 : b2 lvl idx job with
    | panic => rfl
    | none => simp only []; exact ih (idx + 1) pid hrest
    | some res => simp only []; rw [ih (idx + 1) _ hrest]

theorem levels_congr (cfg : Cfg) (b1 b2 : Nat → Nat → Job → Best) (n : Nat) (hm : 1 ≤ cfg.m)
    (hbest : BestOK n b2)
    (heq : ∀ lvl idx job, JobOK n job → b1 lvl idx job = b2 lvl idx job) :
    ∀ (fuel lvl : Nat) (pid : Array Nat) (Q : List Job), pid.size = n → QueueOK n Q →
      levels cfg b1 fuel lvl pid Q = levels cfg b2 fuel lvl pid Q := by
  intro fuel
  induction fuel with
  | zero => intro lvl pid Q _ _; rfl
  | succ fuel ih =>
    intro lvl pid Q hsz hQ
    unfold levels
    by_cases he : Q.isEmpty
    · rw [if_pos he, if_pos he]
    · rw [if_neg he, if_neg he, levelStep_congr cfg b1 b2 lvl n heq Q 0 pid hQ.jobs]
      cases hp : levelStep cfg b2 lvl 0 pid Q with
      | none => rfl
      | some p =>
        simp only []
        obtain ⟨s1, s2, _⟩ := levelStep_spec cfg b2 lvl n hbest Q 0 pid p hsz hQ hp
        have hQ' : QueueOK n p.2 := by
          rw [s2]; exact stepNext_queueOK cfg b2 lvl n hm hbest Q 0 hQ
        rw [ih (lvl + 1) p.1 p.2 s1 hQ']

theorem root_queueOK (edges : List Edge) (n : Nat) (hn : 2 ≤ n) (hsrc : ∀ e ∈ edges, e.1 < n)
    (hsmall : 2 * edges.length + 6 < Tbx.Flow.INV) :
    QueueOK n [{ edges := edges, ids := List.range n }] where
  jobs := by
    intro job hj
    simp only [List.mem_singleton] at hj
    subst hj
    exact ⟨List.nodup_range, fun x hx => List.mem_range.mp hx, by simpa using hn,
      fun e he => List.mem_range.mpr (hsrc e he), hsmall⟩
  disj := by simp

theorem queue_disjointAll {Q : List Job} (h : Q.Pairwise Disj) :
    Tbx.Hierarchy.disjointAll (Q.map (·.ids)) = true := by
  rw [Tbx.Hierarchy.disjointAll_iff, List.pairwise_map]
  exact h

end Tbx.Chipper
