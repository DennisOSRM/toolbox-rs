import Tbx.Proofs.DijkstraReuse
import Tbx.Proofs.CellRenumber
/-
Index arithmetic of src/cell.rs; of the searches it uses only that `run` does not depend on the state
of the object and leaves it `WFq` (`o2mRun_reuse`, `o2mRun_wf`).  The loops that fill the matrix write
consecutive cells: `Written mx mx' off vals` says that `mx'` is `mx` with the cells from `off` on
overwritten by `vals`, and writes compose by `Written.append`.  A row loop writes one value per
target, `processLoop` one row per source, so its values are a `flatMap` whose entry `i·|out| + j`
is read off by `getElem?_flatMap_map`.  Each loop has one lemma (`fillRow_run`, `zeroRow_run`,
`processLoop_run`): within the bounds of the matrix it returns, and what it returns is `Written`.
-/
namespace Tbx.Dijkstra
open Tbx Tbx.AHeap

/-- `mx'` is `mx` with cell `off + j` overwritten by `vals[j]` of its old content, for every `j` -/
structure Written (mx mx' : Array Int) (off : Nat) (vals : List (Int → Int)) : Prop where
  size : mx'.size = mx.size
  cell : ∀ j f, vals[j]? = some f → gt mx' (off + j) = f (gt mx (off + j))
  frame : ∀ k, (k < off ∨ off + vals.length ≤ k) → gt mx' k = gt mx k

theorem Written.nil (mx : Array Int) (off : Nat) : Written mx mx off [] :=
  ⟨rfl, fun j f h => by simp at h, fun _ _ => rfl⟩

theorem Written.keep (mx : Array Int) (off : Nat) : Written mx mx off [id] :=
  ⟨rfl, fun j f h => by
    obtain rfl : j = 0 := by simpa using (List.getElem_of_getElem? h).1
    obtain rfl : id = f := by simpa using h
    rfl, fun _ _ => rfl⟩

theorem Written.st (mx : Array Int) {off : Nat} (h : off < mx.size) (v : Int) :
    Written mx (st mx off v) off [fun _ => v] :=
  ⟨size_st _ _ _, fun j f hj => by
    obtain rfl : j = 0 := by simpa using (List.getElem_of_getElem? hj).1
    obtain rfl : (fun _ => v) = f := by simpa using hj
    exact gt_st_eq _ _ _ h, fun k hk => gt_st_ne _ _ _ _ (by simp at hk; omega)⟩

theorem Written.append {mx mx1 mx' : Array Int} {off : Nat} {v1 v2 : List (Int → Int)}
    (h1 : Written mx mx1 off v1) (h2 : Written mx1 mx' (off + v1.length) v2) : Written mx mx' off (v1 ++ v2) := by
  refine ⟨h2.size.trans h1.size, fun j f hj => ?_, fun k hk => ?_⟩
  · by_cases hlt : j < v1.length
    · rw [List.getElem?_append_left hlt] at hj
      rw [h2.frame _ (Or.inl (by omega)), h1.cell j f hj]
    · rw [List.getElem?_append_right (by omega)] at hj
      have := h2.cell _ f hj
      rw [show off + v1.length + (j - v1.length) = off + j by omega] at this
      rw [this, h1.frame _ (Or.inr (by omega))]
  · rw [List.length_append] at hk
    rw [h2.frame k (by omega), h1.frame k (by omega)]

theorem fillRow_run (dist : Nat → Int) (row : Nat) (ts : List Nat) (ti : Nat) (mx : Array Int)
    (h : row + ti + ts.length ≤ mx.size) :
    ∃ mx', fillRow dist row ti ts mx = some mx' ∧ Written mx mx' (row + ti) (ts.map fun t _ => dist t) := by
  induction ts generalizing ti mx with
  | nil => exact ⟨mx, rfl, .nil mx _⟩
  | cons t ts ih =>
    rw [List.length_cons] at h
    have hlt : row + ti < mx.size := by omega
    obtain ⟨mx', e, W⟩ := ih (ti + 1) (st mx (row + ti) (dist t)) (by rw [size_st]; omega)
    exact ⟨mx', by simp only [fillRow, if_pos hlt, e], (Written.st mx hlt _).append W⟩

theorem zeroRow_run (source row : Nat) (ts : List Nat) (ti : Nat) (mx : Array Int)
    (h : row + ti + ts.length ≤ mx.size) :
    ∃ mx', zeroRow source row ti ts mx = some mx' ∧
      Written mx mx' (row + ti) (ts.map fun t old => if t = source then 0 else old) := by
  induction ts generalizing ti mx with
  | nil => exact ⟨mx, rfl, .nil mx _⟩
  | cons t ts ih =>
    rw [List.length_cons] at h
    have hlt : row + ti < mx.size := by omega
    by_cases hts : t = source
    · obtain ⟨mx', e, W⟩ := ih (ti + 1) (st mx (row + ti) 0) (by rw [size_st]; omega)
      refine ⟨mx', by simp only [zeroRow, hts, beq_self_eq_true, if_true, if_pos hlt, e], ?_⟩
      simp only [List.map_cons, if_pos hts]
      exact (Written.st mx hlt 0).append W
    · obtain ⟨mx', e, W⟩ := ih (ti + 1) mx (by omega)
      refine ⟨mx', by simp only [zeroRow, beq_iff_eq, hts, if_false, e], ?_⟩
      simp only [List.map_cons, if_neg hts]
      exact (Written.keep mx _).append W

/-- what `process` leaves in the matrix cell of (source id, target id); `old` = previous content -/
def cellEntry (adj : Adj) (nn : Nat) (ee : Bool) (targetIds : List Nat) (source target : Nat) (old : Int) : Int :=
  if ee || decide (source ≥ nn) then (if target = source then 0 else old)
  else
    match o2mRun adj nn O2M.new source targetIds with
    | .ok (st, _) => st.distance target
    | _ => old

theorem getElem?_flatMap_map {α β γ : Type} (f : α → β → γ) (ts : List β) {j : Nat} {b : β} (hj : ts[j]? = some b)
    (l : List α) {i : Nat} {a : α} (hi : l[i]? = some a) :
    (l.flatMap fun a => ts.map (f a))[i * ts.length + j]? = some (f a b) := by
  have hjl := (List.getElem_of_getElem? hj).1
  induction l generalizing i with
  | nil => simp at hi
  | cons x l ih =>
    rw [List.flatMap_cons]
    cases i with
    | zero =>
      obtain rfl : x = a := by simpa using hi
      rw [Nat.zero_mul, Nat.zero_add, List.getElem?_append_left (by simpa using hjl), List.getElem?_map, hj]; rfl
    | succ i =>
      rw [List.getElem?_cons_succ] at hi
      rw [List.getElem?_append_right (by rw [List.length_map, Nat.succ_mul]; omega), List.length_map,
        show (i + 1) * ts.length + j - ts.length = i * ts.length + j by rw [Nat.succ_mul]; omega]
      exact ih hi

theorem processLoop_run (adj : Adj) (nn : Nat) (ee : Bool) (targetIds : List Nat) (nOut : Nat)
    (hlen : targetIds.length = nOut) (srcs : List Nat) (si : Nat) (st : O2M) (hw : WFq st.queue)
    (mx : Array Int) (hsz : (si + srcs.length) * nOut ≤ mx.size) :
    (∀ st' mx', processLoop adj nn ee targetIds nOut si srcs st mx = .ok (st', mx') →
      Written mx mx' (si * nOut) (srcs.flatMap fun s => targetIds.map (cellEntry adj nn ee targetIds s))) ∧
    ((∀ s ∈ srcs, (ee || decide (s ≥ nn)) = false → ∃ p, o2mRun adj nn O2M.new s targetIds = .ok p) →
      ∃ p, processLoop adj nn ee targetIds nOut si srcs st mx = .ok p) := by
  induction srcs generalizing si st mx with
  | nil =>
    refine ⟨fun st' mx' h => ?_, fun _ => ⟨_, rfl⟩⟩
    obtain ⟨_, rfl⟩ : st = st' ∧ mx = mx' := by simpa [processLoop] using h
    exact .nil mx _
  | cons source rest ih =>
    rw [List.length_cons] at hsz
    have hrow : si * nOut + 0 + targetIds.length ≤ mx.size := by
      have := Nat.mul_le_mul_right nOut (show si + 1 ≤ si + (rest.length + 1) by omega)
      rw [Nat.succ_mul] at this; omega
    -- after the row `W1` of `source` the loop goes on with `rest` on the next row
    have next := fun st1 hw1 mx1 (W1 : Written mx mx1 (si * nOut + 0) (targetIds.map (cellEntry adj nn ee targetIds source))) =>
      (ih (si + 1) st1 hw1 mx1 (by rw [W1.size, show si + 1 + rest.length = si + (rest.length + 1) by omega]; exact hsz)).imp
        (fun a st' mx' h => W1.append (by rw [List.length_map, hlen, Nat.add_zero, ← Nat.succ_mul]; exact a st' mx' h))
        (fun b (hr : ∀ s ∈ source :: rest, _) => b fun s hs => hr s (List.mem_cons_of_mem _ hs))
    -- the loop body is read off by `if_pos` / `if_neg`: the equation lemmas of `processLoop` are slow to generate
    by_cases hcond : (ee || decide (source ≥ nn)) = true
    · obtain ⟨mx1, hz, W⟩ := zeroRow_run source (si * nOut) targetIds 0 mx hrow
      rw [show processLoop adj nn ee targetIds nOut si (source :: rest) st mx = _ from if_pos hcond, hz]
      have : cellEntry adj nn ee targetIds source = fun t old => if t = source then 0 else old := by
        funext t old; unfold cellEntry; rw [if_pos hcond]
      exact next st hw mx1 (this ▸ W)
    · rw [show processLoop adj nn ee targetIds nOut si (source :: rest) st mx = _ from if_neg hcond,
        o2mRun_reuse adj nn st source targetIds hw]
      cases hrun : o2mRun adj nn O2M.new source targetIds with
      | ok p =>
        obtain ⟨mx1, hf, W⟩ := fillRow_run (fun t => p.1.distance t) (si * nOut) targetIds 0 mx hrow
        have : cellEntry adj nn ee targetIds source = fun t _ => p.1.distance t := by
          funext t old; unfold cellEntry; rw [if_neg hcond, hrun]
        simp only [hf]
        exact next p.1 (o2mRun_wf adj nn O2M.new p.1 source targetIds p.2 hrun WFq_new_o2m) mx1 (this ▸ W)
      | _ => exact ⟨nofun, fun hr => by
          obtain ⟨p, hp⟩ := hr source List.mem_cons_self (by simpa using hcond); rw [hrun] at hp; cases hp⟩

theorem indexOf?_eq (l : List Nat) (u : Nat) : indexOf? l u = l.findIdx? (· == u) := by
  induction l with
  | nil => rfl
  | cons x xs ih => simp only [indexOf?, List.findIdx?_cons, ih, beq_iff_eq]

theorem indexOf?_spec (l : List Nat) (u i : Nat) (h : indexOf? l u = some i) :
    l[i]? = some u ∧ ∀ k, k < i → l[k]? ≠ some u := by
  rw [indexOf?_eq, List.findIdx?_eq_some_iff_getElem] at h
  obtain ⟨hi, h1, h2⟩ := h
  simp only [beq_iff_eq] at h1 h2
  refine ⟨by rw [List.getElem?_eq_getElem hi, h1], fun k hk => ?_⟩
  rw [List.getElem?_eq_getElem (by omega)]
  exact fun e => h2 k hk (Option.some.inj e)

theorem distanceRow_spec (c : MatrixCell) (u : Nat) (row : Array Int) (h : distanceRow c u = some row) :
    ∃ i, c.incoming[i]? = some u ∧ (∀ k, k < i → c.incoming[k]? ≠ some u) ∧
      row = c.matrix.extract (i * c.outgoing.length) ((i + 1) * c.outgoing.length) ∧
      row.size = c.outgoing.length ∧
      ∀ j, j < c.outgoing.length →
        i * c.outgoing.length + j < c.matrix.size ∧ gt row j = gt c.matrix (i * c.outgoing.length + j) := by
  unfold distanceRow at h
  split at h
  · cases h
  · rename_i i hi
    simp only at h
    split at h
    · rename_i hsz
      cases h
      obtain ⟨a, b⟩ := indexOf?_spec _ _ _ hi
      refine ⟨i, a, b, rfl, ?_, ?_⟩
      · rw [Array.size_extract, Nat.min_eq_left hsz, Nat.succ_mul]; omega
      · intro j hj
        have : i * c.outgoing.length + j < (i + 1) * c.outgoing.length := by rw [Nat.succ_mul]; omega
        exact ⟨by omega, gt_extract _ _ _ _ hsz this⟩
    · cases h

/-- entry (i, j) of the overlay: present iff the matrix cell is finite -/
def overlayEntry (c : MatrixCell) (i j : Nat) : Option (Nat × Nat × Int) :=
  if gt c.matrix (i * c.outgoing.length + j) != UMAX then
    match c.incoming[i]?, c.outgoing[j]? with
    | some s, some t => some (s, t, gt c.matrix (i * c.outgoing.length + j))
    | _, _ => none
  else none

theorem overlayInner_spec (c : MatrixCell) (i source : Nat) (hs : c.incoming[i]? = some source) (js : List Nat)
    (acc acc' : Array (Nat × Nat × Int)) (h : overlayInner c i source js acc = some acc') :
    acc'.toList = acc.toList ++ js.filterMap (overlayEntry c i) := by
  induction js generalizing acc with
  | nil => simp only [overlayInner, Option.some.injEq] at h; subst h; simp
  | cons j js ih =>
    simp only [overlayInner] at h
    split at h
    · split at h
      · rename_i hne
        split at h
        · cases h
        · rename_i target ht
          rw [ih _ h, Array.toList_push, List.filterMap_cons]
          have : overlayEntry c i j = some (source, target, gt c.matrix (i * c.outgoing.length + j)) := by
            unfold overlayEntry; rw [if_pos hne, hs, ht]
          rw [this]; simp
      · rename_i hne
        rw [ih _ h, List.filterMap_cons]
        have : overlayEntry c i j = none := by unfold overlayEntry; rw [if_neg hne]
        rw [this]
    · cases h

theorem overlayOuter_spec (c : MatrixCell) (is : List Nat) (acc acc' : Array (Nat × Nat × Int))
    (h : overlayOuter c is acc = some acc') :
    acc'.toList = acc.toList ++ is.flatMap (fun i => (List.range c.outgoing.length).filterMap (overlayEntry c i)) := by
  induction is generalizing acc with
  | nil => simp only [overlayOuter, Option.some.injEq] at h; subst h; simp
  | cons i is ih =>
    simp only [overlayOuter] at h
    split at h
    · cases h
    · rename_i source hs
      split at h
      · cases h
      · rename_i acc1 hi
        rw [ih _ h, overlayInner_spec c i source hs _ _ _ hi, List.flatMap_cons, List.append_assoc]

theorem overlayEdges_spec (c : MatrixCell) (r : Array (Nat × Nat × Int)) (h : overlayEdges c = some r) :
    r.toList = (List.range c.incoming.length).flatMap
      (fun i => (List.range c.outgoing.length).filterMap (overlayEntry c i)) := by
  unfold overlayEdges at h
  have := overlayOuter_spec c _ _ _ h
  simpa using this

theorem loop_entries {adj : Adj} {nn : Nat} {ee : Bool} {sourceIds targetIds : List Nat} {nIn nOut : Nat}
    (ls : sourceIds.length = nIn) (lt : targetIds.length = nOut) {st' : O2M} {mx : Array Int}
    (hl : processLoop adj nn ee targetIds nOut 0 sourceIds O2M.new (Array.replicate (nIn * nOut) UMAX) = .ok (st', mx)) :
    mx.size = nIn * nOut ∧
    ∀ (i j source target : Nat), sourceIds[i]? = some source → targetIds[j]? = some target →
      i * nOut + j < mx.size ∧ gt mx (i * nOut + j) = cellEntry adj nn ee targetIds source target UMAX := by
  have W := (processLoop_run adj nn ee targetIds nOut lt sourceIds 0 O2M.new WFq_new_o2m _ (by simp [ls])).1 _ _ hl
  have hsz : mx.size = nIn * nOut := by rw [W.size]; simp
  refine ⟨hsz, fun i j source target hi hj => ?_⟩
  have hidx := idx_lt (ls ▸ (List.getElem_of_getElem? hi).1) (lt ▸ (List.getElem_of_getElem? hj).1)
  have := W.cell _ _ (getElem?_flatMap_map _ targetIds hj sourceIds hi)
  rw [Nat.zero_mul, Nat.zero_add, lt, gt_replicate _ _ _ hidx] at this
  exact ⟨hsz ▸ hidx, this⟩

theorem process_matrix (c : BaseCell) (mc : MatrixCell) (h : process c = .ok mc) :
    mc.incoming = c.incoming ∧ mc.outgoing = c.outgoing ∧
    mc.matrix.size = c.incoming.length * c.outgoing.length ∧
    ∃ newEdges seenF sourceIds targetIds,
      renumber c.edges (c.outgoing.foldl orInsert (c.incoming.foldl orInsert [])) = some (newEdges, seenF) ∧
      lookupAll seenF c.incoming = some sourceIds ∧ lookupAll seenF c.outgoing = some targetIds ∧
      ∀ (i j source target : Nat), sourceIds[i]? = some source → targetIds[j]? = some target →
        i * c.outgoing.length + j < mc.matrix.size ∧
        gt mc.matrix (i * c.outgoing.length + j) =
          cellEntry (staticAdj newEdges) (staticNodes newEdges) c.edges.isEmpty targetIds source target UMAX := by
  unfold process at h
  simp only at h
  split at h
  · cases h
  · rename_i newEdges seenF hren
    split at h
    · rename_i sourceIds targetIds hs ht
      split at h
      · cases h
      · cases h
      · rename_i st' mx hl
        cases h
        obtain ⟨_, rfl⟩ := (lookupAll_eq_some_iff _ _ _).mp hs
        obtain ⟨_, rfl⟩ := (lookupAll_eq_some_iff _ _ _).mp ht
        obtain ⟨a, b⟩ := loop_entries (List.length_map _) (List.length_map _) hl
        exact ⟨rfl, rfl, a, newEdges, seenF, _, _, hren, hs, ht, b⟩
    · cases h

end Tbx.Dijkstra
