import Mathlib.Algebra.BigOperators.Group.Finset.Basic
import Mathlib.Algebra.Order.BigOperators.Group.Finset
import Mathlib.Algebra.BigOperators.Fin
import Mathlib.Data.Fintype.BigOperators
import Mathlib.Tactic.Ring
import Mathlib.Tactic.Linarith
import Tbx.Spec.Flow
/-
Max-flow/min-cut theory for C01 / C02 over `Fin n → Fin n → ℤ` (DESIGN.md Appendix A.1), in the direction a
checker needs: a residual function `r` with `ResInv c r` and conservation, together with a separating set that no
positive entry of `r` leaves, certifies its value as the maximum (`closed_certificate`); if every member of the set is
reachable through positive entries, the set is the minimum cut inside every minimum cut (`CanonCut`, `canon_cut`).
From `cF` on: the bridge from the executable list-sum checkers of Spec/Flow.lean to these Finset sums.
-/
open Finset
namespace Tbx.FlowTheory
variable {n : Nat}

structure IsFlow (c : Fin n → Fin n → ℤ) (s t : Fin n) (f : Fin n → Fin n → ℤ) : Prop where
  anti : ∀ u v, f u v = - f v u
  cap  : ∀ u v, f u v ≤ c u v
  cons : ∀ u, u ≠ s → u ≠ t → ∑ v, f u v = 0

def value (f : Fin n → Fin n → ℤ) (s : Fin n) : ℤ := ∑ v, f s v
def cutCap (c : Fin n → Fin n → ℤ) (S : Finset (Fin n)) : ℤ := ∑ u ∈ S, ∑ v ∈ Sᶜ, c u v
def cutFlow (f : Fin n → Fin n → ℤ) (S : Finset (Fin n)) : ℤ := ∑ u ∈ S, ∑ v ∈ Sᶜ, f u v

def IsMaxFlowValue (c : Fin n → Fin n → ℤ) (s t : Fin n) (x : ℤ) : Prop :=
  (∃ f, IsFlow c s t f ∧ value f s = x) ∧ ∀ f', IsFlow c s t f' → value f' s ≤ x

theorem antisymm_sum_zero (f : Fin n → Fin n → ℤ) (h : ∀ u v, f u v = - f v u) (S : Finset (Fin n)) :
    ∑ u ∈ S, ∑ v ∈ S, f u v = 0 := by
  have h1 : ∑ u ∈ S, ∑ v ∈ S, f u v = ∑ u ∈ S, ∑ v ∈ S, f v u := Finset.sum_comm
  have h2 : ∑ u ∈ S, ∑ v ∈ S, f v u = - ∑ u ∈ S, ∑ v ∈ S, f u v := by
    rw [← Finset.sum_neg_distrib]; apply Finset.sum_congr rfl; intro u _
    rw [← Finset.sum_neg_distrib]; apply Finset.sum_congr rfl; intro v _
    rw [h v u]
  omega

theorem value_eq_cutFlow {c : Fin n → Fin n → ℤ} {s t : Fin n} {f} (hf : IsFlow c s t f)
    (S : Finset (Fin n)) (hs : s ∈ S) (ht : t ∉ S) : value f s = cutFlow f S := by
  have h1 : ∑ u ∈ S, ∑ v, f u v = value f s := by
    rw [Finset.sum_eq_single_of_mem s hs]
    · rfl
    · intro u hu hne
      exact hf.cons u hne (fun h => ht (h ▸ hu))
  have h2 : ∀ u, ∑ v, f u v = ∑ v ∈ S, f u v + ∑ v ∈ Sᶜ, f u v := by
    intro u; rw [Finset.sum_add_sum_compl]
  have h3 : ∑ u ∈ S, ∑ v, f u v = ∑ u ∈ S, ∑ v ∈ S, f u v + ∑ u ∈ S, ∑ v ∈ Sᶜ, f u v := by
    rw [← Finset.sum_add_distrib]; apply Finset.sum_congr rfl; intro u _; exact h2 u
  rw [antisymm_sum_zero f hf.anti S] at h3
  unfold cutFlow; omega

theorem weak_duality {c : Fin n → Fin n → ℤ} {s t : Fin n} {f} (hf : IsFlow c s t f)
    (S : Finset (Fin n)) (hs : s ∈ S) (ht : t ∉ S) : value f s ≤ cutCap c S := by
  rw [value_eq_cutFlow hf S hs ht]
  unfold cutFlow cutCap
  apply Finset.sum_le_sum; intro u _; apply Finset.sum_le_sum; intro v _; exact hf.cap u v

theorem certificate {c : Fin n → Fin n → ℤ} {s t : Fin n} {f} (hf : IsFlow c s t f)
    (S : Finset (Fin n)) (hs : s ∈ S) (ht : t ∉ S)
    (hsat : ∀ u ∈ S, ∀ v ∈ Sᶜ, f u v = c u v) :
    value f s = cutCap c S ∧
    (∀ f', IsFlow c s t f' → value f' s ≤ value f s) ∧
    (∀ S' : Finset (Fin n), s ∈ S' → t ∉ S' → cutCap c S ≤ cutCap c S') := by
  have hv : value f s = cutCap c S := by
    rw [value_eq_cutFlow hf S hs ht]; unfold cutFlow cutCap
    apply Finset.sum_congr rfl; intro u hu; apply Finset.sum_congr rfl; intro v hv; exact hsat u hu v hv
  refine ⟨hv, ?_, ?_⟩
  · intro f' hf'; rw [hv]; exact weak_duality hf' S hs ht
  · intro S' hs' ht'; rw [← hv]; exact weak_duality hf S' hs' ht'

theorem min_cut_saturated {c : Fin n → Fin n → ℤ} {s t : Fin n} {f} (hf : IsFlow c s t f)
    (S' : Finset (Fin n)) (hs : s ∈ S') (ht : t ∉ S') (heq : cutCap c S' = value f s) :
    ∀ u ∈ S', ∀ v ∈ S'ᶜ, f u v = c u v := by
  have hcf : cutFlow f S' = cutCap c S' := by rw [heq, value_eq_cutFlow hf S' hs ht]
  unfold cutFlow cutCap at hcf
  have hle : ∀ u ∈ S', ∑ v ∈ S'ᶜ, f u v ≤ ∑ v ∈ S'ᶜ, c u v :=
    fun u _ => Finset.sum_le_sum (fun v _ => hf.cap u v)
  have h1 := (Finset.sum_eq_sum_iff_of_le hle).mp hcf
  intro u hu v hv
  have h2 := (Finset.sum_eq_sum_iff_of_le (fun v _ => hf.cap u v)).mp (h1 u hu)
  exact h2 v hv

/-- what every solver keeps of its residual capacities `r` over the merged input capacities `c` -/
structure ResInv (c r : Fin n → Fin n → ℤ) : Prop where
  nonneg : ∀ u v, 0 ≤ r u v
  pair   : ∀ u v, r u v + r v u = c u v + c v u

def resFlow (c r : Fin n → Fin n → ℤ) : Fin n → Fin n → ℤ := fun u v => c u v - r u v

def Conserved (c r : Fin n → Fin n → ℤ) (s t : Fin n) : Prop :=
  ∀ u, u ≠ s → u ≠ t → ∑ v, resFlow c r u v = 0

theorem resFlow_isFlow {c r : Fin n → Fin n → ℤ} {s t : Fin n} (h : ResInv c r)
    (hc : Conserved c r s t) : IsFlow c s t (resFlow c r) where
  anti u v := by unfold resFlow; have := h.pair u v; omega
  cap u v := by unfold resFlow; have := h.nonneg u v; omega
  cons := hc

def Closed (r : Fin n → Fin n → ℤ) (S : Finset (Fin n)) : Prop :=
  ∀ u ∈ S, ∀ v, v ∉ S → r u v ≤ 0

inductive Reach (r : Fin n → Fin n → ℤ) (s : Fin n) : Fin n → Prop where
  | refl : Reach r s s
  | step {u v : Fin n} : Reach r s u → 0 < r u v → Reach r s v

theorem reach_subset_closed {r : Fin n → Fin n → ℤ} {s : Fin n} (S : Finset (Fin n)) (hs : s ∈ S)
    (hcl : Closed r S) {v : Fin n} (hv : Reach r s v) : v ∈ S := by
  induction hv with
  | refl => exact hs
  | @step u v _ hpos ih =>
    by_contra hn
    have := hcl u ih v hn
    omega

theorem closed_certificate {c r : Fin n → Fin n → ℤ} {s t : Fin n} (h : ResInv c r)
    (hc : Conserved c r s t) (S : Finset (Fin n)) (hs : s ∈ S) (ht : t ∉ S) (hcl : Closed r S) :
    IsMaxFlowValue c s t (value (resFlow c r) s) ∧ value (resFlow c r) s = cutCap c S ∧
    (∀ S' : Finset (Fin n), s ∈ S' → t ∉ S' → cutCap c S ≤ cutCap c S') := by
  have hf := resFlow_isFlow h hc
  have hsat : ∀ u ∈ S, ∀ v ∈ Sᶜ, resFlow c r u v = c u v := by
    intro u hu v hv
    have h1 := hcl u hu v (Finset.mem_compl.mp hv)
    have h2 := h.nonneg u v
    unfold resFlow; omega
  obtain ⟨a, b, d⟩ := certificate hf S hs ht hsat
  exact ⟨⟨⟨_, hf, rfl⟩, b⟩, a, d⟩

theorem reach_closed {r : Fin n → Fin n → ℤ} {s : Fin n} (A : Finset (Fin n))
    (hA : ∀ v, v ∈ A ↔ Reach r s v) : Closed r A := by
  intro u hu v hv
  by_contra hpos
  exact hv ((hA v).mpr (Reach.step ((hA u).mp hu) (by omega)))

structure CanonCut (c : Fin n → Fin n → ℤ) (s t : Fin n) (A : Finset (Fin n)) (x : ℤ) : Prop where
  src : s ∈ A
  tgt : t ∉ A
  val : cutCap c A = x
  min : ∀ S' : Finset (Fin n), s ∈ S' → t ∉ S' → cutCap c A ≤ cutCap c S'
  canon : ∀ S' : Finset (Fin n), s ∈ S' → t ∉ S' → cutCap c S' = x → A ⊆ S'

theorem CanonCut.unique {c : Fin n → Fin n → ℤ} {s t : Fin n} {A B : Finset (Fin n)} {x y : ℤ}
    (ha : CanonCut c s t A x) (hb : CanonCut c s t B y) : x = y ∧ A = B := by
  have hxy : x = y := Int.le_antisymm (ha.val ▸ hb.val ▸ ha.min B hb.src hb.tgt) (ha.val ▸ hb.val ▸ hb.min A ha.src ha.tgt)
  exact ⟨hxy, Finset.Subset.antisymm (ha.canon B hb.src hb.tgt (hb.val.trans hxy.symm))
    (hb.canon A ha.src ha.tgt (ha.val.trans hxy))⟩

theorem closure_minimal {c r : Fin n → Fin n → ℤ} {s t : Fin n} (h : ResInv c r)
    (hc : Conserved c r s t) (A : Finset (Fin n)) (hA : ∀ v, v ∈ A → Reach r s v)
    (S' : Finset (Fin n)) (hs : s ∈ S') (ht : t ∉ S') (heq : cutCap c S' = value (resFlow c r) s) :
    A ⊆ S' := by
  have hsat := min_cut_saturated (resFlow_isFlow h hc) S' hs ht heq
  refine fun v hv => reach_subset_closed S' hs (fun u hu w hw => ?_) (hA v hv)
  have := hsat u hu w (Finset.mem_compl.mpr hw)
  unfold resFlow at this; omega

/-- what the solvers end with (`Flow.assignment_canonical`) and what the judges' checkers accept (`minCutOK_sound`,
    `BisectionTheory.cutCertOK_sound`) are instances -/
theorem canon_cut {c r : Fin n → Fin n → ℤ} {s t : Fin n} (h : ResInv c r) (hc : Conserved c r s t)
    (A : Finset (Fin n)) (hs : s ∈ A) (ht : t ∉ A) (hcl : Closed r A) (hA : ∀ v, v ∈ A → Reach r s v) :
    IsMaxFlowValue c s t (value (resFlow c r) s) ∧ CanonCut c s t A (value (resFlow c r) s) :=
  have ⟨a, b, d⟩ := closed_certificate h hc A hs ht hcl
  ⟨a, hs, ht, b.symm, d, closure_minimal h hc A hA⟩

theorem maxFlowValue_unique {c : Fin n → Fin n → ℤ} {s t : Fin n} {x y : ℤ}
    (hx : IsMaxFlowValue c s t x) (hy : IsMaxFlowValue c s t y) : x = y := by
  obtain ⟨⟨f, hf, rfl⟩, mx⟩ := hx
  obtain ⟨⟨g, hg, rfl⟩, my⟩ := hy
  have := mx g hg; have := my f hf; omega

open Tbx.FlowSpec

def cF (es : List E) (n : Nat) : Fin n → Fin n → ℤ := fun u v => capOf es u.val v.val

def setOf (n : Nat) (inA : Nat → Bool) : Finset (Fin n) := Finset.univ.filter fun v => inA v.val = true

theorem mem_setOf (n : Nat) (inA : Nat → Bool) (v : Fin n) : v ∈ setOf n inA ↔ inA v.val = true := by
  simp only [setOf, Finset.mem_filter, Finset.mem_univ, true_and]

theorem list_range_sum (n : Nat) (g : Nat → ℤ) :
    ((List.range n).map g).sum = ∑ i ∈ Finset.range n, g i := by
  induction n with
  | zero => simp
  | succ k ih => rw [List.range_succ, List.map_append, List.sum_append, ih, Finset.sum_range_succ]; simp

theorem sumTo_eq (n : Nat) (g : Nat → ℤ) : sumTo n g = ∑ i : Fin n, g i.val := by
  unfold sumTo; rw [list_range_sum, Fin.sum_univ_eq_sum_range]

theorem allTo_iff (n : Nat) (p : Nat → Bool) : allTo n p = true ↔ ∀ i, i < n → p i = true := by
  unfold allTo; simp [List.all_eq_true, List.mem_range]

theorem capOf_cons (e : E) (es : List E) (u v : Nat) :
    capOf (e :: es) u v = (if e.1 = u ∧ e.2.1 = v then e.2.2 else 0) + capOf es u v := by
  simp only [capOf, List.map_cons, List.sum_cons]

theorem nonnegAll_cons (e : E) (es : List E) : nonnegAll (e :: es) = true ↔ 0 ≤ e.2.2 ∧ nonnegAll es = true := by
  simp only [nonnegAll, List.all_cons, Bool.and_eq_true, decide_eq_true_eq]

theorem capOf_nonneg (res : List E) (h : nonnegAll res = true) (u v : Nat) : 0 ≤ capOf res u v := by
  induction res with
  | nil => exact Int.le_refl 0
  | cons e es ih =>
    obtain ⟨h1, h2⟩ := (nonnegAll_cons e es).mp h
    have := ih h2
    rw [capOf_cons]; split <;> omega

theorem le_capOf (res : List E) (h : nonnegAll res = true) (e : E) (he : e ∈ res) :
    e.2.2 ≤ capOf res e.1 e.2.1 := by
  induction res with
  | nil => cases he
  | cons x xs ih =>
    obtain ⟨h1, h2⟩ := (nonnegAll_cons x xs).mp h
    rw [capOf_cons]
    rcases List.mem_cons.mp he with rfl | hmem
    · have := capOf_nonneg xs h2 e.1 e.2.1
      rw [if_pos ⟨rfl, rfl⟩]; omega
    · have := ih h2 hmem
      split <;> omega

theorem capOf_pos (res : List E) (h : nonnegAll res = true) (e : E) (he : e ∈ res) (hp : 0 < e.2.2) :
    0 < capOf res e.1 e.2.1 :=
  Int.lt_of_lt_of_le hp (le_capOf res h e he)

theorem capOf_nonpos (res : List E) (u v : Nat)
    (h : ∀ e ∈ res, e.1 = u → e.2.1 = v → e.2.2 ≤ 0) : capOf res u v ≤ 0 := by
  induction res with
  | nil => exact Int.le_refl 0
  | cons x xs ih =>
    obtain ⟨hx, hxs⟩ := List.forall_mem_cons.mp h
    have := ih hxs
    rw [capOf_cons]
    split
    · rename_i hc; have := hx hc.1 hc.2; omega
    · omega

theorem mem_closureL_self (n : Nat) (res : List E) (s : Nat) (k : Nat) : s ∈ closureL n res s k := by
  induction k with
  | zero => simp [closureL]
  | succ k ih => simp only [closureL, grow, List.mem_append]; exact Or.inl ih

theorem closureL_reach (n : Nat) (res : List E) (s : Nat) (hs : s < n) (hnn : nonnegAll res = true)
    (k : Nat) : ∀ v ∈ closureL n res s k, ∃ h : v < n, Reach (cF res n) ⟨s, hs⟩ ⟨v, h⟩ := by
  induction k with
  | zero =>
    intro v hv
    simp only [closureL, List.mem_singleton] at hv
    subst hv; exact ⟨hs, Reach.refl⟩
  | succ k ih =>
    intro v hv
    simp only [closureL, grow, List.mem_append, List.mem_map, List.mem_filter, Bool.and_eq_true,
      decide_eq_true_eq, List.contains_iff_mem] at hv
    rcases hv with hv | ⟨e, ⟨he, ⟨hpos, hin⟩, hlt⟩, rfl⟩
    · exact ih v hv
    · obtain ⟨hu, hr⟩ := ih e.1 hin
      refine ⟨hlt, Reach.step hr ?_⟩
      exact capOf_pos res hnn e he hpos

theorem closedUnder_closed (n : Nat) (res : List E) (inS : Nat → Bool) (S : Finset (Fin n))
    (hS : ∀ v : Fin n, v ∈ S ↔ inS v.val = true) (h : closedUnder res inS = true) :
    Closed (cF res n) S := by
  intro u hu v hv
  apply capOf_nonpos
  intro e he h1 h2
  simp only [closedUnder, List.all_eq_true, Bool.or_eq_true, Bool.not_eq_eq_eq_not, Bool.not_true,
    decide_eq_true_eq] at h
  have hu' := (hS u).mp hu
  have hv' : inS v.val = false := by
    cases hb : inS v.val
    · rfl
    · exact absurd ((hS v).mpr hb) hv
  rcases h e he with (h3 | h3) | h3
  · rw [h1, hu'] at h3; cases h3
  · rw [h2, hv'] at h3; cases h3
  · exact h3

theorem cert_parts (es res : List E) (s t : Nat) (n : Nat) (hs : s < n) (ht : t < n)
    (hnn : nonnegAll res = true) (hp : pairOK n (capOf es) (capOf res) = true)
    (hcons : conservedOK n (capOf es) (capOf res) s t = true) :
    ResInv (cF es n) (cF res n) ∧ Conserved (cF es n) (cF res n) ⟨s, hs⟩ ⟨t, ht⟩ ∧
    value (resFlow (cF es n) (cF res n)) ⟨s, hs⟩ = valueOf n (capOf es) (capOf res) s := by
  refine ⟨⟨fun u v => capOf_nonneg res hnn _ _, ?_⟩, ?_, ?_⟩
  · intro u v
    exact of_decide_eq_true ((allTo_iff n _).mp ((allTo_iff n _).mp hp u.val u.isLt) v.val v.isLt)
  · intro u hus hut
    have := (allTo_iff n _).mp hcons u.val u.isLt
    simp only [Bool.or_eq_true, beq_iff_eq, decide_eq_true_eq] at this
    rcases this with (h1 | h1) | h1
    · exact absurd (Fin.ext h1) hus
    · exact absurd (Fin.ext h1) hut
    · rw [sumTo_eq] at h1; exact h1
  · unfold value valueOf; rw [sumTo_eq]; rfl

theorem certOK_parts (es : List E) (s t : Nat) (res : List E) (x : ℤ) (h : certOK es s t res x = true) :
    ∃ (hs : s < nNodes es) (ht : t < nNodes es), nonnegAll res = true ∧
      ResInv (cF es (nNodes es)) (cF res (nNodes es)) ∧
      Conserved (cF es (nNodes es)) (cF res (nNodes es)) ⟨s, hs⟩ ⟨t, ht⟩ ∧
      value (resFlow (cF es (nNodes es)) (cF res (nNodes es))) ⟨s, hs⟩ = x ∧
      (closure (nNodes es) res s).contains t = false ∧
      closedUnder res (fun v => (closure (nNodes es) res s).contains v) = true := by
  simp only [certOK, certCore, Bool.and_eq_true, decide_eq_true_eq, Bool.not_eq_eq_eq_not,
    Bool.not_true] at h
  obtain ⟨⟨⟨⟨⟨⟨⟨⟨hs, ht⟩, _⟩, hnn⟩, hp⟩, hcons⟩, hval⟩, htn⟩, hcl⟩ := h
  obtain ⟨hinv, hc, hv⟩ := cert_parts es res s t (nNodes es) hs ht hnn hp hcons
  exact ⟨hs, ht, hnn, hinv, hc, hv.trans hval.symm, htn, hcl⟩

theorem certOK_sound (es : List E) (s t : Nat) (res : List E) (x : ℤ)
    (h : certOK es s t res x = true) :
    ∃ (hs : s < nNodes es) (ht : t < nNodes es),
      IsMaxFlowValue (cF es (nNodes es)) ⟨s, hs⟩ ⟨t, ht⟩ x := by
  obtain ⟨hs, ht, _, hinv, hc, hv, htn, hcl⟩ := certOK_parts es s t res x h
  refine ⟨hs, ht, ?_⟩
  have hS := mem_setOf (nNodes es) fun v => (closure (nNodes es) res s).contains v
  obtain ⟨a, _, _⟩ := closed_certificate hinv hc (setOf _ fun v => (closure (nNodes es) res s).contains v)
    ((hS _).mpr (List.contains_iff_mem.mpr (mem_closureL_self _ _ _ _)))
    (fun hm => Bool.false_ne_true (htn.symm.trans ((hS _).mp hm))) (closedUnder_closed _ res _ _ hS hcl)
  exact hv ▸ a

theorem maxId_le_iff (es : List E) (m : Nat) : maxId es ≤ m ↔ ∀ e ∈ es, e.1 ≤ m ∧ e.2.1 ≤ m := by
  induction es with
  | nil => exact ⟨fun _ _ h => (nomatch h), fun _ => Nat.zero_le m⟩
  | cons x xs ih =>
    show max (max x.1 x.2.1) (maxId xs) ≤ m ↔ _
    rw [List.forall_mem_cons, ← ih, Nat.max_le, Nat.max_le]

theorem le_maxId (es : List E) (e : E) (he : e ∈ es) : e.1 ≤ maxId es ∧ e.2.1 ≤ maxId es :=
  (maxId_le_iff es _).mp (Nat.le_refl _) e he

theorem sum_cut_single {n : Nat} (A : Finset (Fin n)) (a b : Fin n) (w : ℤ) :
    ∑ u ∈ A, ∑ v ∈ Aᶜ, (if a = u ∧ b = v then w else 0) = if a ∈ A ∧ b ∉ A then w else 0 := by
  have inner : ∀ u, (∑ v ∈ Aᶜ, if a = u ∧ b = v then w else 0) =
      if a = u then (if b ∉ A then w else 0) else 0 := by
    intro u
    split
    · simp only [*, true_and, Finset.sum_ite_eq, Finset.mem_compl]
    · simp only [*, false_and, if_false, Finset.sum_const_zero]
  rw [Finset.sum_congr rfl fun u _ => inner u, Finset.sum_ite_eq, ite_and]

theorem cutCapL_eq (es : List E) (n : Nat) (hn : ∀ e ∈ es, e.1 < n ∧ e.2.1 < n) (inA : Nat → Bool) :
    cutCapL es inA = cutCap (cF es n) (setOf n inA) := by
  induction es with
  | nil => simp [cutCapL, cutCap, cF, capOf]
  | cons e es ih =>
    obtain ⟨⟨h1, h2⟩, hn'⟩ := List.forall_mem_cons.mp hn
    have hsplit : cutCap (cF (e :: es) n) (setOf n inA) =
        (∑ u ∈ setOf n inA, ∑ v ∈ (setOf n inA)ᶜ,
          if (⟨e.1, h1⟩ : Fin n) = u ∧ (⟨e.2.1, h2⟩ : Fin n) = v then e.2.2 else 0) +
        cutCap (cF es n) (setOf n inA) := by
      simp only [cutCap, cF, capOf_cons, Finset.sum_add_distrib, Fin.ext_iff]
    rw [hsplit, sum_cut_single, ← ih hn']
    -- `cutCapL` tests `inA e.1 && !inA e.2.1`; membership in `setOf n inA` is `inA · = true`
    simp [cutCapL, mem_setOf]

theorem minCutOK_sound (es : List E) (s t : Nat) (res : List E) (x : ℤ) (bits : List Bool)
    (h : minCutOK es s t res x bits = true) :
    ∃ (hs : s < nNodes es) (ht : t < nNodes es),
      let n := nNodes es
      let c := cF es n
      let A := setOf n (fun v => bits.getD v false)
      IsMaxFlowValue c ⟨s, hs⟩ ⟨t, ht⟩ x ∧
      ⟨s, hs⟩ ∈ A ∧ ⟨t, ht⟩ ∉ A ∧ cutCap c A = x ∧ cutCapL es (fun v => bits.getD v false) = x ∧
      (∀ v, v ∈ A ↔ Reach (cF res n) ⟨s, hs⟩ v) ∧
      (∀ S' : Finset (Fin n), ⟨s, hs⟩ ∈ S' → ⟨t, ht⟩ ∉ S' → cutCap c A ≤ cutCap c S') ∧
      (∀ S' : Finset (Fin n), ⟨s, hs⟩ ∈ S' → ⟨t, ht⟩ ∉ S' → cutCap c S' = x → A ⊆ S') := by
  simp only [minCutOK, cutPart, Bool.and_eq_true, decide_eq_true_eq, Bool.not_eq_eq_eq_not,
    Bool.not_true] at h
  obtain ⟨hcert, ⟨⟨⟨⟨⟨_hlen, hsA⟩, htA⟩, hcut⟩, hcl⟩, hreach⟩⟩ := h
  obtain ⟨hs, ht, hnn, hinv, hc, hxv, _, _⟩ := certOK_parts es s t res x hcert
  obtain ⟨_, _, hmax⟩ := certOK_sound es s t res x hcert
  refine ⟨hs, ht, ?_⟩
  intro n c A
  have hsM : (⟨s, hs⟩ : Fin n) ∈ A := (mem_setOf _ _ _).mpr hsA
  have htM : (⟨t, ht⟩ : Fin n) ∉ A := by
    intro hm; have := (mem_setOf _ _ _).mp hm; rw [htA] at this; cases this
  have hclosed : Closed (cF res n) A :=
    closedUnder_closed n res _ A (fun v => mem_setOf _ _ v) hcl
  have hA : ∀ v, v ∈ A → Reach (cF res n) ⟨s, hs⟩ v := by
    intro v hm
    have hb := (mem_setOf _ _ _).mp hm
    have := (allTo_iff _ _).mp hreach v.val v.isLt
    simp only [Bool.or_eq_true, Bool.not_eq_eq_eq_not, Bool.not_true, List.contains_iff_mem] at this
    rcases this with h1 | h1
    · rw [h1] at hb; cases hb
    · exact (closureL_reach (nNodes es) res s hs hnn _ v.val h1).2
  obtain ⟨_, k⟩ := canon_cut hinv hc A hsM htM hclosed hA
  rw [hxv] at k
  exact ⟨hmax, hsM, htM, k.val, hcut, fun v => ⟨hA v, reach_subset_closed A hsM hclosed⟩, k.min, k.canon⟩

theorem minCutOK_length (es : List E) (s t : Nat) (res : List E) (x : ℤ) (bits : List Bool)
    (h : minCutOK es s t res x bits = true) : bits.length = nNodes es := by
  simp only [minCutOK, cutPart, Bool.and_eq_true, decide_eq_true_eq] at h
  exact h.2.1.1.1.1.1

theorem list_eq_of_setOf_eq {n : Nat} {b1 b2 : List Bool} (h1 : b1.length = n) (h2 : b2.length = n)
    (h : setOf n (fun v => b1.getD v false) = setOf n (fun v => b2.getD v false)) : b1 = b2 := by
  apply List.ext_getElem (h1.trans h2.symm)
  intro i hi1 hi2
  have := Finset.ext_iff.mp h ⟨i, h1 ▸ hi1⟩
  rw [mem_setOf, mem_setOf] at this
  simp only [List.getD_eq_getElem?_getD, List.getElem?_eq_getElem hi1, List.getElem?_eq_getElem hi2,
    Option.getD_some] at this
  exact Bool.eq_iff_iff.mpr this

theorem allTo_congr (n : Nat) (p q : Nat → Bool) (h : ∀ i, i < n → p i = q i) : allTo n p = allTo n q := by
  unfold allTo
  rw [Bool.eq_iff_iff]
  simp only [List.all_eq_true, List.mem_range]
  constructor
  · intro a i hi; rw [← h i hi]; exact a i hi
  · intro a i hi; rw [h i hi]; exact a i hi

theorem sumTo_congr (n : Nat) (f g : Nat → ℤ) (h : ∀ i, i < n → f i = g i) : sumTo n f = sumTo n g := by
  unfold sumTo
  congr 1
  apply List.map_congr_left
  intro i hi; exact h i (List.mem_range.mp hi)

theorem flowChecks_congr (n : Nat) (c c' r r' : Nat → Nat → ℤ) (s t : Nat) (hs : s < n)
    (hc : ∀ u v, u < n → v < n → c u v = c' u v) (hr : ∀ u v, u < n → v < n → r u v = r' u v) :
    pairOK n c r = pairOK n c' r' ∧ conservedOK n c r s t = conservedOK n c' r' s t ∧
    valueOf n c r s = valueOf n c' r' s := by
  refine ⟨?_, ?_, sumTo_congr n _ _ (fun v hv => by rw [hc s v hs hv, hr s v hs hv])⟩
  · unfold pairOK
    apply allTo_congr; intro u hu; apply allTo_congr; intro v hv
    rw [hc u v hu hv, hc v u hv hu, hr u v hu hv, hr v u hv hu]
  · unfold conservedOK
    apply allTo_congr; intro u hu
    rw [sumTo_congr n (fun v => c u v - r u v) (fun v => c' u v - r' u v)
      (fun v hv => by rw [hc u v hu hv, hr u v hu hv])]

theorem certCore_congr (n : Nat) (c c' r r' : Nat → Nat → ℤ) (s t : Nat) (res : List E) (x : ℤ)
    (hc : ∀ u v, u < n → v < n → c u v = c' u v) (hr : ∀ u v, u < n → v < n → r u v = r' u v) :
    certCore n c r s t res x = certCore n c' r' s t res x := by
  by_cases hs : s < n
  · obtain ⟨h1, h2, h3⟩ := flowChecks_congr n c c' r r' s t hs hc hr
    simp only [certCore, h1, h2, h3]
  · simp [certCore, hs]

theorem look_fold (n : Nat) (es : List E) (M : Array ℤ) (hM : M.size = n * n) (u v : Nat)
    (hu : u < n) (hv : v < n) :
    look n (es.foldl (fun M e =>
      if e.1 < n ∧ e.2.1 < n then st M (e.1 * n + e.2.1) (gt M (e.1 * n + e.2.1) + e.2.2) else M) M) u v
    = look n M u v + capOf es u v := by
  induction es generalizing M with
  | nil => exact (Int.add_zero _).symm
  | cons e es ih =>
    rw [List.foldl_cons, capOf_cons]
    by_cases hin : e.1 < n ∧ e.2.1 < n
    · rw [if_pos hin, ih _ (by rw [size_st, hM])]
      unfold look
      rw [gt_st]
      by_cases heq : e.1 * n + e.2.1 = u * n + v
      · obtain ⟨h1, h2⟩ := idx_inj hin.2 hv heq
        rw [if_pos ⟨heq, hM ▸ idx_lt hin.1 hin.2⟩, if_pos ⟨h1, h2⟩, heq]; exact Int.add_assoc _ _ _
      · rw [if_neg (fun h => heq h.1), if_neg (fun h => heq (by rw [h.1, h.2])), Int.zero_add]
    · rw [if_neg hin, ih _ hM, if_neg (fun h => hin (by rw [h.1, h.2]; exact ⟨hu, hv⟩)), Int.zero_add]

theorem look_matOf (n : Nat) (es : List E) (u v : Nat) (hu : u < n) (hv : v < n) :
    look n (matOf n es) u v = capOf es u v := by
  unfold matOf
  rw [look_fold n es _ (by simp) u v hu hv]
  have : look n (Array.replicate (n * n) (0 : ℤ)) u v = 0 := gt_replicate_default (α := ℤ) _ _
  rw [this]; omega

theorem certFast_eq (es : List E) (s t : Nat) (res : List E) (x : ℤ) :
    certFast es s t res x = certOK es s t res x := by
  unfold certFast certOK
  exact certCore_congr _ _ _ _ _ s t res x (fun u v hu hv => look_matOf _ es u v hu hv)
    (fun u v hu hv => look_matOf _ res u v hu hv)

theorem minCutFast_eq (es : List E) (s t : Nat) (res : List E) (x : ℤ) (bits : List Bool) :
    minCutFast es s t res x bits = minCutOK es s t res x bits := by
  unfold minCutFast minCutOK; rw [certFast_eq]

end Tbx.FlowTheory
