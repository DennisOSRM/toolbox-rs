import Tbx.Proofs.BisectionTheory
import Tbx.Proofs.InertialFlowTable
import Tbx.Proofs.FlowBuild
/-
C03: what the model of `sub_step` (`Tbx.InertialFlow.subStepSorted`) does around its solver call: the renumbering
table is a `BisectionCore.Contr`, the renumbered edge list is the contracted unit-capacity graph and meets the
solver's preconditions, and an `Ok` of the step is read off the solver call.  What the solver call yields, relative to
the C01/C02 theorems about the Dinic model and its bounded phase loop, is in Proofs/InertialFlowTotal.lean.
-/
namespace Tbx.InertialFlow
open Tbx Tbx.Flow Tbx.FlowSpec Tbx.FlowTheory Tbx.Bisection Tbx.BisectionCore Tbx.BisectionTheory

/-- the side predicate the partition closure evaluates -/
def sideBit (bits : Array Bool) (p : Nat) : Bool := decide (p < bits.size) && gt bits p

theorem partitionIds_eq (t : Table) (bits : Array Bool) (l : List Nat) :
    partitionIds t bits l =
      (l.filter fun x => t.containsKey x && sideBit bits (t.get x),
       l.filter fun x => t.containsKey x && !sideBit bits (t.get x)) := by
  induction l with
  | nil => rfl
  | cons id rest ih =>
    unfold partitionIds
    simp only [ih, List.filter_cons, sideBit]
    cases t.containsKey id <;> cases (decide (t.get id < bits.size) && gt bits (t.get id)) <;> rfl

theorem partitionIds_left (t : Table) (bits : Array Bool) (l : List Nat) (x : Nat) :
    x ∈ (partitionIds t bits l).1 ↔ (x ∈ l ∧ t.containsKey x = true ∧ sideBit bits (t.get x) = true) := by
  rw [partitionIds_eq, List.mem_filter, Bool.and_eq_true]

theorem partitionIds_right (t : Table) (bits : Array Bool) (l : List Nat) (x : Nat) :
    x ∈ (partitionIds t bits l).2 ↔ (x ∈ l ∧ t.containsKey x = true ∧ sideBit bits (t.get x) = false) := by
  rw [partitionIds_eq, List.mem_filter, Bool.and_eq_true, Bool.not_eq_eq_eq_not, Bool.not_true]

theorem partitionIds_sublist (t : Table) (bits : Array Bool) (l : List Nat) :
    ((partitionIds t bits l).1).Sublist l ∧ ((partitionIds t bits l).2).Sublist l := by
  rw [partitionIds_eq]; exact ⟨List.filter_sublist, List.filter_sublist⟩

theorem prep_table (edges : List (Nat × Nat)) (sorted : List Nat) (k : Nat)
    (hdisj : ∀ x, x ∈ firstK sorted k → x ∉ lastK sorted k) :
    let p := prep edges sorted k
    TWF p.table p.curId (firstK sorted k) (lastK sorted k) ∧
    (∀ y, p.table.containsKey y = true ↔
      (y ∈ firstK sorted k ∨ y ∈ lastK sorted k ∨ touched edges y = true)) ∧
    p.raw = edges.map (fun e => { src := p.table.get e.1, tgt := p.table.get e.2, cap := 1 }) ∧
    p.curId ≤ 2 + 2 * edges.length := by
  intro p
  have h0 := twf_init (firstK sorted k) (lastK sorted k) hdisj
  obtain ⟨a, _, c, d, f⟩ := renum_spec (firstK sorted k) (lastK sorted k) edges _ 2 h0
  refine ⟨a, fun y => ?_, d, f⟩
  exact (c y).trans (by rw [h0.containsKey_two, or_assoc])

theorem prep_contr (edges : List (Nat × Nat)) (sorted : List Nat) (k : Nat)
    (hpre : preOK edges sorted k = true) :
    Contr edges sorted (firstK sorted k) (lastK sorted k) (prep edges sorted k).table.get
      (prep edges sorted k).table.containsKey := by
  obtain ⟨hnd, _, _, hk2, hsrc⟩ := preOK_iff.mp hpre
  have hdisj := take_drop_disjoint sorted k hnd hk2
  obtain ⟨tw, dom, _, _⟩ := prep_table edges sorted k hdisj
  refine ⟨fun x hx => ?_, fun x hx => ?_, fun x y hx hy h2 heq => ?_, dom, hsrc, firstK_sub sorted k,
    lastK_sub sorted k⟩
  · rw [← tw.zero x, find_of_containsKey hx, Option.some.injEq]
  · rw [← tw.one x, find_of_containsKey hx, Option.some.injEq]
  · exact tw.inj x y _ h2 (find_of_containsKey hx) (heq ▸ find_of_containsKey hy)

theorem dropLoops_map (ρ : Nat → Nat) (edges : List (Nat × Nat)) :
    (dropLoops (edges.map fun e => ({ src := ρ e.1, tgt := ρ e.2, cap := 1 } : Edge))).map toE =
      contractBy ρ edges := by
  unfold dropLoops contractBy
  induction edges with
  | nil => rfl
  | cons e rest ih =>
    simp only [List.map_cons, List.filter_cons]
    by_cases h : ρ e.1 = ρ e.2
    · simp [h] at ih ⊢; exact ih
    · simp [h, toE] at ih ⊢; exact ih

/-- what `Dinic::from_edge_list` receives is the contracted graph of the table's renumbering -/
theorem prep_edges (edges : List (Nat × Nat)) (sorted : List Nat) (k : Nat)
    (hdisj : ∀ x, x ∈ firstK sorted k → x ∉ lastK sorted k) :
    (prep edges sorted k).edges.map toE = contractBy (prep edges sorted k).table.get edges := by
  obtain ⟨_, _, hraw, _⟩ := prep_table edges sorted k hdisj
  show (dropLoops (prep edges sorted k).raw).map toE = _
  rw [hraw]
  exact dropLoops_map _ edges

theorem prep_edges_unit (edges : List (Nat × Nat)) (sorted : List Nat) (k : Nat)
    (hdisj : ∀ x, x ∈ firstK sorted k → x ∉ lastK sorted k) :
    (∀ e, e ∈ (prep edges sorted k).edges → e.cap = 1) ∧
    (∀ e, e ∈ (prep edges sorted k).edges.map toE → e.1 ≠ e.2.1) := by
  have hedges := prep_edges edges sorted k hdisj
  constructor
  · intro e he
    have : toE e ∈ (prep edges sorted k).edges.map toE := List.mem_map_of_mem he
    rw [hedges] at this
    obtain ⟨e0, _, _, he0⟩ := mem_contractBy.mp this
    exact (congrArg (·.2.2) he0).symm
  · intro e he
    rw [hedges] at he
    obtain ⟨e0, _, hne, rfl⟩ := mem_contractBy.mp he
    exact hne

def resOf (edges : List (Nat × Nat)) (sorted : List Nat) (k : Nat) (flow : Int) (bits : Array Bool) : FlowRes :=
  { flow := flow, left := (partitionIds (prep edges sorted k).table bits sorted).1,
    right := (partitionIds (prep edges sorted k).table bits sorted).2 }

section
variable {edges : List (Nat × Nat)} {sorted : List Nat} {k : Nat} {b b' : Int} {r : FlowRes}

theorem subStepSorted_ok (h : subStepSorted edges sorted k b = .ok r) :
    ∃ flow bits b', solve (prep edges sorted k) b = some (some (flow, bits), b') ∧
      r = resOf edges sorted k flow bits ∧ r.left ≠ [] ∧ r.right ≠ [] := by
  unfold subStepSorted subStepSortedB at h
  split at h
  · cases h
  · simp only at h
    split at h
    · cases h
    · cases h
    · rename_i flow bits b1 hs
      split at h
      · cases h
      · rename_i hne
        cases h
        exact ⟨flow, bits, b1, hs, rfl, fun he => hne (Or.inl (List.isEmpty_iff.mpr he)),
          fun he => hne (Or.inr (List.isEmpty_iff.mpr he))⟩

theorem subStepSortedB_of_solve {flow : Int} {bits : Array Bool} (hk1 : 1 ≤ k) (hk : k ≤ sorted.length)
    (hs : solve (prep edges sorted k) b = some (some (flow, bits), b'))
    (hl : (resOf edges sorted k flow bits).left ≠ []) (hr : (resOf edges sorted k flow bits).right ≠ []) :
    subStepSortedB edges sorted k b = (.ok (resOf edges sorted k flow bits), b') := by
  unfold subStepSortedB
  rw [if_neg (by omega)]
  simp only [hs]
  rw [if_neg]
  · rfl
  rintro (h | h)
  · exact hl (List.isEmpty_iff.mp h)
  · exact hr (List.isEmpty_iff.mp h)

theorem subStepSorted_sides (edges : List (Nat × Nat)) (sorted : List Nat) (k : Nat) (b : Int)
    (r : FlowRes) (h : subStepSorted edges sorted k b = .ok r) :
    r.left ≠ [] ∧ r.right ≠ [] ∧ r.left.Sublist sorted ∧ r.right.Sublist sorted ∧
    (∀ x, x ∈ r.left → x ∉ r.right) := by
  obtain ⟨flow, bits, _, _, rfl, nl, nr⟩ := subStepSorted_ok h
  have hsub := partitionIds_sublist (prep edges sorted k).table bits sorted
  refine ⟨nl, nr, hsub.1, hsub.2, fun x hx hy => ?_⟩
  have a := ((partitionIds_left _ _ _ x).mp hx).2.2
  rw [((partitionIds_right _ _ _ x).mp hy).2.2] at a; cases a

end

section
variable (edges : List (Nat × Nat)) (sorted : List Nat) (k : Nat) (hpre : preOK edges sorted k = true)
  (hsz : 2 * edges.length + 6 < INV)
include hpre hsz

/-- the ids of the flow graph are below `current_id`, which is at most 2 + 2·|edges| -/
theorem prep_solver_pre :
    (∀ e, e ∈ (prep edges sorted k).edges → 0 ≤ e.cap) ∧
    nNodes ((prep edges sorted k).edges.map toE) + 2 < INV := by
  obtain ⟨hnd, _, _, hk2, _⟩ := preOK_iff.mp hpre
  have hdisj := take_drop_disjoint sorted k hnd hk2
  have hc := prep_contr edges sorted k hpre
  obtain ⟨tw, _, _, hcur⟩ := prep_table edges sorted k hdisj
  have hids : ∀ e ∈ (prep edges sorted k).edges.map toE, e.1 < (prep edges sorted k).curId ∧
      e.2.1 < (prep edges sorted k).curId := by
    intro e he
    rw [prep_edges edges sorted k hdisj] at he
    obtain ⟨e0, he0, _, rfl⟩ := mem_contractBy.mp he
    obtain ⟨hd1, hd2⟩ := dom_of_edge hc he0
    exact ⟨tw.lt _ _ (find_of_containsKey hd1), tw.lt _ _ (find_of_containsKey hd2)⟩
  have hnn : FlowSpec.maxId ((prep edges sorted k).edges.map toE) ≤ (prep edges sorted k).curId - 1 :=
    (FlowTheory.maxId_le_iff _ _).mpr fun e he => by have := hids e he; omega
  have := tw.cur2
  refine ⟨fun e he => ?_, by unfold nNodes; omega⟩
  rw [(prep_edges_unit edges sorted k hdisj).1 e he]; decide

end

end Tbx.InertialFlow
