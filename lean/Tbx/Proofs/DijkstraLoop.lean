import Tbx.Proofs.DijkstraInv
/-
The outer loops of both searches under `HeapLaws`.  One iteration (`LInv.iter`) pops the minimum, whose label is exact
by the lower bound over walks (`LInv.walk_bound`), and relaxes its out-edges.  The loop theorems (`uniLoop_spec`,
`o2mLoop_spec`) say what holds if the loop returns (`UniPost`, `O2MPost`: a state ready for path retrieval and the
exactness of what was asked for), without any fuel assumption, and that it does return when the fuel exceeds the number
of nodes still to be settled (`Enough`; every iteration settles one).
-/
namespace Tbx.Dijkstra
open Tbx Tbx.AHeap
variable {Inv : Heap → Prop}

theorem RInv.congr {adj : Adj} {s u : Nat} {dist : Int} {D D' : Nat → Nat → Prop} {q : Heap}
    (R : RInv Inv adj s u dist D q) (h : ∀ a b, D a b ↔ D' a b) : RInv Inv adj s u dist D' q :=
  { toCore := R.toCore, cur := R.cur, closed := R.closed,
    done := fun a b hab => R.done a b ((h a b).mpr hab), le_cur := R.le_cur,
    par_cur := fun x hx hxs hp => by
      obtain ⟨w, hw⟩ := R.par_cur x hx hxs hp
      exact ⟨w, (h _ _).mp hw⟩ }

theorem RInv.all (L : HeapLaws Inv) {adj : Adj} {s u : Nat} {dist : Int} (es : List (Nat × Nat))
    {D : Nat → Nat → Prop} {q : Heap} (R : RInv Inv adj s u dist D q) (hes : ∀ e ∈ es, e ∈ adj u) :
    ∃ q', relaxAll q u dist es = some q' ∧ RInv Inv adj s u dist (fun a b => D a b ∨ (a, b) ∈ es) q' ∧
      ∀ x, Settled q' x ↔ Settled q x := by
  induction es generalizing D q with
  | nil =>
    exact ⟨q, rfl, R.congr (fun a b => by simp), fun _ => Iff.rfl⟩
  | cons e es ih =>
    obtain ⟨v, w⟩ := e
    obtain ⟨q1, e1, R1, S1⟩ := R.step L v w (hes _ List.mem_cons_self)
    obtain ⟨q2, e2, R2, S2⟩ := ih R1 (fun e' he' => hes e' (List.mem_cons_of_mem _ he'))
    refine ⟨q2, by simp only [relaxAll, e1, e2], R2.congr fun a b => ?_, fun x => (S2 x).trans (S1 x)⟩
    simp only [List.mem_cons, Prod.mk.injEq, or_assoc]

theorem LInv.walk_bound {adj : Adj} {s : Nat} {q : Heap} (I : LInv Inv adj s q) {v d' : Nat}
    (hw : SP.Walk adj s v d') :
    (Settled q (v : Int) ∧ weight q (v : Int) ≤ (d' : Int)) ∨ ∃ y, contains q y = true ∧ weight q y ≤ (d' : Int) := by
  induction hw with
  | nil =>
    cases hc : contains q (s : Int)
    · left; exact ⟨⟨I.src.1, hc⟩, by rw [I.src.2.1]; omega⟩
    · right; exact ⟨s, hc, by rw [I.src.2.1]; omega⟩
  | @snoc x v d1 w _ he ih =>
    rcases ih with ⟨hs, hle⟩ | ⟨y, hy, hle⟩
    · obtain ⟨hi, hwv⟩ := I.closed x hs v w he
      cases hc : contains q (v : Int)
      · left; exact ⟨⟨hi, hc⟩, by omega⟩
      · right; exact ⟨v, hc, by omega⟩
    · right; exact ⟨y, hy, by omega⟩

theorem LInv.drained {adj : Adj} {s : Nat} {q : Heap} (I : LInv Inv adj s q)
    (hempty : ∀ x, contains q x = false) (t : Nat) :
    (SP.Reachable adj s t → Settled q (t : Int)) ∧ (¬ SP.Reachable adj s t → inserted q (t : Int) = false) := by
  refine ⟨?_, I.toCore.not_inserted⟩
  rintro ⟨d', hw'⟩
  rcases I.walk_bound hw' with ⟨hs, _⟩ | ⟨y, hy, _⟩
  · exact hs
  · rw [hempty y] at hy; cases hy

theorem RInv.finish {adj : Adj} {s u : Nat} {dist : Int} {D : Nat → Nat → Prop} {q : Heap}
    (R : RInv Inv adj s u dist D q) (hD : ∀ v w, (v, w) ∈ adj u → D v w) : LInv Inv adj s q :=
  { toCore := R.toCore,
    closed := fun x hx => by
      by_cases hxu : x = u
      · subst hxu
        intro v w he
        have := R.done v w (hD v w he)
        rw [R.cur.2]; exact this
      · exact R.closed x hx hxu }

theorem LInv.pop (L : HeapLaws Inv) {adj : Adj} {s : Nat} {q : Heap} (I : LInv Inv adj s q)
    (hne : isEmpty q = false) :
    ∃ (q1 : Heap) (u : Nat), deleteMin q = some (q1, (u : Int)) ∧ contains q (u : Int) = true ∧
      RInv Inv adj s u (weight q1 (u : Int)) (fun _ _ => False) q1 ∧
      (∀ x, Settled q1 x ↔ (Settled q x ∨ x = (u : Int))) := by
  obtain ⟨q1, u0, e, i1, hc, hmin, o2, o1, o3, o4⟩ := L.delmin_ok q I.inv hne
  have e1 : inserted q1 = inserted q := funext o1
  have e3 : weight q1 = weight q := funext o3
  have e4 : data? q1 = data? q := funext o4
  have hui := L.contains_inserted q u0 I.inv hc
  obtain ⟨u, du, hu, hwu, walku⟩ := I.sound u0 hui
  subst hu
  have S : ∀ x, Settled q1 x ↔ (Settled q x ∨ x = (u : Int)) := by
    intro x
    unfold Settled
    rw [e1, o2]
    constructor
    · rintro ⟨h1, h2⟩
      by_cases hx : x = (u : Int)
      · exact Or.inr hx
      · left; refine ⟨h1, ?_⟩; simpa [hx] using h2
    · rintro (⟨h1, h2⟩ | rfl)
      · exact ⟨h1, by simp [h2]⟩
      · exact ⟨hui, by simp⟩
  have hnotS : ¬ Settled q (u : Int) := fun h => by rw [h.2] at hc; cases hc
  refine ⟨q1, u, e, hc, ?_, S⟩
  refine { inv := i1, wf := I.wf.of_params (deleteMin_params e), src := by rw [e1, e3, e4]; exact I.src,
           sound := by rw [e1, e3]; exact I.sound, rank := by rw [e1, e4]; exact I.rank,
           cur := ⟨(S u).mpr (Or.inr rfl), rfl⟩, done := fun _ _ h => h.elim,
           exact := ?_, mono := ?_, par := ?_, closed := ?_, le_cur := ?_, par_cur := ?_ }
  · intro v hv d' hw'
    rw [e3]
    rcases (S v).mp hv with h | h
    · exact I.exact v h d' hw'
    · rw [h]
      rcases I.walk_bound (Int.ofNat.inj h ▸ hw') with ⟨hs, _⟩ | ⟨y, hy, hle⟩
      · exact absurd hs hnotS
      · exact Int.le_trans (hmin y hy) hle
  · intro x y hx hy
    rw [e3]
    rw [o2] at hy
    simp only [Bool.and_eq_true, bne_iff_ne, ne_eq] at hy
    rcases (S x).mp hx with h | h
    · exact I.mono x y h hy.1
    · rw [h]; exact hmin y hy.1
  · intro x hx hxs
    rw [e1] at hx
    obtain ⟨p, w, h1, h2, h3, h4⟩ := I.par x hx hxs
    exact ⟨p, w, by rw [e4]; exact h1, (S p).mpr (Or.inl h2), h3, by rw [e3]; exact h4⟩
  · intro x hx hxu
    unfold ClosedAt
    rw [e1, e3]
    exact I.closed x (((S x).mp hx).resolve_right fun h => hxu (Int.ofNat.inj h))
  · intro x hx
    rw [e3]
    rcases (S x).mp hx with h | h
    · exact I.mono x u h hc
    · rw [h]; exact Int.le_refl _
  · intro x hx hxs hp
    rw [e1] at hx; rw [e4] at hp
    exact absurd (I.parent_settled hx hxs hp) hnotS

def settledCount (q : Heap) (targets : List Nat) : Nat := (targets.filter fun (t : Nat) => Settled q (t : Int)).length

theorem isTarget_iff (targets : List Nat) (u : Nat) : isTarget targets (u : Int) = true ↔ u ∈ targets := by
  unfold isTarget
  simp only [List.any_eq_true, beq_iff_eq]
  constructor
  · rintro ⟨x, hx, h⟩; have : x = u := by omega
    subst this; exact hx
  · intro h; exact ⟨u, h, rfl⟩

theorem length_filter_or_eq {l : List Nat} (hnd : l.Nodup) (p : Nat → Bool) (u : Nat) (hu : p u = false) :
    (l.filter fun a => p a || decide (a = u)).length = (l.filter p).length + if u ∈ l then 1 else 0 := by
  induction l with
  | nil => rfl
  | cons a l ih =>
    obtain ⟨ha, hnd'⟩ := List.nodup_cons.mp hnd
    rw [List.filter_cons, List.filter_cons]
    by_cases hau : a = u
    · subst hau; simp [hu, ha, ih hnd']
    · have : ¬ u = a := fun e => hau e.symm
      cases hp : p a <;> simp [hau, this, ih hnd'] <;> omega

theorem settledCount_pop {q q1 : Heap} (targets : List Nat) (hnd : targets.Nodup) (u : Nat)
    (hS : ∀ x, Settled q1 x ↔ (Settled q x ∨ x = (u : Int))) (hnu : ¬ Settled q (u : Int)) :
    settledCount q1 targets = (if isTarget targets (u : Int) then settledCount q targets + 1 else settledCount q targets) := by
  have e1 : (fun t : Nat => decide (Settled q1 (t : Int))) = fun t : Nat => decide (Settled q (t : Int)) || decide (t = u) :=
    funext fun t => (decide_eq_decide.mpr ((hS t).trans (or_congr_right Int.natCast_inj))).trans (Bool.decide_or _ _)
  unfold settledCount
  rw [e1, length_filter_or_eq hnd _ u (decide_eq_false hnu)]
  by_cases hu : u ∈ targets
  · rw [if_pos hu, if_pos ((isTarget_iff _ _).mpr hu)]
  · rw [if_neg hu, if_neg fun h => hu ((isTarget_iff _ _).mp h)]; rfl

theorem settledCount_le (q : Heap) (targets : List Nat) : settledCount q targets ≤ targets.length :=
  List.length_filter_le _ _

theorem walk_bounded {adj : Adj} {n s v d : Nat} (hb : Bounded adj n) (hs : s < n) (hw : SP.Walk adj s v d) : v < n := by
  induction hw with
  | nil => exact hs
  | snoc _ he ih => exact hb _ ih _ _ he

/-- fewer than `fuel` of the nodes `< n` are still to be settled -/
def Enough (q : Heap) (n fuel : Nat) : Prop := n < fuel + settledCount q (List.range n)

theorem Enough.not_zero {q : Heap} {n : Nat} (h : Enough q n 0) : False := by
  have := settledCount_le q (List.range n)
  rw [List.length_range] at this
  unfold Enough at h; omega

/-- one iteration of either search loop; it settles `u`, a node below any bound `n` of the graph -/
theorem LInv.iter (L : HeapLaws Inv) {adj : Adj} {s : Nat} {q : Heap} (I : LInv Inv adj s q)
    (hne : isEmpty q = false) :
    ∃ (q1 : Heap) (u : Nat) (q2 : Heap), deleteMin q = some (q1, (u : Int)) ∧
      relaxAll q1 (u : Int) (weight q1 (u : Int)) (adj u) = some q2 ∧ ¬ Settled q (u : Int) ∧
      RInv Inv adj s u (weight q1 (u : Int)) (fun _ _ => False) q1 ∧ LInv Inv adj s q2 ∧
      (∀ x, Settled q2 x ↔ (Settled q x ∨ x = (u : Int))) ∧
      ∀ n fuel, Bounded adj n → s < n → Enough q n (fuel + 1) → Enough q2 n fuel := by
  obtain ⟨q1, u, e, hcu, R, S⟩ := I.pop L hne
  obtain ⟨q2, e2, R2, S2⟩ := R.all L (adj u) (fun _ h => h)
  have hnu : ¬ Settled q (u : Int) := fun h => by rw [h.2] at hcu; cases hcu
  have S' := fun x => (S2 x).trans (S x)
  refine ⟨q1, u, q2, e, e2, hnu, R, R2.finish (fun _ _ h => Or.inr h), S', fun n fuel hb hs hf => ?_⟩
  obtain ⟨d, _, hwalk⟩ := R.toCore.walk R.cur.1.1
  have hu := (isTarget_iff (List.range n) u).mpr (List.mem_range.mpr (walk_bounded hb hs hwalk))
  unfold Enough at hf ⊢
  rw [settledCount_pop _ List.nodup_range u S' hnu, if_pos hu]
  omega

theorem start_observers (L : HeapLaws Inv) (s : Nat) :
    Inv (startQ s) ∧
    ∀ x, (inserted (startQ s) x = true ↔ x = (s : Int)) ∧
      (contains (startQ s) x = true ↔ x = (s : Int)) ∧
      weight (startQ s) (s : Int) = 0 ∧
      data? (startQ s) (s : Int) = some (s : Int) := by
  obtain ⟨i1, o1, o2, o3, o4⟩ := L.insert_ok (init 0 UMAX) (s : Int) 0 (s : Int) (L.inv_init 0 UMAX)
    (init_observers 0 UMAX (s : Int)).1 (Int.le_refl _)
  refine ⟨i1, fun x => ?_⟩
  obtain ⟨h1, h2, _, _⟩ := init_observers 0 UMAX x
  unfold startQ
  rw [o1, o2, o3, o4, h1, h2]
  simp

theorem not_settled_start (L : HeapLaws Inv) (s : Nat) (x : Int) :
    ¬ Settled (startQ s) x := by
  obtain ⟨h1, h2, _⟩ := (start_observers L s).2 x
  intro hx
  have := h2.mpr (h1.mp hx.1)
  rw [hx.2] at this; cases this

theorem LInv.start (L : HeapLaws Inv) (adj : Adj) (s : Nat) :
    LInv Inv adj s (startQ s) := by
  obtain ⟨i1, hs⟩ := start_observers L s
  have ins := fun x => (hs x).1.mp
  have noS := not_settled_start L s
  obtain ⟨h1, _, h3, h4⟩ := hs (s : Int)
  refine { inv := i1, wf := start_params s, src := ⟨h1.mpr rfl, h3, h4⟩, sound := ?_, exact := ?_, mono := ?_,
           par := ?_, rank := ?_, closed := ?_ }
  · intro x hx
    have := ins x hx; subst this
    exact ⟨s, 0, rfl, h3, SP.Walk.nil⟩
  · intro v hv; exact absurd hv (noS _)
  · intro x y hx; exact absurd hx (noS _)
  · intro x hx hxs; exact absurd (ins x hx) hxs
  · exact ⟨fun _ => 0, fun x hx hxs => absurd (ins x hx) hxs⟩
  · intro x hx; exact absurd hx (noS _)

structure UniPost (Inv : Heap → Prop) (adj : Adj) (s t : Nat) (st' : Uni) (r : Int) : Prop where
  ready : PathReady Inv adj s st'.queue
  ub : st'.upperBound = r
  exact : (∃ d : Nat, r = (d : Int) ∧ SP.IsDist adj s t d) ∨ (r = UMAX ∧ ¬ SP.Reachable adj s t)
  found : r ≠ UMAX → inserted st'.queue (t : Int) = true ∧ weight st'.queue (t : Int) = r

theorem uniLoop_spec (L : HeapLaws Inv) (adj : Adj) (s t : Nat) (fuel : Nat) (st : Uni)
    (I : LInv Inv adj s st.queue) (hub : st.upperBound = UMAX) (hnt : ¬ Settled st.queue (t : Int)) :
    (uniLoop adj (t : Int) fuel st).Holds (fun p => UniPost Inv adj s t p.1 p.2) ∧
    ∀ n, Bounded adj n → s < n → Enough st.queue n fuel → uniLoop adj (t : Int) fuel st ≠ .fuel := by
  induction fuel generalizing st with
  | zero => exact ⟨Res.holds_fuel, fun _ _ _ hf => hf.not_zero.elim⟩
  | succ fuel ih =>
    simp only [uniLoop]
    cases hem : isEmpty st.queue with
    | true =>
      simp only [Bool.not_true, Bool.false_and, Bool.false_eq_true, if_false]
      have hempty := (L.empty_iff _ I.inv).mp hem
      exact ⟨Res.holds_ok ⟨I.pathReady, rfl, Or.inr ⟨hub, fun hr => hnt ((I.drained hempty t).1 hr)⟩,
        fun h => absurd hub h⟩, fun _ _ _ _ => nofun⟩
    | false =>
      have hc : (st.upperBound == UMAX) = true := by rw [hub]; simp
      simp only [Bool.not_false, Bool.true_and, hc, if_true]
      obtain ⟨q1, u, q2, e, e2, _, R, I2, S, E⟩ := I.iter L hem
      rw [e]
      simp only
      by_cases hut : ((u : Int) == (t : Int)) = true
      · rw [if_pos hut]
        have : u = t := by have : (u : Int) = (t : Int) := by simpa using hut
                           omega
        subst this
        exact ⟨Res.holds_ok ⟨R.pathReady, rfl, Or.inl (R.toCore.settled_exact R.cur.1), fun _ => ⟨R.cur.1.1, rfl⟩⟩,
          fun _ _ _ _ => nofun⟩
      · rw [if_neg hut, Int.toNat_natCast, e2]
        obtain ⟨a, b⟩ := ih ⟨q2, st.upperBound⟩ I2 hub fun h => ((S _).mp h).elim hnt fun h => hut (by simp [h])
        exact ⟨a, fun n hb hs hf => b n hb hs (E n fuel hb hs hf)⟩

structure O2MPost (Inv : Heap → Prop) (adj : Adj) (s : Nat) (targets : List Nat) (st' : O2M) : Prop where
  linv : LInv Inv adj s st'.queue
  exit : targets.length ≤ st'.reached ∨ ∀ x, contains st'.queue x = false
  count : targets.Nodup → st'.reached = settledCount st'.queue targets

theorem o2mLoop_spec (L : HeapLaws Inv) (adj : Adj) (s : Nat) (targets : List Nat)
    (fuel : Nat) (st : O2M) (I : LInv Inv adj s st.queue)
    (hcnt : targets.Nodup → st.reached = settledCount st.queue targets) :
    (o2mLoop adj targets fuel st).Holds (O2MPost Inv adj s targets) ∧
    ∀ n, Bounded adj n → s < n → Enough st.queue n fuel → o2mLoop adj targets fuel st ≠ .fuel := by
  induction fuel generalizing st with
  | zero => exact ⟨Res.holds_fuel, fun _ _ _ hf => hf.not_zero.elim⟩
  | succ fuel ih =>
    simp only [o2mLoop]
    cases hem : isEmpty st.queue with
    | true =>
      simp only [Bool.not_true, Bool.false_and, Bool.false_eq_true, if_false]
      exact ⟨Res.holds_ok ⟨I, Or.inr ((L.empty_iff _ I.inv).mp hem), hcnt⟩, fun _ _ _ _ => nofun⟩
    | false =>
      simp only [Bool.not_false, Bool.true_and]
      by_cases hlt : st.reached < targets.length
      · simp only [hlt, decide_true, if_true]
        obtain ⟨q1, u, q2, e, e2, hnu, _, I2, S, E⟩ := I.iter L hem
        rw [e]
        simp only
        rw [Int.toNat_natCast, e2]
        obtain ⟨a, b⟩ := ih ⟨q2, if isTarget targets u then st.reached + 1 else st.reached⟩ I2
          fun hnd => by rw [settledCount_pop targets hnd u S hnu, hcnt hnd]
        exact ⟨a, fun n hb hs hf => b n hb hs (E n fuel hb hs hf)⟩
      · simp only [hlt, decide_false, Bool.false_eq_true, if_false]
        exact ⟨Res.holds_ok ⟨I, Or.inl (by omega), hcnt⟩, fun _ _ _ _ => nofun⟩

end Tbx.Dijkstra
