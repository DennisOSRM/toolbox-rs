import Tbx.Proofs.DGraphBasic
import Tbx.Proofs.SGraph
/-
`DynamicGraph::new_from_sorted_list` (`nfsl` in the names): the offsets loop writes for node `i` the number of input
edges with a smaller source, so a slot is owned by the source of its input edge; from that the invariant and the
adjacency of the built graph (`nfsl_inv`).
-/
namespace Tbx.DG
open Tbx
open Tbx.SG (InEdge EEntry maxId cntLt SortedBySrc)

theorem offsetsLoop_spec (inp : List InEdge) (hs : SortedBySrc inp) (k i off : Nat) (acc : Array NEntry)
    (hoff : off = cntLt inp i) (hsz : acc.size = i + 1)
    (hacc : ∀ j, j < i → gt acc j = ⟨cntLt inp j, cntLt inp (j + 1) - cntLt inp j⟩)
    (hlast : gt acc i = ⟨cntLt inp i, 0⟩) :
    (offsetsLoop inp k i off off acc).size = i + 1 + k ∧
    (∀ j, j < i + k → gt (offsetsLoop inp k i off off acc) j = ⟨cntLt inp j, cntLt inp (j + 1) - cntLt inp j⟩) ∧
    gt (offsetsLoop inp k i off off acc) (i + k) = ⟨cntLt inp (i + k), 0⟩ := by
  subst hoff
  induction k generalizing i acc with
  | zero => exact ⟨hsz, hacc, hlast⟩
  | succ k ih =>
    simp only [offsetsLoop]
    rw [SG.skipLoop_eq inp hs i _ _ (Nat.le_refl _) (SG.cntLt_mono inp i) (Nat.le_refl _),
      show acc.size - 1 = i by rw [hsz]; rfl, hlast]
    have hi : i < acc.size := hsz ▸ Nat.lt_succ_self i
    have := ih (i + 1) ((st acc i ⟨cntLt inp i, cntLt inp (i + 1) - cntLt inp i⟩).push ⟨cntLt inp (i + 1), 0⟩)
      (by rw [Array.size_push, size_st, hsz])
      (by
        intro j hj
        rw [gt_push_lt _ _ _ (by rw [size_st, hsz]; exact hj)]
        by_cases e : j = i
        · subst e; rw [gt_st_eq _ _ _ hi]
        · rw [gt_st_ne _ _ _ _ (fun h => e h.symm)]
          exact hacc j (Nat.lt_of_le_of_ne (Nat.le_of_lt_succ hj) e))
      (by
        have e := gt_push_eq (st acc i ⟨cntLt inp i, cntLt inp (i + 1) - cntLt inp i⟩) (⟨cntLt inp (i + 1), 0⟩ : NEntry)
        rwa [size_st, hsz] at e)
    rw [show i + (k + 1) = i + 1 + k from (Nat.add_right_comm i 1 k).symm]
    exact ⟨this.1.trans (Nat.add_right_comm (i + 1) 1 k), this.2⟩

theorem nfsl_nodes (n : Nat) (inp : List InEdge) (hs : SortedBySrc inp) (hsrc : ∀ x ∈ inp, x.src < n) :
    (newFromSortedList n inp).nodes.size = n + 2 ∧
    (∀ j, j < n → gt (newFromSortedList n inp).nodes j = ⟨cntLt inp j, cntLt inp (j + 1) - cntLt inp j⟩) ∧
    (∀ j, n ≤ j → (gt (newFromSortedList n inp).nodes j).count = 0) ∧
    (∀ j, n ≤ j → j < n + 2 → (gt (newFromSortedList n inp).nodes j).first = inp.length) := by
  have h := offsetsLoop_spec inp hs n 0 0 #[⟨0, 0⟩] (SG.cntLt_zero inp).symm rfl
    (fun j hj => absurd hj (Nat.not_lt_zero j)) (by rw [SG.cntLt_zero]; rfl)
  simp only [Nat.zero_add] at h
  have hnodes : (newFromSortedList n inp).nodes = (offsetsLoop inp n 0 0 0 #[⟨0, 0⟩]).push ⟨inp.length, 0⟩ := rfl
  rw [hnodes]
  generalize offsetsLoop inp n 0 0 0 #[⟨0, 0⟩] = A at h ⊢
  have hsize : A.size = n + 1 := by rw [h.1, Nat.add_comm]
  -- the entries from `n` on: the last one of the loop, the one pushed at the end, nothing
  have tail : ∀ d, gt (A.push ⟨inp.length, 0⟩) (n + d) =
      match d with | 0 => ⟨inp.length, 0⟩ | 1 => ⟨inp.length, 0⟩ | _ + 2 => default := by
    intro d
    match d with
    | 0 =>
      show gt (A.push ⟨inp.length, 0⟩) n = ⟨inp.length, 0⟩
      rw [gt_push_lt _ _ _ (hsize ▸ Nat.lt_succ_self n), h.2.2, SG.cntLt_all inp n hsrc]
    | 1 =>
      show gt (A.push ⟨inp.length, 0⟩) (n + 1) = ⟨inp.length, 0⟩
      rw [← hsize, gt_push_eq]
    | d + 2 => exact gt_of_ge _ _ (by rw [Array.size_push, hsize]; exact Nat.add_le_add_left (Nat.le_add_left 2 d) n)
  refine ⟨by rw [Array.size_push, hsize], ?_, ?_, ?_⟩
  · intro j hj
    rw [gt_push_lt _ _ _ (hsize ▸ Nat.lt_succ_of_lt hj)]
    exact h.2.1 j hj
  · intro j hj
    obtain ⟨d, rfl⟩ := Nat.exists_eq_add_of_le hj
    rw [tail]
    match d with
    | 0 | 1 | _ + 2 => rfl
  · intro j hj hj2
    obtain ⟨d, rfl⟩ := Nat.exists_eq_add_of_le hj
    rw [tail]
    match d, Nat.lt_of_add_lt_add_left hj2 with
    | 0, _ | 1, _ => rfl

theorem sumCounts_telescope (inp : List InEdge) (nodes : Array NEntry) (n : Nat)
    (h : ∀ j, j < n → gt nodes j = ⟨cntLt inp j, cntLt inp (j + 1) - cntLt inp j⟩) :
    sumCounts nodes n = cntLt inp n := by
  rw [sumCounts_eq, sumTo_congr _ (fun j => cntLt inp (j + 1) - cntLt inp j) n fun j hj => by rw [h j hj]]
  have := sumTo_telescope (cntLt inp) n fun j _ => SG.cntLt_mono inp j
  rwa [SG.cntLt_zero] at this

theorem nfsl_inv (n : Nat) (inp : List InEdge) (hs : SortedBySrc inp)
    (hsrc : ∀ x ∈ inp, x.src < n) (htgt : ∀ x ∈ inp, x.tgt ≠ maxId) :
    Inv (newFromSortedList n inp) ∧
    ∀ v, adjM (newFromSortedList n inp) v = (inp.filter fun e => e.src == v).map fun e => (e.tgt, e.data) := by
  obtain ⟨hsz, hlt, hge, hfirst⟩ := nfsl_nodes n inp hs hsrc
  have hnn : (newFromSortedList n inp).numNodes = n := rfl
  have hne : (newFromSortedList n inp).numEdges = inp.length := rfl
  have hed : (newFromSortedList n inp).edges = (inp.map fun e => (⟨e.tgt, e.data⟩ : EEntry)).toArray := rfl
  have hesz : (newFromSortedList n inp).edges.size = inp.length := by rw [hed]; simp
  have ow : ∀ v e, owns (newFromSortedList n inp) v e ↔ v < n ∧ e < inp.length ∧ (inp.getD e default).src = v := by
    intro v e
    unfold owns
    by_cases c : v < n
    · rw [hlt v c]
      dsimp only
      rw [Nat.add_sub_of_le (SG.cntLt_mono inp v), SG.mem_slice_iff inp hs]
      exact ⟨fun h => ⟨c, h⟩, fun h => h.2⟩
    · rw [hge v (Nat.le_of_not_lt c), Nat.add_zero]
      exact ⟨fun h => absurd h.2 (Nat.not_lt.mpr h.1), fun h => absurd h.1 c⟩
  have getE : ∀ e, e < inp.length → (gt (newFromSortedList n inp).edges e).tgt = (inp.getD e default).tgt := by
    intro e he
    rw [hed, gt_toArray]
    rw [SG.getD_eq _ _ _ (by simpa using he), SG.getD_eq _ _ _ he]
    simp
  refine ⟨⟨?_, ?_, hge, ?_, ?_, ?_, ?_⟩, ?_⟩
  · rw [hsz, hnn]
  · intro v hv
    rw [hesz]
    by_cases c : v < n
    · rw [hlt v c]
      dsimp only
      rw [Nat.add_sub_of_le (SG.cntLt_mono inp v)]
      exact SG.cntLt_le_length inp (v + 1)
    · rw [hsz] at hv
      rw [hge v (Nat.le_of_not_lt c), hfirst v (Nat.le_of_not_lt c) hv]
      exact Nat.le_refl _
  · intro u v e h1 h2
    exact ((ow u e).mp h1).2.2.symm.trans ((ow v e).mp h2).2.2
  · intro v e ho
    have hlen := ((ow v e).mp ho).2.1
    rw [getE e hlen]
    exact htgt _ (getD_mem _ _ _ hlen)
  · intro e he _
    rw [hesz] at he
    have hv := hsrc _ (getD_mem inp e default he)
    exact ⟨_, hv, (ow _ e).mpr ⟨hv, he, rfl⟩⟩
  · rw [hne, hnn, sumCounts_telescope inp _ n hlt, SG.cntLt_all inp n hsrc]
  · intro v
    unfold adjM
    rw [hnn]
    by_cases c : v < n
    · rw [if_pos c]
      unfold adjList edgeRange beginEdges outDegree target data
      rw [hlt v c, hed]
      exact SG.slice_adj inp hs v
    · rw [if_neg c]
      have : inp.filter (fun e => e.src == v) = [] := by
        rw [List.filter_eq_nil_iff]
        intro x hx
        have := hsrc x hx
        simp; omega
      rw [this]; rfl

end Tbx.DG
