import Tbx.Proofs.AHeapInvBasic
/-
C10: the representation invariant `Inv` and the abstraction function `abs` into the reference queue `Tbx.PQ`.

`Inv.back` / `Inv.fwd` are `PtrX s.heap s.nodes s.nodes.size` (no node exempt) and `Inv.ord` is `Ord s.heap`, written
out; the operation proofs pass between the two forms with `Inv.ptr` and `Inv.of_ptr`.
-/
namespace Tbx.AHeap
open Tbx

/-- abstraction function: the nodes in insertion order -/
def abs (s : Heap) : PQ.Q := s.nodes.toList.map ent

def IdMap (idx : List (Int × Nat)) (ns : Array Node) : Prop :=
  ∀ id i, lookup idx id = some i ↔ (i < ns.size ∧ (gt ns i).id = id)

/-- the representation invariant of `AddressableHeap` -/
structure Inv (s : Heap) : Prop where
  /-- the sentinel slot exists -/
  size_pos : 1 ≤ s.heap.size
  /-- the sentinel carries `Weight::min_value()` -/
  sentinel : (gt s.heap 0).weight = s.wmin
  /-- no stored weight is below `Weight::min_value()` -/
  wlo : ∀ k, k < s.heap.size → s.wmin ≤ (gt s.heap k).weight
  ord : ∀ k, 2 ≤ k → k < s.heap.size → (gt s.heap (k / 2)).weight ≤ (gt s.heap k).weight
  back : ∀ k, 1 ≤ k → k < s.heap.size → (gt s.heap k).index < s.nodes.size ∧
    (gt s.nodes (gt s.heap k).index).key = k ∧
    (gt s.nodes (gt s.heap k).index).weight = (gt s.heap k).weight
  /-- `key = 0` exactly for removed nodes -/
  fwd : ∀ i, i < s.nodes.size → (gt s.nodes i).key ≠ 0 →
    (gt s.nodes i).key < s.heap.size ∧ (gt s.heap (gt s.nodes i).key).index = i
  /-- the id map is the inverse of `slot ↦ id` (so ids are distinct) -/
  idmap : IdMap s.idx s.nodes

theorem Inv.ptr {s : Heap} (I : Inv s) : PtrX s.heap s.nodes s.nodes.size := by
  refine ⟨?_, ?_⟩
  · intro k k1 k2
    obtain ⟨a, b, c⟩ := I.back k k1 k2
    exact ⟨a, by omega, b, c⟩
  · intro i i1 _ i3
    exact I.fwd i i1 i3

theorem Inv.of_ptr {s : Heap} (h1 : 1 ≤ s.heap.size) (h2 : (gt s.heap 0).weight = s.wmin)
    (h3 : ∀ k, k < s.heap.size → s.wmin ≤ (gt s.heap k).weight) (h4 : Ord s.heap)
    (P : PtrX s.heap s.nodes s.nodes.size) (h5 : IdMap s.idx s.nodes) : Inv s := by
  refine ⟨h1, h2, h3, h4, ?_, ?_, h5⟩
  · intro k k1 k2
    obtain ⟨a, _, b, c⟩ := P.back k k1 k2
    exact ⟨a, b, c⟩
  · intro i i1 i3
    exact P.fwd i i1 (by omega) i3

theorem IdMap.uniq {idx : List (Int × Nat)} {ns : Array Node} (M : IdMap idx ns) {i j : Nat}
    (hi : i < ns.size) (hj : j < ns.size) (e : (gt ns j).id = (gt ns i).id) : j = i := by
  have a := (M (gt ns i).id i).2 ⟨hi, rfl⟩
  have b := (M (gt ns i).id j).2 ⟨hj, e⟩
  rw [a] at b
  exact (Option.some.inj b).symm

theorem IdMap.frame {idx : List (Int × Nat)} {ns ns' : Array Node} (M : IdMap idx ns)
    (hs : ns'.size = ns.size) (hid : ∀ i, (gt ns' i).id = (gt ns i).id) : IdMap idx ns' := by
  intro id i
  rw [M id i, hs, hid i]

theorem map_ent_map {ns ns' : Array Node} (f : PQ.Entry → PQ.Entry) (hs : ns'.size = ns.size)
    (h : ∀ i, i < ns.size → ent (gt ns' i) = f (ent (gt ns i))) :
    ns'.toList.map ent = (ns.toList.map ent).map f := by
  rw [toList_eq_map_range ns', toList_eq_map_range ns, hs, List.map_map, List.map_map, List.map_map]
  exact List.map_congr_left fun i hi => h i (List.mem_range.mp hi)

theorem Frame.abs_eq {ns ns' : Array Node} (F : Frame ns ns') :
    ns'.toList.map ent = ns.toList.map ent :=
  (map_ent_map id F.1 fun i _ => F.2 i).trans (List.map_id _)

theorem abs_st {idx : List (Int × Nat)} {ns : Array Node} (M : IdMap idx ns) {i : Nat} (hi : i < ns.size)
    (n' : Node) (f : PQ.Entry → PQ.Entry) (hf : ent n' = f (ent (gt ns i))) :
    (st ns i n').toList.map ent = (ns.toList.map ent).map fun e => if e.id == (gt ns i).id then f e else e := by
  refine map_ent_map _ (size_st _ _ _) fun j hj => ?_
  by_cases e : j = i
  · rw [e, gt_st_eq _ _ _ hi, hf]; exact (if_pos (beq_iff_eq.mpr rfl)).symm
  · rw [gt_st_ne _ _ _ _ (Ne.symm e)]; exact (if_neg fun g => e (M.uniq hi hj (beq_iff_eq.mp g))).symm

/-- `PtrX` reads the index column of the heap, the key column of the nodes, and that a slot and its node agree in
weight -/
theorem PtrX.of_cols {h h' : Array Elem} {ns ns' : Array Node} {x : Nat} (P : PtrX h ns x)
    (hh : h'.size = h.size) (hs : ns'.size = ns.size) (hi : ∀ k, (gt h' k).index = (gt h k).index)
    (hk : ∀ j, (gt ns' j).key = (gt ns j).key)
    (hw : ∀ k, 1 ≤ k → k < h.size → (gt ns' (gt h k).index).weight = (gt h' k).weight) : PtrX h' ns' x :=
  ⟨fun k k1 k2 => by
    rw [hh] at k2
    rw [hi, hs, hk]
    obtain ⟨c1, c2, c3, _⟩ := P.back k k1 k2
    exact ⟨c1, c2, c3, hw k k1 k2⟩,
   fun i i1 i2 i3 => by
    rw [hk] at i3 ⊢
    rw [hh, hi]
    exact P.fwd i (hs ▸ i1) i2 i3⟩

end Tbx.AHeap
