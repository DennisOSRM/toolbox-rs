import Tbx.Model.Bloom
/-
Bits of the Bloom-filter model only ever get set, and `add` sets exactly the indices `contains` reads.
-/
namespace Tbx.Bloom
open Tbx

theorem setAll_size (len h1 h2 : Nat) (is : List Nat) (bits : Array Bool) :
    (setAll len h1 h2 is bits).size = bits.size := by
  induction is generalizing bits with
  | nil => rfl
  | cons i is ih => simp only [setAll]; rw [ih, size_st]

theorem setAll_mono (len h1 h2 : Nat) (is : List Nat) (bits : Array Bool) (j : Nat)
    (hj : gt bits j = true) : gt (setAll len h1 h2 is bits) j = true := by
  induction is generalizing bits with
  | nil => exact hj
  | cons i is ih =>
    simp only [setAll]
    apply ih
    rw [gt_st]
    split
    · rfl
    · exact hj

theorem setAll_sets (len h1 h2 : Nat) (is : List Nat) (bits : Array Bool) (i : Nat) (hi : i ∈ is)
    (hlt : index len h1 h2 i < bits.size) :
    gt (setAll len h1 h2 is bits) (index len h1 h2 i) = true := by
  induction is generalizing bits with
  | nil => cases hi
  | cons a is ih =>
    simp only [setAll]
    rcases List.mem_cons.mp hi with e | hm
    · subst e
      apply setAll_mono
      exact gt_st_eq _ _ _ hlt
    · exact ih _ hm (by rw [size_st]; exact hlt)

theorem add_size (f : Filter) (h1 h2 : Nat) : (add f h1 h2).bits.size = f.bits.size := by
  simp only [add]; exact setAll_size _ _ _ _ _

theorem add_k (f : Filter) (h1 h2 : Nat) : (add f h1 h2).k = f.k := rfl

theorem index_lt (len h1 h2 i : Nat) (h : 0 < len) : index len h1 h2 i < len := Nat.mod_lt _ h

theorem add_contains (f : Filter) (h1 h2 : Nat) (hlen : 0 < f.bits.size) :
    contains (add f h1 h2) h1 h2 = true := by
  simp only [contains, List.all_eq_true, add_size, add_k]
  intro i hi
  simp only [add]
  exact setAll_sets _ _ _ _ _ i hi (index_lt _ _ _ _ hlen)

theorem contains_mono (f : Filter) (g1 g2 h1 h2 : Nat) (hc : contains f h1 h2 = true) :
    contains (add f g1 g2) h1 h2 = true := by
  simp only [contains, List.all_eq_true, add_size, add_k] at hc ⊢
  intro i hi
  simp only [add]
  exact setAll_mono _ _ _ _ _ _ (hc i hi)

def addAll (f : Filter) : List (Nat × Nat) → Filter
  | [] => f
  | (g1, g2) :: gs => addAll (add f g1 g2) gs

theorem addAll_size (f : Filter) (gs : List (Nat × Nat)) : (addAll f gs).bits.size = f.bits.size := by
  induction gs generalizing f with
  | nil => rfl
  | cons g gs ih => obtain ⟨g1, g2⟩ := g; simp only [addAll]; rw [ih, add_size]

theorem addAll_mono (f : Filter) (gs : List (Nat × Nat)) (h1 h2 : Nat) (hc : contains f h1 h2 = true) :
    contains (addAll f gs) h1 h2 = true := by
  induction gs generalizing f with
  | nil => exact hc
  | cons g gs ih => obtain ⟨g1, g2⟩ := g; exact ih _ (contains_mono f g1 g2 h1 h2 hc)

theorem init_size (len k : Nat) : (init len k).bits.size = len := by simp [init]

end Tbx.Bloom
