import Tbx.Model.Zigzag
import Tbx.Spec.Codes
/-
Zigzag: the bit-level encoder of /repo (`Tbx.Zigzag.zigzagEncode`) and the standard decoder are
inverse bijections of the 32-bit words.  Core Lean only; bit-by-bit extensionality, no SAT procedure.
(That the encoder is the arithmetic interleaving `Tbx.Spec.zigzagNat` is `Props.C20.zigzag_encode_arith`, from
`sshift31`.)
-/
namespace Tbx.Proofs.Zigzag
open Tbx Tbx.Zigzag Tbx.Spec

theorem neg_and_one (n : BitVec 32) : -(n &&& 1#32) = BitVec.fill 32 n[0] := by
  rw [BitVec.and_one_eq_setWidth_ofBool_getLsbD, BitVec.getLsbD_eq_getElem (show 0 < 32 by decide)]
  cases n[0] <;> decide

theorem sshift31 (v : BitVec 32) : v.sshiftRight 31 = BitVec.fill 32 v.msb := by
  ext i hi
  rw [BitVec.getElem_sshiftRight, BitVec.getElem_fill]
  by_cases h0 : i = 0
  · subst h0
    simp [BitVec.msb_eq_getLsbD_last]
  · have : ¬ (31 + i < 32) := by omega
    simp [this]

theorem enc_bit (v : BitVec 32) (i : Nat) (hi : i < 32) :
    (zigzagEncode v)[i] = ((!decide (i < 1) && v[i - 1]) ^^ v.msb) := by
  unfold zigzagEncode
  rw [sshift31, BitVec.getElem_xor, BitVec.getElem_shiftLeft, BitVec.getElem_fill]

theorem dec_bit (n : BitVec 32) (i : Nat) (hi : i < 32) :
    (zigzagDecode n)[i] = (n.getLsbD (1 + i) ^^ n[0]) := by
  unfold zigzagDecode
  rw [neg_and_one, BitVec.getElem_xor, BitVec.getElem_ushiftRight, BitVec.getElem_fill]

theorem decode_encode (v : BitVec 32) : zigzagDecode (zigzagEncode v) = v := by
  ext i hi
  rw [dec_bit _ i hi]
  have h0 : (zigzagEncode v)[0] = v.msb := by rw [enc_bit v 0 (by omega)]; simp
  rw [h0]
  by_cases h31 : i = 31
  · subst h31
    have : (zigzagEncode v).getLsbD (1 + 31) = false := by simp
    rw [this]
    simp [BitVec.msb_eq_getLsbD_last]
  · have hlt : 1 + i < 32 := by omega
    rw [BitVec.getLsbD_eq_getElem hlt, enc_bit v (1 + i) hlt]
    have : ¬ (1 + i < 1) := by omega
    simp [this]

theorem encode_decode (n : BitVec 32) : zigzagEncode (zigzagDecode n) = n := by
  ext i hi
  rw [enc_bit _ i hi]
  have hm : (zigzagDecode n).msb = n[0] := by
    rw [BitVec.msb_eq_getLsbD_last]
    show (zigzagDecode n).getLsbD 31 = n[0]
    rw [BitVec.getLsbD_eq_getElem (by omega : 31 < 32), dec_bit n 31 (by omega)]
    simp
  rw [hm]
  by_cases h0 : i = 0
  · subst h0; simp
  · have h1 : ¬ (i < 1) := by omega
    have hlt : i - 1 < 32 := by omega
    rw [dec_bit n (i - 1) hlt]
    have : 1 + (i - 1) = i := by omega
    rw [this, BitVec.getLsbD_eq_getElem hi]
    simp [h1]

end Tbx.Proofs.Zigzag
