import Tbx.Props.GenFns
import Mathlib.Tactic.Ring
import Tbx.Spec.Hierarchy
/-
Arithmetic of partition ids read as lists of sides (C05 `id_path`), stated for the functions REGENERATED from
src/partition_id.rs (`Tbx.Gen.pid…`), through `Tbx.Props.GenFns`.  `extendId x s`, the id reached from `x` by the
steps `s`, is `x` followed by the sides as binary digits (for the root: a leading one, then the sides); padding is `k`
equal steps, and reading an id top-down gives the sides back.
-/
namespace Tbx.Hierarchy
open Tbx.Gen Tbx.Props.GenFns

theorem childId_false (x : Nat) : childId false x = 2 * x := leftChild_eq x

theorem childId_true (x : Nat) : childId true x = 2 * x + 1 := rightChild_eq x

theorem childId_eq (b : Bool) (x : Nat) : childId b x = 2 * x + (if b then 1 else 0) := by
  cases b
  · exact childId_false x
  · exact childId_true x

def bitsVal : List Bool → Nat
  | [] => 0
  | b :: s => (if b then 2 ^ s.length else 0) + bitsVal s

def extendId (x : Nat) (s : List Bool) : Nat := s.foldl (fun acc b => childId b acc) x

theorem extendId_eq (s : List Bool) (x : Nat) : extendId x s = x * 2 ^ s.length + bitsVal s := by
  unfold extendId
  induction s generalizing x with
  | nil => simp [bitsVal]
  | cons b s ih =>
    simp only [List.foldl_cons, List.length_cons, bitsVal]
    rw [ih, childId_eq, Nat.pow_succ]
    cases b <;> simp <;> ring

theorem idOfSides_eq (s : List Bool) : idOfSides s = 2 ^ s.length + bitsVal s := by
  have := extendId_eq s 1
  simpa [idOfSides, extendId] using this

theorem bitsVal_lt (s : List Bool) : bitsVal s < 2 ^ s.length := by
  induction s with
  | nil => simp [bitsVal]
  | cons b s ih =>
    simp only [bitsVal, List.length_cons]
    rw [Nat.pow_succ]
    cases b <;> simp <;> omega

theorem idOfSides_append (s t : List Bool) : idOfSides (s ++ t) = extendId (idOfSides s) t :=
  List.foldl_append

theorem idOfSides_snoc (s : List Bool) (b : Bool) : idOfSides (s ++ [b]) = childId b (idOfSides s) :=
  idOfSides_append s [b]

/-- `make_leftmost_descendant` / `make_rightmost_descendant` -/
def descend : Bool → Nat → Nat → Nat
  | false => pidLeftmostDescendant
  | true => pidRightmostDescendant

theorem descend_eq (b : Bool) (x k : Nat) : descend b x k = extendId x (List.replicate k b) := by
  have iter : ∀ (k x : Nat), extendId x (List.replicate k b) = (childId b)^[k] x := by
    intro k
    induction k with
    | zero => intro x; rfl
    | succ k ih => intro x; exact ih (childId b x)
  rw [iter]
  cases b
  · exact leftmost_descendant_iter x k
  · exact rightmost_descendant_iter x k

theorem leftmost_eq (s : List Bool) (k : Nat) :
    pidLeftmostDescendant (idOfSides s) k = idOfSides (s ++ List.replicate k false) :=
  (descend_eq false _ k).trans (idOfSides_append s _).symm

theorem rightmost_eq (s : List Bool) (k : Nat) :
    pidRightmostDescendant (idOfSides s) k = idOfSides (s ++ List.replicate k true) :=
  (descend_eq true _ k).trans (idOfSides_append s _).symm

theorem bitsVal_append (s t : List Bool) : bitsVal (s ++ t) = bitsVal s * 2 ^ t.length + bitsVal t := by
  induction s with
  | nil => simp [bitsVal]
  | cons b s ih =>
    simp only [List.cons_append, bitsVal, List.length_append, ih]
    rw [Nat.pow_add]
    cases b
    · simp
    · simp; ring

theorem bitsVal_replicate_false (k : Nat) : bitsVal (List.replicate k false) = 0 := by
  induction k with
  | zero => rfl
  | succ k ih => simp [List.replicate_succ, bitsVal, ih]

theorem bitsVal_replicate_true (k : Nat) : bitsVal (List.replicate k true) = 2 ^ k - 1 := by
  induction k with
  | zero => rfl
  | succ k ih =>
    simp only [List.replicate_succ, bitsVal, ih, List.length_replicate, if_true]
    have hp : 1 ≤ 2 ^ k := Nat.one_le_two_pow
    rw [Nat.pow_succ]
    omega

theorem idOfSides_pos (s : List Bool) : 1 ≤ idOfSides s := by
  rw [idOfSides_eq]
  have : 1 ≤ 2 ^ s.length := Nat.one_le_two_pow
  omega

theorem idOfSides_lt (s : List Bool) : idOfSides s < 2 ^ (s.length + 1) := by
  rw [idOfSides_eq, Nat.pow_succ]
  have := bitsVal_lt s
  omega

theorem idOfSides_fits (s : List Bool) (h : s.length ≤ 31) : idOfSides s < 2 ^ 32 := by
  have h1 := idOfSides_lt s
  have h2 : 2 ^ (s.length + 1) ≤ 2 ^ 32 := Nat.pow_le_pow_right (by omega) (by omega)
  omega

theorem log2_idOfSides (s : List Bool) : Nat.log2 (idOfSides s) = s.length := by
  have hne : idOfSides s ≠ 0 := by have := idOfSides_pos s; omega
  have h1 : s.length ≤ Nat.log2 (idOfSides s) := by
    rw [Nat.le_log2 hne, idOfSides_eq]; omega
  have h2 : Nat.log2 (idOfSides s) < s.length + 1 := by
    rw [Nat.log2_lt hne]; exact idOfSides_lt s
  omega

theorem level_idOfSides (s : List Bool) (h : s.length ≤ 31) : pidLevel (idOfSides s) = s.length := by
  rw [level_eq_log2 _ (idOfSides_pos s) (idOfSides_fits s h), log2_idOfSides]

theorem childId_unstep (b : Bool) (x : Nat) (hx : 1 ≤ x) :
    ¬ childId b x ≤ 1 ∧ childId b x / 2 = x ∧ (childId b x % 2 == 1) = b := by
  cases b
  · rw [childId_false, Nat.mul_div_cancel_left x Nat.zero_lt_two, Nat.mul_mod_right]
    exact ⟨by omega, rfl, rfl⟩
  · rw [childId_true, Nat.mul_add_div Nat.zero_lt_two, Nat.mul_add_mod]
    exact ⟨by omega, rfl, rfl⟩

theorem sidesAux_spec (fuel : Nat) : ∀ (acc s : List Bool), s.length ≤ fuel →
    sidesAux fuel (idOfSides s) acc = s ++ acc := by
  induction fuel with
  | zero =>
    intro acc s hf
    obtain rfl : s = [] := List.eq_nil_of_length_eq_zero (Nat.le_zero.mp hf)
    rfl
  | succ f ih =>
    intro acc s hf
    rcases List.eq_nil_or_concat s with rfl | ⟨s', b, rfl⟩
    · rfl
    · obtain ⟨hgt, hdiv, hmod⟩ := childId_unstep b _ (idOfSides_pos s')
      rw [List.concat_eq_append] at hf ⊢
      rw [idOfSides_snoc, sidesAux, if_neg hgt, hdiv, hmod, ih _ s' (by simp at hf; omega), List.append_assoc]
      rfl

theorem length_le_idOfSides (s : List Bool) : s.length ≤ idOfSides s := by
  rw [idOfSides_eq]
  have : s.length < 2 ^ s.length := Nat.lt_two_pow_self
  omega

theorem sidesOf_idOfSides (s : List Bool) : sidesOf (idOfSides s) = s := by
  unfold sidesOf
  rw [sidesAux_spec (idOfSides s) [] s (length_le_idOfSides s), List.append_nil]

end Tbx.Hierarchy
