import Tbx.Proofs.ChipperLevel
/-
The level-by-level run of the model computes the depth-first hierarchy of the Spec.  `node_step`: one level moves a
node into a kid of its job by one step, where the Spec's recursion continues, or gives it its final id.
`levels_hier` (induction over the levels): a run from any well-formed queue appends to the id each node of a job has
the sides the Spec lists for that job (`extendId`), and leaves all other nodes alone; `run_hier` is the whole run from
the root.
-/
namespace Tbx.Chipper
open Tbx Tbx.Gen Tbx.InertialFlow Tbx.Hierarchy

def cellOf (job : Job) : Cell := { edges := job.edges, ids := job.ids }

def specBest (B : Job → Best) : Cell → Option (List Nat × List Nat) := fun c =>
  match B { edges := c.edges, ids := c.ids } with
  | .some r => some (r.left, r.right)
  | _ => none

theorem restrict_cellOf (job : Job) (side : List Nat) : restrict (cellOf job) side = cellOf (subJob job side) := rfl

theorem pairwise_disj_unique {Q : List Job} (hd : Q.Pairwise Disj) {j1 j2 : Job} {x : Nat}
    (h1 : j1 ∈ Q) (h2 : j2 ∈ Q) (hx1 : x ∈ j1.ids) (hx2 : x ∈ j2.ids) : j1 = j2 :=
  List.Pairwise.forall_of_forall_of_flip (R := fun a b => x ∈ a.ids → x ∈ b.ids → a = b) (fun _ _ _ _ => rfl)
    (hd.imp fun h ha hb => absurd hb (h x ha)) (hd.imp fun h hb ha => absurd hb (h x ha)) h1 h2 hx1 hx2

theorem specSides_succ (B : Job → Best) (m d : Nat) (job : Job) (x : Nat) :
    specSides (specBest B) m (d + 1) (cellOf job) x =
      (match B job with
       | .some res =>
         (match sideOf res x with
          | none => []
          | some b =>
            b :: (if (side res b).length > m then specSides (specBest B) m d (cellOf (subJob job (side res b))) x
                  else List.replicate d b))
       | _ => []) := by
  conv => lhs; unfold specSides
  have : specBest B (cellOf job) = (match B job with | .some r => some (r.left, r.right) | _ => none) := rfl
  rw [this]
  cases B job with
  | panic => rfl
  | none => rfl
  | some res =>
    simp only [restrict_cellOf, sideOf, List.contains_eq_mem, decide_eq_true_eq]
    by_cases hL : x ∈ res.left
    · simp only [hL, if_true, side]; rfl
    · by_cases hR : x ∈ res.right <;> simp only [hL, hR, if_true, if_false, side]
      rfl

theorem node_step (cfg : Cfg) (B : Job → Best) (job : Job) (x lvl d old : Nat)
    (hdiff : cfg.r - lvl - 1 = d) (hres : ∀ res, B job = .some res → ResOK job res) :
    (∃ c ∈ kids cfg job (B job), ∃ b, x ∈ c.ids ∧ jobId cfg lvl (B job) x old = childId b old ∧
      specSides (specBest B) cfg.m (d + 1) (cellOf job) x = b :: specSides (specBest B) cfg.m d (cellOf c) x) ∨
    ((∀ c ∈ kids cfg job (B job), x ∉ c.ids) ∧
      jobId cfg lvl (B job) x old = extendId old (specSides (specBest B) cfg.m (d + 1) (cellOf job) x)) := by
  rw [specSides_succ]
  cases hb : B job with
  | panic => exact Or.inr ⟨fun _ h => absurd h List.not_mem_nil, rfl⟩
  | none => exact Or.inr ⟨fun _ h => absurd h List.not_mem_nil, rfl⟩
  | some res =>
    simp only [kids, jobId, newId]
    -- a kid that contains `x` is the sub-job of the side of `x`, and that side is large
    have hkid : ∀ c ∈ children cfg job res, x ∈ c.ids →
        ∃ b, sideOf res x = some b ∧ (side res b).length > cfg.m := by
      intro c hc hx
      obtain ⟨b, hbig, rfl⟩ := mem_children.mp hc
      exact ⟨b, (sideOf_eq_some (hres res hb)).mpr hx, hbig⟩
    cases hs : sideOf res x with
    | none =>
      refine Or.inr ⟨fun c hc hx => ?_, rfl⟩
      obtain ⟨_, h, _⟩ := hkid c hc hx
      rw [hs] at h; cases h
    | some b =>
      by_cases hbig : (side res b).length > cfg.m
      · exact Or.inl ⟨_, mem_children.mpr ⟨b, hbig, rfl⟩, b, (sideOf_eq_some (hres res hb)).mp hs,
          by simp only [hbig, if_true], by simp only [hbig, if_true]⟩
      · refine Or.inr ⟨fun c hc hx => ?_, ?_⟩
        · obtain ⟨_, h, hbig'⟩ := hkid c hc hx
          rw [hs] at h; cases h
          exact hbig hbig'
        · simp only [hbig, if_false, hdiff, descend_eq]
          rfl

theorem levels_hier (cfg : Cfg) (B : Job → Best) (n : Nat) (hm : 1 ≤ cfg.m)
    (hbest : BestOK n (fun _ _ => B)) :
    ∀ (fuel lvl : Nat) (pid : Array Nat) (Q : List Job) (out : Array Nat × List (List Job)),
      lvl + fuel = cfg.r → pid.size = n → QueueOK n Q →
      levels cfg (fun _ _ => B) fuel lvl pid Q = some out →
      (∀ job ∈ Q, ∀ x ∈ job.ids,
        gt out.1 x = extendId (gt pid x) (specSides (specBest B) cfg.m fuel (cellOf job) x)) ∧
      (∀ x, (∀ job ∈ Q, x ∉ job.ids) → gt out.1 x = gt pid x) := by
  intro fuel
  induction fuel with
  | zero =>
    intro lvl pid Q out _ _ _ h
    cases h
    exact ⟨fun _ _ _ _ => rfl, fun _ _ => rfl⟩
  | succ fuel ih =>
    intro lvl pid Q out hr hsz hQ h
    by_cases he : Q.isEmpty
    · rw [levels_of_isEmpty cfg _ _ lvl pid he] at h
      cases h
      rw [List.isEmpty_iff.mp he]
      exact ⟨fun _ hj => absurd hj List.not_mem_nil, fun _ _ => rfl⟩
    · obtain ⟨p, q, s1, s2, s3, s4, hQp, hq, rfl⟩ := levels_succ cfg _ n hm hbest hsz hQ he h
      obtain ⟨c1, c2⟩ := ih (lvl + 1) p.1 p.2 q (by omega) s1 hQp hq
      have hresOf : ∀ job ∈ Q, ∀ res, B job = .some res → ResOK job res := fun job hj res hb =>
        hbest lvl 0 job res (hQ.jobs job hj) hb
      -- a node outside the kids of its job, or outside all jobs, is in no job of the next queue
      have hout : ∀ x, (∀ job ∈ Q, x ∈ job.ids → ∀ c ∈ kids cfg job (B job), x ∉ c.ids) →
          ∀ c ∈ p.2, x ∉ c.ids := by
        intro x hx c hc hxc
        rw [s2] at hc
        obtain ⟨j, hj, hk⟩ := List.mem_flatMap.mp hc
        have hj' := List.fst_mem_of_mem_zipIdx hj
        exact hx _ hj' ((kids_ok hm (hQ.jobs _ hj') (hresOf _ hj')).1 c hk |>.2 x hxc) c hk hxc
      refine ⟨fun job hj x hx => ?_, fun x hx => ?_⟩
      · obtain ⟨j, hjQ, rfl⟩ := List.mem_map.mp ((List.zipIdx_map_fst 0 Q).symm ▸ hj)
        have hstep := s3 j hjQ x hx
        rcases node_step cfg B j.1 x lvl fuel (gt pid x) (by omega) (hresOf _ hj) with
          ⟨c, hk, b, hxc, hnew, hsp⟩ | ⟨hno, hnew⟩
        · rw [c1 c (s2 ▸ List.mem_flatMap.mpr ⟨j, hjQ, hk⟩) x hxc, hstep, hnew, hsp]
          rfl
        · -- the one job that holds `x` has no kid for it
          rw [c2 x (hout x fun j' hj' hx' => pairwise_disj_unique hQ.disj hj hj' hx hx' ▸ hno), hstep, hnew]
      · rw [c2 x (hout x fun job hj hxj => absurd hxj (hx job hj)), s4 x hx]

theorem run_hier (cfg : Cfg) (B : Job → Best) (edges : List Edge) (n : Nat) (hm : 1 ≤ cfg.m) (hn : 2 ≤ n)
    (hsrc : ∀ e ∈ edges, e.1 < n) (hsmall : 2 * edges.length + 6 < Tbx.Flow.INV)
    (hbest : BestOK n (fun _ _ => B))
    (out : Array Nat × List (List Job)) (h : runWith cfg (fun _ _ => B) edges n = some out) :
    ∀ x, x < n → gt out.1 x =
      specId (specBest B) cfg.m cfg.r { edges := edges, ids := List.range n } x := by
  intro x hx
  rw [(levels_hier cfg B n hm hbest cfg.r 0 _ _ out (Nat.zero_add _) Array.size_replicate
    (root_queueOK edges n hn hsrc hsmall) h).1 _ (List.mem_singleton.mpr rfl) x (List.mem_range.mpr hx)]
  simp [gt, hx, specId, idOfSides, extendId, cellOf]

theorem cutEdges_iff (edges : List Edge) (pid : Array Nat) (e : Edge) :
    e ∈ cutEdges edges pid ↔ e ∈ edges ∧ gt pid e.1 ≠ gt pid e.2 := by
  simp [cutEdges, List.mem_filter]

def pairOf (c : Coord) : Int × Int := (c.lat, c.lon)

theorem cutRows_eq (edges : List Edge) (pid : Array Nat) (coord : Nat → Coord) :
    (cutRows edges pid coord).map (fun r => (pairOf r.1, pairOf r.2)) =
      expectedCut edges pid.toList (fun i => pairOf (coord i)) := by
  unfold cutRows cutEdges expectedCut
  rw [List.map_map]
  have : (edges.filter fun e => gt pid e.1 != gt pid e.2) =
      (edges.filter fun e => pid.toList.getD e.1 0 != pid.toList.getD e.2 0) := by
    apply List.filter_congr
    intro e _
    rw [gt_eq_getD, gt_eq_getD]
    rfl
  rw [this]
  rfl

theorem assignmentRows_eq (pid : Array Nat) (coord : Nat → Coord) :
    (assignmentRows pid coord).map (fun r => (r.1, (pairOf r.2).1, (pairOf r.2).2)) =
      expectedAssignment pid.toList (fun i => pairOf (coord i)) := by
  unfold assignmentRows expectedAssignment
  rw [List.map_map]
  simp only [Array.length_toList]
  apply List.map_congr_left
  intro i _
  simp [gt_eq_getD, pairOf]

def JobFull (job : Job) : Prop := ∀ x ∈ job.ids, ∃ e ∈ job.edges, e.1 = x

theorem subJob_full {job : Job} {side : List Nat} (hfull : JobFull job) (hsub : ∀ x ∈ side, x ∈ job.ids) :
    JobFull (subJob job side) := by
  intro x hx
  obtain ⟨e, he, rfl⟩ := hfull x (hsub x hx)
  refine ⟨e, ?_, rfl⟩
  unfold subJob
  exact List.mem_filter.mpr ⟨he, List.contains_iff_mem.mpr hx⟩

theorem specSides_length (cfg : Cfg) (B : Job → Best) (n : Nat) (hm : 1 ≤ cfg.m)
    (hbest : BestOK n (fun _ _ => B))
    (hfin : ∀ job, JobOK n job → JobFull job → ∃ res, B job = .some res) :
    ∀ (d : Nat) (job : Job) (x : Nat), JobOK n job → JobFull job → x ∈ job.ids →
      (specSides (specBest B) cfg.m d (cellOf job) x).length = d := by
  intro d
  induction d with
  | zero => intro job x _ _ _; rfl
  | succ d ih =>
    intro job x hjob hfull hx
    rw [specSides_succ]
    obtain ⟨res, hb⟩ := hfin job hjob hfull
    have hres := hbest 0 0 job res hjob hb
    simp only [hb]
    cases hs : sideOf res x with
    | none =>
      obtain ⟨e, he, rfl⟩ := hfull x hx
      exact absurd (hres.cover e he) (sideOf_eq_none.mp hs)
    | some b =>
      simp only [List.length_cons]
      split
      · rename_i hbig
        rw [ih _ x (subJob_ok hjob (hres.side_nodup b) (hres.side_sub b) (by omega))
          (subJob_full hfull (hres.side_sub b)) ((sideOf_eq_some hres).mp hs)]
      · rw [List.length_replicate]

end Tbx.Chipper
