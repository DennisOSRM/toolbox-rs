import Tbx.Model.RTree
/-
C12, structure of the bulk loader: arithmetic of `ceilDiv` and of chunking, the leaves partition the
element list, how many indices fall into a chunk (`count_chunk`).  Core Lean only.
-/
namespace Tbx.RTree

theorem lt_ceilDiv_iff {B : Nat} (hB : 0 < B) (w j : Nat) : j < ceilDiv w B ↔ B * j < w := by
  unfold ceilDiv
  rw [Nat.lt_iff_add_one_le, Nat.le_div_iff_mul_le hB, Nat.add_mul, Nat.mul_comm j B]
  omega

theorem ceilDiv_zero {B : Nat} (hB : 0 < B) : ceilDiv 0 B = 0 := by
  unfold ceilDiv
  apply Nat.div_eq_of_lt
  omega

theorem le_mul_ceilDiv {B : Nat} (hB : 0 < B) (w : Nat) : w ≤ B * ceilDiv w B := by
  apply Nat.le_of_not_lt
  intro h
  have := (lt_ceilDiv_iff hB w (ceilDiv w B)).mpr h
  omega

theorem ceilDiv_pos {B : Nat} (hB : 0 < B) {w : Nat} (hw : 0 < w) : 0 < ceilDiv w B :=
  (lt_ceilDiv_iff hB w 0).mpr (by omega)

theorem ceilDiv_le_one {B : Nat} (hB : 0 < B) {w : Nat} (hw : w ≤ B) : ceilDiv w B ≤ 1 := by
  apply Nat.le_of_not_lt
  intro h
  have := (lt_ceilDiv_iff hB w 1).mp h
  omega

/-- the decreasing measure of the level loop -/
theorem ceilDiv_lt {B w : Nat} (hB : 2 ≤ B) (hw : 2 ≤ w) : ceilDiv w B < w := by
  apply Nat.lt_of_not_le
  intro h
  have h1 : w - 1 < ceilDiv w B := by omega
  have h2 := (lt_ceilDiv_iff (by omega) w (w - 1)).mp h1
  obtain ⟨v, rfl⟩ : ∃ v, w = v + 2 := ⟨w - 2, by omega⟩
  have h3 : B * (v + 2 - 1) = B * v + B := by
    have : v + 2 - 1 = v + 1 := by omega
    rw [this, Nat.mul_succ]
  have h4 : 2 * v ≤ B * v := Nat.mul_le_mul_right v hB
  omega

theorem min_sub_left (B a w : Nat) : min B (w - a) = min (a + B) w - a := by
  rw [← Nat.sub_min_sub_right, Nat.add_sub_cancel_left]

theorem flatMap_chunk {α : Type} (es : List α) (k : Nat) : ∀ m,
    (List.range m).flatMap (chunk es k) = es.take (k * m) := by
  intro m
  induction m with
  | zero => simp
  | succ m ih =>
    rw [List.range_succ, List.flatMap_append, ih, List.flatMap_singleton, Nat.mul_succ, List.take_add]
    rfl

theorem chunk_range (w B j : Nat) :
    chunk (List.range w) B j = (List.range (min B (w - B * j))).map (B * j + ·) := by
  unfold chunk
  rw [List.range_eq_range', List.drop_range', List.range'_eq_map_range, ← List.map_take, List.take_range,
    Nat.mul_one, Nat.zero_add]

theorem leaves_flatten {α : Type} {L : Nat} (hL : 0 < L) (es : List α) : (leavesOf L es).flatten = es := by
  unfold leavesOf
  rw [← List.flatMap_def, flatMap_chunk]
  exact List.take_of_length_le (le_mul_ceilDiv hL _)

theorem leaves_length {α : Type} (L : Nat) (es : List α) : (leavesOf L es).length = ceilDiv es.length L := by
  simp [leavesOf]

theorem leaves_get {α : Type} (L : Nat) (es : List α) (j : Nat) (hj : j < ceilDiv es.length L) :
    (leavesOf L es)[j]? = some (chunk es L j) := by
  simp [leavesOf, List.getElem?_map, List.getElem?_range hj]

theorem chunk_length {α : Type} {L : Nat} (hL : 0 < L) (es : List α) (j : Nat) (hj : j < ceilDiv es.length L) :
    (chunk es L j).length = min (L * (j + 1)) es.length - L * j ∧ 0 < (chunk es L j).length ∧
    (chunk es L j).length ≤ L := by
  have h2 : (chunk es L j).length = min L (es.length - L * j) := by
    unfold chunk; rw [List.length_take, List.length_drop]
  rw [h2]
  exact ⟨Nat.mul_succ L j ▸ min_sub_left L (L * j) es.length,
    Nat.lt_min.mpr ⟨hL, Nat.sub_pos_of_lt ((lt_ceilDiv_iff hL _ _).mp hj)⟩, Nat.min_le_left _ _⟩

theorem count_interval {a b : Nat} (hab : a ≤ b) : ∀ w,
    ((List.range w).filter fun i => decide (a ≤ i ∧ i < b)).length = min b w - min a w := by
  intro w
  induction w with
  | zero => rw [Nat.min_zero, Nat.min_zero]; rfl
  | succ w ih =>
    rw [List.range_succ, List.filter_append, List.length_append, ih, List.filter_cons, List.filter_nil]
    by_cases hw : a ≤ w ∧ w < b
    · rw [decide_eq_true hw, if_pos rfl, Nat.min_eq_left hw.1, Nat.min_eq_left (Nat.le_succ_of_le hw.1),
        Nat.min_eq_right (Nat.le_of_lt hw.2), Nat.min_eq_right hw.2]
      exact (Nat.succ_sub hw.1).symm
    · rw [decide_eq_false hw, if_neg Bool.false_ne_true]
      rcases Nat.lt_or_ge w a with h | h
      · rw [Nat.min_eq_right (Nat.le_of_lt h), Nat.min_eq_right h, Nat.min_eq_right (Nat.le_trans (Nat.le_of_lt h) hab),
          Nat.min_eq_right (Nat.le_trans h hab), Nat.sub_self, Nat.sub_self]; rfl
      · have h2 : b ≤ w := Nat.le_of_not_lt fun hlt => hw ⟨h, hlt⟩
        rw [Nat.min_eq_left h2, Nat.min_eq_left (Nat.le_succ_of_le h2), Nat.min_eq_left h, Nat.min_eq_left (Nat.le_succ_of_le h)]; rfl

theorem count_chunk {B : Nat} (hB : 0 < B) (j : Nat) (w : Nat) :
    ((List.range w).filter fun i => i / B = j).length = min (B * (j + 1)) w - min (B * j) w := by
  rw [← count_interval (Nat.mul_le_mul_left B (Nat.le_succ j))]
  congr 2
  funext i
  exact decide_eq_decide.mpr (by rw [Nat.div_eq_iff hB, Nat.mul_comm j B, Nat.mul_succ]; omega)

end Tbx.RTree
