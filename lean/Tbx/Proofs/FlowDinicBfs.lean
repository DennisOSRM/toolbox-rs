import Tbx.Proofs.FlowGraph
import Tbx.Proofs.FlowScan
import Tbx.Model.FlowDinic
/-
C01 `dinic_bfs_exact` and the first half of termination.  One induction over each loop carries `BInv` (labelled
nodes are queued or have all their positive in-edges labelled: `false ⇒ unreachable`), `LPI` (every labelled node
has a positive edge to a node labelled one less: `true ⇒ reachable`, by a path that passes the level test of `dfs`)
and the measure `|queue| + #unlabelled`.  The labels need not be exact distances: the source may be relabelled
(DESIGN.md C01).
-/
namespace Tbx.Flow
open Tbx

/-- `Marked` of FlowScan.lean, read of a level array -/
def Lab (lv : Array Nat) (v : Nat) : Prop := gt lv v ≠ INV

theorem lab_st_mono {lv : Array Nat} {x w : Nat} (v : Nat) (hx : x ≠ INV) (h : Lab lv w) : Lab (st lv v x) w :=
  marked_st_mono lv v x w hx h

theorem lab_st_self {lv : Array Nat} {v x : Nat} (hv : v < lv.size) (hx : x ≠ INV) : Lab (st lv v x) v := by
  unfold Lab; rw [gt_st_eq _ _ _ hv]; exact hx

theorem lab_st_ne {lv : Array Nat} {v x w : Nat} (h : w ≠ v) (hl : Lab (st lv v x) w) : Lab lv w := by
  unfold Lab at hl ⊢; rwa [gt_st_ne _ _ _ _ (fun e => h e.symm)] at hl

/-- loop invariant of the reverse BFS, with `fuel` rounds of the outer loop left.  `bound`: the levels stay `fuel` short
    of `numNodes + 1` (a round uses one unit of fuel and labels with the level of the popped node plus one), so with
    `numNodes + 2 < INV` the level written, `gt lv u + 1`, is never `INV`: the `hx` of the lemmas below, and the
    only use of that hypothesis. -/
structure BInv (g : Graph) (source t : Nat) (lv : Array Nat) (q : List Nat) (fuel : Nat) : Prop where
  hsz    : lv.size = g.numNodes
  labT   : Lab lv t
  qOK    : ∀ x, x ∈ q → x < g.numNodes ∧ x ≠ source ∧ Lab lv x
  closed : ∀ x, x < g.numNodes → x ≠ source → Lab lv x → x ∈ q ∨ ∀ v, PosEdge g v x → Lab lv v
  bound  : ∀ x, x < g.numNodes → x ≠ source → Lab lv x → gt lv x + fuel ≤ g.numNodes + 1

def LPI (g : Graph) (source t : Nat) (lv : Array Nat) : Prop :=
  ∀ v, v < g.numNodes → Lab lv v → v = t ∨
    ∃ w, w < g.numNodes ∧ w ≠ source ∧ PosEdge g v w ∧ Lab lv w ∧ gt lv v = gt lv w + 1

theorem LPI.rec_on {g : Graph} {source t : Nat} {lv : Array Nat} (hlp : LPI g source t lv) {P : Nat → Prop}
    (ht : P t) (hstep : ∀ v w, PosEdge g v w → gt lv v = gt lv w + 1 → P w → P v) :
    ∀ v, v < g.numNodes → Lab lv v → P v := by
  have key : ∀ k v, v < g.numNodes → Lab lv v → gt lv v < k → P v := by
    intro k
    induction k with
    | zero => exact fun v _ _ hk => absurd hk (Nat.not_lt_zero _)
    | succ k ih =>
      intro v hv hl hk
      rcases hlp v hv hl with h | ⟨w, hw, _, hpw, hlw, hval⟩
      · exact h ▸ ht
      · exact hstep v w hpw hval (ih w hw hlw (Nat.lt_of_succ_lt_succ (show gt lv w + 1 < k + 1 from hval ▸ hk)))
  exact fun v hv hl => key _ v hv hl (Nat.lt_succ_self _)

theorem bfsEdges_skip {g : Graph} {source u e : Nat} {lv : Array Nat}
    (h : (gt g.tgt e ≠ source ∧ Lab lv (gt g.tgt e)) ∨
      ∃ rev, g.findEdge (gt g.tgt e) u = some rev ∧ gt g.cap rev < 1) (k : Nat) (q : List Nat) :
    bfsEdges g source u e (k + 1) lv q = bfsEdges g source u (e + 1) k lv q := by
  simp only [bfsEdges]
  by_cases hc : gt g.tgt e ≠ source ∧ gt lv (gt g.tgt e) ≠ INV
  · rw [if_pos hc]
  · rw [if_neg hc]
    obtain h | ⟨rev, h1, h2⟩ := h
    · exact absurd h hc
    · simp only [h1, if_pos h2]

theorem bfsEdges_label {g : Graph} {source u e rev : Nat} {lv : Array Nat}
    (h1 : ¬ (gt g.tgt e ≠ source ∧ Lab lv (gt g.tgt e))) (h2 : g.findEdge (gt g.tgt e) u = some rev)
    (h3 : ¬ gt g.cap rev < 1) (k : Nat) (q : List Nat) :
    bfsEdges g source u e (k + 1) lv q = bfsEdges g source u (e + 1) k (st lv (gt g.tgt e) (gt lv u + 1))
      (if gt g.tgt e ≠ source then q ++ [gt g.tgt e] else q) := by
  simp only [bfsEdges]
  rw [if_neg (show ¬ (gt g.tgt e ≠ source ∧ gt lv (gt g.tgt e) ≠ INV) from h1)]
  simp only [h2, if_neg h3]
  by_cases hvs : gt g.tgt e ≠ source
  · rw [if_pos hvs, if_pos hvs]
  · rw [if_neg hvs, if_neg hvs]

def Relaxed (g : Graph) (u : Nat) (lv : Array Nat) (e : Nat) : Prop :=
  Lab lv (gt g.tgt e) ∨ ∃ rev, g.findEdge (gt g.tgt e) u = some rev ∧ gt g.cap rev < 1

theorem BInv.weaken {g : Graph} {source t : Nat} {lv : Array Nat} {q : List Nat} {fuel fuel' : Nat}
    (hi : BInv g source t lv q fuel) (h : fuel' ≤ fuel) : BInv g source t lv q fuel' :=
  ⟨hi.hsz, hi.labT, hi.qOK, hi.closed, fun x hx hxs hl =>
    Nat.le_trans (Nat.add_le_add_left h _) (hi.bound x hx hxs hl)⟩

theorem mem_enqueue {x u v source : Nat} {q : List Nat} :
    x ∈ (u :: if v ≠ source then q ++ [v] else q) ↔ x ∈ u :: q ∨ (x = v ∧ v ≠ source) := by
  by_cases hvs : v ≠ source <;> simp [hvs, or_assoc]

theorem binv_label {g : Graph} {source t u v fuel : Nat} {lv : Array Nat} {q : List Nat}
    (hi : BInv g source t lv (u :: q) fuel) (hv : v < g.numNodes)
    (hx : gt lv u + 1 ≠ INV) (hb : gt lv u + 1 + fuel ≤ g.numNodes + 1) :
    BInv g source t (st lv v (gt lv u + 1)) (u :: if v ≠ source then q ++ [v] else q) fuel := by
  have hvsz : v < lv.size := by rw [hi.hsz]; exact hv
  refine ⟨by rw [size_st]; exact hi.hsz, lab_st_mono v hx hi.labT, ?_, ?_, ?_⟩
  · intro x hxq
    rcases mem_enqueue.mp hxq with h | ⟨rfl, hvs⟩
    · have := hi.qOK x h
      exact ⟨this.1, this.2.1, lab_st_mono v hx this.2.2⟩
    · exact ⟨hv, hvs, lab_st_self hvsz hx⟩
  · intro x hxn hxs hl
    by_cases hxv : x = v
    · exact Or.inl (mem_enqueue.mpr (Or.inr ⟨hxv, hxv ▸ hxs⟩))
    · rcases hi.closed x hxn hxs (lab_st_ne hxv hl) with h | h
      · exact Or.inl (mem_enqueue.mpr (Or.inl h))
      · exact Or.inr fun w hw => lab_st_mono v hx (h w hw)
  · intro x hxn hxs hl
    by_cases hxv : x = v
    · rw [hxv, gt_st_eq _ _ _ hvsz]; exact hb
    · rw [gt_st_ne _ _ _ _ (fun e => hxv e.symm)]
      exact hi.bound x hxn hxs (lab_st_ne hxv hl)

/-- `u` leaves the queue when all its slots are `Relaxed`.  `closed` for `u` is the completeness step: a positive
    in-edge `v → u` has its reverse among the slots of `u` (`RevClosed`); that slot was relaxed, so `v` is labelled or
    the reverse of the slot is saturated; by `Uniq` the reverse of the slot is the edge `v → u` itself, which is
    positive. -/
theorem binv_done {g : Graph} {source t u fuel : Nat} {lv : Array Nat} {q : List Nat}
    (huq : Uniq g) (hrc : RevClosed g) (hi : BInv g source t lv (u :: q) fuel)
    (hex : ∀ e, InRange g u e → Relaxed g u lv e) : BInv g source t lv q fuel := by
  refine ⟨hi.hsz, hi.labT, fun x hx => hi.qOK x (List.mem_cons_of_mem _ hx), ?_, hi.bound⟩
  intro x hx hxs hl
  rcases hi.closed x hx hxs hl with h | h
  · rcases List.mem_cons.mp h with rfl | h
    · right
      intro v ⟨e0, r1, r2, r3, r4⟩
      obtain ⟨e', re', te'⟩ := hrc v e0 (InRange.src_lt ⟨r1, r2⟩) ⟨r1, r2⟩
      rw [r3] at re'
      rcases hex e' re' with h4 | ⟨rev, h4, h5⟩
      · exact te' ▸ h4
      · rw [te', findEdge_eq_of_uniq huq v x e0 ⟨r1, r2⟩ r3] at h4
        cases h4
        omega
    · exact Or.inl h
  · exact Or.inr h

theorem lpi_label {g : Graph} {source t u v : Nat} {lv : Array Nat} (hlp : LPI g source t lv)
    (hu : u < g.numNodes) (hus : u ≠ source) (hlu : Lab lv u) (hv : v < lv.size)
    (hc : ¬ (v ≠ source ∧ Lab lv v)) (hpe : PosEdge g v u) (hx : gt lv u + 1 ≠ INV) :
    LPI g source t (st lv v (gt lv u + 1)) := by
  have hold : ∀ w, w ≠ source → Lab lv w → w ≠ v := fun w hws hlw e => hc (e ▸ ⟨hws, hlw⟩)
  have hgt : ∀ w, w ≠ v → gt (st lv v (gt lv u + 1)) w = gt lv w :=
    fun w hw => gt_st_ne _ _ _ _ (fun e => hw e.symm)
  intro x hxn hlx
  by_cases hxv : x = v
  · right
    refine ⟨u, hu, hus, hxv ▸ hpe, lab_st_mono v hx hlu, ?_⟩
    rw [hxv, gt_st_eq _ _ _ hv, hgt u (hold u hus hlu)]
  · rcases hlp x hxn (lab_st_ne hxv hlx) with h | ⟨w, hw, hws, hpw, hlw, hval⟩
    · exact Or.inl h
    · exact Or.inr ⟨w, hw, hws, hpw, lab_st_mono v hx hlw, by rw [hgt x hxv, hgt w (hold w hws hlw)]; exact hval⟩

theorem measure_label {source v x n : Nat} {lv : Array Nat} (q : List Nat) (hvn : v < n) (hv : v < lv.size)
    (hc : ¬ (v ≠ source ∧ Lab lv v)) (hx : x ≠ INV) :
    (if v ≠ source then q ++ [v] else q).length + unm (st lv v x) n ≤ q.length + unm lv n := by
  by_cases hvI : gt lv v = INV
  · have := unm_st_mark lv v x n hvn hv hvI hx
    split
    · rw [List.length_append, List.length_singleton]; omega
    · omega
  · have hvs : ¬ v ≠ source := fun hvs => hc ⟨hvs, hvI⟩
    rw [if_neg hvs, unm_st_remark lv v x n hvI hx]
    exact Nat.le_refl _

theorem bfsEdges_run {g : Graph} {source t u fuel : Nat} (hwf : WF g) (hrc : RevClosed g) (k : Nat) :
    ∀ (e : Nat) (lv : Array Nat) (q : List Nat), g.beginEdges u ≤ e → e + k = g.beginEdges u + g.deg u →
    BInv g source t lv (u :: q) fuel → gt lv u + 1 ≠ INV → gt lv u + 1 + fuel ≤ g.numNodes + 1 →
    (∀ e', InRange g u e' → e' < e → Relaxed g u lv e') → LPI g source t lv →
    ∃ lv' q', bfsEdges g source u e k lv q = some (lv', q') ∧ BInv g source t lv' (u :: q') fuel ∧
      (∀ e', InRange g u e' → Relaxed g u lv' e') ∧ LPI g source t lv' ∧
      q'.length + unm lv' g.numNodes ≤ q.length + unm lv g.numNodes := by
  induction k with
  | zero =>
    intro e lv q _ he hi _ _ hrel hlp
    exact ⟨lv, q, rfl, hi, fun e' hr => hrel e' hr (Nat.lt_of_lt_of_eq hr.2 he.symm), hlp, Nat.le_refl _⟩
  | succ k ih =>
    intro e lv q hr1 hr2 hi hx hb hrel hlp
    obtain ⟨hun, hus, hul⟩ := hi.qOK u List.mem_cons_self
    have hre : InRange g u e := ⟨hr1, hr2 ▸ Nat.lt_add_of_pos_right (Nat.succ_pos k)⟩
    have hr1' : g.beginEdges u ≤ e + 1 := Nat.le_succ_of_le hr1
    have hr2' : e + 1 + k = g.beginEdges u + g.deg u := (Nat.add_right_comm e 1 k).trans hr2
    have hvn : gt g.tgt e < g.numNodes := hwf.tgtOK e (hwf.inRange_lt hre)
    have hrel' : Relaxed g u lv e → ∀ e', InRange g u e' → e' < e + 1 → Relaxed g u lv e' :=
      fun hr e' hr' hlt => if he : e' = e then he ▸ hr else hrel e' hr' (Nat.lt_of_le_of_ne (Nat.le_of_lt_succ hlt) he)
    by_cases hc : gt g.tgt e ≠ source ∧ Lab lv (gt g.tgt e)
    · rw [bfsEdges_skip (Or.inl hc)]
      exact ih (e + 1) lv q hr1' hr2' hi hx hb (hrel' (Or.inl hc.2)) hlp
    · obtain ⟨e', re', te'⟩ := hrc u e hun hre
      obtain ⟨rev, hrev⟩ := findEdge_some_of_edge g (gt g.tgt e) u e' re' te'
      by_cases hcap : gt g.cap rev < 1
      · rw [bfsEdges_skip (Or.inr ⟨rev, hrev, hcap⟩)]
        exact ih (e + 1) lv q hr1' hr2' hi hx hb (hrel' (Or.inr ⟨rev, hrev, hcap⟩)) hlp
      · obtain ⟨_, hrr, htr⟩ := findEdge_spec g _ _ rev hrev
        have hvsz : gt g.tgt e < lv.size := by rw [hi.hsz]; exact hvn
        have hvu : u ≠ gt g.tgt e := fun hh => hc (hh ▸ ⟨hus, hul⟩)
        have hgu : gt (st lv (gt g.tgt e) (gt lv u + 1)) u = gt lv u := gt_st_ne _ _ _ _ (fun e => hvu e.symm)
        obtain ⟨lv', q', h1, h2, h3, h4, h5⟩ := ih (e + 1) _ _ hr1' hr2'
          (binv_label hi hvn hx hb) (by rw [hgu]; exact hx) (by rw [hgu]; exact hb)
          (fun e' hr' hlt => if he : e' = e then by rw [he]; exact Or.inl (lab_st_self hvsz hx)
            else (hrel e' hr' (Nat.lt_of_le_of_ne (Nat.le_of_lt_succ hlt) he)).imp_left (lab_st_mono _ hx))
          (lpi_label hlp hun hus hul hvsz hc ⟨rev, hrr.1, hrr.2, htr, Int.not_lt.mp hcap⟩ hx)
        refine ⟨lv', q', by rw [bfsEdges_label hc hrev hcap]; exact h1, h2, h3, h4, ?_⟩
        exact Nat.le_trans h5 (measure_label q hvn hvsz hc hx)

theorem bfsLoop_run {g : Graph} {source t : Nat} (hwf : WF g) (huq : Uniq g) (hrc : RevClosed g)
    (hN : g.numNodes + 2 < INV) (fuel : Nat) :
    ∀ (lv : Array Nat) (q : List Nat), BInv g source t lv q fuel → LPI g source t lv →
    q.length + unm lv g.numNodes < fuel →
    ∃ lv', bfsLoop g source fuel lv q = some lv' ∧ BInv g source t lv' [] 0 ∧ LPI g source t lv' := by
  induction fuel with
  | zero => intro lv q _ _ h; exact absurd h (Nat.not_lt_zero _)
  | succ fuel ih =>
    intro lv q hi hlp hm
    cases q with
    | nil => exact ⟨lv, rfl, hi.weaken (Nat.zero_le _), hlp⟩
    | cons u rest =>
      obtain ⟨hun, hus, hul⟩ := hi.qOK u List.mem_cons_self
      have hbd := hi.bound u hun hus hul
      obtain ⟨lv1, q1, h1, h2, h3, h4, h5⟩ := bfsEdges_run hwf hrc (g.deg u) (g.beginEdges u) lv rest
        (Nat.le_refl _) rfl (hi.weaken (Nat.le_succ _)) (by omega) (by rw [Nat.add_right_comm]; exact hbd)
        (fun e' hr hlt => absurd hlt (Nat.not_lt.mpr hr.1)) hlp
      simp only [bfsLoop, h1]
      rw [List.length_cons, Nat.add_right_comm] at hm
      exact ih lv1 q1 (binv_done huq hrc h2 h3) h4 (Nat.lt_of_le_of_lt h5 (Nat.lt_of_succ_lt_succ hm))

theorem bfs_run (d : Dinic) (hwf : WF d.g) (huq : Uniq d.g) (hrc : RevClosed d.g)
    (hN : d.g.numNodes + 2 < INV) (hsz : d.level.size = d.g.numNodes) (ht : d.target < d.g.numNodes)
    (hst : d.source ≠ d.target) :
    ∃ lv, d.bfs = some ({ d with level := lv, bfsCount := d.bfsCount + 1 }, gt lv d.source != INV) ∧
      BInv d.g d.source d.target lv [] 0 ∧ LPI d.g d.source d.target lv := by
  have hsz0 : d.target < (Array.replicate d.level.size INV).size := by rw [Array.size_replicate, hsz]; exact ht
  have h0 : (0 : Nat) ≠ INV := by decide
  have hlab0 : ∀ x, x < d.g.numNodes → Lab (st (Array.replicate d.level.size INV) d.target 0) x →
      x = d.target := by
    intro x hx hl
    by_cases hxt : x = d.target
    · exact hxt
    · exact absurd (gt_replicate _ INV x (by rw [hsz]; exact hx)) (lab_st_ne hxt hl)
  have hinv : BInv d.g d.source d.target (st (Array.replicate d.level.size INV) d.target 0) [d.target]
      (d.g.numNodes + 1) := by
    refine ⟨by rw [size_st, Array.size_replicate, hsz], lab_st_self hsz0 h0, ?_, ?_, ?_⟩
    · intro x hx
      rw [List.mem_singleton.mp hx]
      exact ⟨ht, fun e => hst e.symm, lab_st_self hsz0 h0⟩
    · intro x hx _ hl
      exact Or.inl (List.mem_singleton.mpr (hlab0 x hx hl))
    · intro x hx _ hl
      rw [hlab0 x hx hl, gt_st_eq _ _ _ hsz0]; omega
  have hmeas : [d.target].length + unm (st (Array.replicate d.level.size INV) d.target 0) d.g.numNodes
      < d.g.numNodes + 1 := by
    have h1 := unm_st_mark (Array.replicate d.level.size INV) d.target 0 d.g.numNodes ht hsz0
      (gt_replicate _ INV _ (by rw [hsz]; exact ht)) h0
    have h2 := unm_replicate d.level.size d.g.numNodes (by omega)
    rw [List.length_singleton]; omega
  obtain ⟨lv, hl, hi, hlp⟩ := bfsLoop_run hwf huq hrc hN _ _ _ hinv (fun v hv hl => Or.inl (hlab0 v hv hl)) hmeas
  exact ⟨lv, by unfold Dinic.bfs; simp only [hl], hi, hlp⟩

theorem lab_source_of_reach {g : Graph} {source t : Nat} {lv : Array Nat} (hwf : WF g)
    (hi : BInv g source t lv [] 0) {v : Nat} (hv : ReachG g source v) : Lab lv v → Lab lv source := by
  induction hv with
  | refl => exact id
  | @step u v _ he ih =>
    intro hl
    by_cases hvs : v = source
    · exact hvs ▸ hl
    · obtain ⟨e, _, _, h3, h4⟩ := id he
      rcases hi.closed v (h3 ▸ hwf.targetsOK e h4) hvs hl with h | h
      · cases h
      · exact ih (h u he)

theorem bfs_exact (d : Dinic) (hwf : WF d.g) (huq : Uniq d.g) (hrc : RevClosed d.g)
    (hN : d.g.numNodes + 2 < INV) (hsz : d.level.size = d.g.numNodes) (hs : d.source < d.g.numNodes)
    (ht : d.target < d.g.numNodes) (hst : d.source ≠ d.target) (d' : Dinic) (b : Bool)
    (h : d.bfs = some (d', b)) : (b = true ↔ ReachG d.g d.source d.target) := by
  obtain ⟨lv, hl, hi, hlp⟩ := bfs_run d hwf huq hrc hN hsz ht hst
  rw [hl] at h
  cases h
  rw [bne_iff_ne]
  exact ⟨hlp.rec_on (P := fun v => ReachG d.g v d.target) ReachG.refl (fun _ _ he _ hw => ReachG.head he hw)
    d.source hs, fun hr => lab_source_of_reach hwf hi hr hi.labT⟩

end Tbx.Flow
