import Tbx.Model.Fenwick
/-
Arithmetic of `lsb` (the largest power of two dividing n): the intervals (p − lsb p, p] form a
laminar family (`laminar`); what `update`, `range` and `from_values` need about covering nodes and
children follows from it by linear arithmetic.  A fact about `lsb` is unchanged when its arguments are
doubled and is immediate for an odd argument, so it is proved by induction on the binary form
(`pos_binary_induction`), writing the numbers as `2 * a` or `2 * a + 1`.
-/
namespace Tbx.Fenwick

theorem lsb_zero : lsb 0 = 0 := by rw [lsb]; simp

theorem lsb_odd (n : Nat) (h : n % 2 = 1) : lsb n = 1 := by
  rw [lsb, dif_neg (by omega), if_pos h]

theorem lsb_even (n : Nat) (h0 : n ≠ 0) (h : n % 2 = 0) : lsb n = 2 * lsb (n / 2) := by
  rw [lsb, dif_neg h0, if_neg (by omega)]

theorem lsb_two_mul_add_one (a : Nat) : lsb (2 * a + 1) = 1 := lsb_odd _ (by omega)

theorem lsb_two_mul (a : Nat) : lsb (2 * a) = 2 * lsb a := by
  by_cases ha : a = 0
  · subst ha; rw [lsb_zero]
  · rw [lsb_even (2 * a) (by omega) (by omega), Nat.mul_div_cancel_left a (by omega)]

theorem lsb_pow_mul (e a : Nat) : lsb (2 ^ e * a) = 2 ^ e * lsb a := by
  induction e with
  | zero => simp
  | succ e ih => rw [Nat.pow_succ, Nat.mul_comm _ 2, Nat.mul_assoc, lsb_two_mul, ih, Nat.mul_assoc]

theorem binary_cases (n : Nat) : ∃ a, n = 2 * a ∨ n = 2 * a + 1 := ⟨n / 2, by omega⟩

theorem pos_binary_induction {motive : (n : Nat) → 0 < n → Prop}
    (odd : ∀ a, motive (2 * a + 1) (Nat.succ_pos _))
    (even : ∀ a (ha : 0 < a), motive a ha → motive (2 * a) (Nat.mul_pos (by decide) ha))
    (n : Nat) (hn : 0 < n) : motive n hn := by
  induction n using Nat.strongRecOn with
  | ind n ih =>
    obtain ⟨a, rfl | rfl⟩ := binary_cases n
    · exact even a (by omega) (ih a (by omega) (by omega))
    · exact odd a

theorem lsb_pos (n : Nat) (h : 0 < n) : 0 < lsb n := by
  induction n, h using pos_binary_induction with
  | odd a => rw [lsb_two_mul_add_one]; omega
  | even a ha ih => rw [lsb_two_mul]; omega

theorem lsb_le (n : Nat) : lsb n ≤ n := by
  by_cases h : 0 < n
  · induction n, h using pos_binary_induction with
    | odd a => rw [lsb_two_mul_add_one]; omega
    | even a ha ih => rw [lsb_two_mul]; omega
  · have : n = 0 := by omega
    subst this; rw [lsb_zero]; omega

theorem sub_lsb_two_mul_add_one (a : Nat) : 2 * a + 1 - lsb (2 * a + 1) = 2 * a := by
  rw [lsb_two_mul_add_one, Nat.add_sub_cancel]

theorem sub_lsb_two_mul (a : Nat) : 2 * a - lsb (2 * a) = 2 * (a - lsb a) := by
  rw [lsb_two_mul, Nat.mul_sub]

/-- the intervals are laminar.  For p < r the interval of r either contains that of p, and then also the next node
    p + lsb p of the upward walk from p, or lies to the right of p, and then does not contain p + lsb p either -/
theorem laminar (p r : Nat) (hp : 0 < p) (hr : p < r) :
    (r - lsb r ≤ p - lsb p ∧ p + lsb p ≤ r) ∨ (p ≤ r - lsb r ∧ (p + lsb p ≤ r - lsb r ∨ r < p + lsb p)) := by
  induction p, hp using pos_binary_induction generalizing r with
  | odd a =>
    rw [sub_lsb_two_mul_add_one, lsb_two_mul_add_one]
    obtain ⟨b, rfl | rfl⟩ := binary_cases r
    · rw [sub_lsb_two_mul]; omega
    · rw [sub_lsb_two_mul_add_one]; omega
  | even a ha ih =>
    rw [sub_lsb_two_mul, lsb_two_mul]
    obtain ⟨b, rfl | rfl⟩ := binary_cases r
    · rw [sub_lsb_two_mul]
      have := ih b (Nat.lt_of_mul_lt_mul_left hr)
      omega
    · rw [sub_lsb_two_mul_add_one]; omega

/-- for r above p: r covers p iff r is at least the next node p + lsb p and covers it (update walk) -/
theorem cover_step (p r : Nat) (hp : 0 < p) (hr : p < r) :
    r - lsb r < p ↔ (p + lsb p ≤ r ∧ r - lsb r < p + lsb p) := by
  have := laminar p r hp hr
  have := lsb_le p
  have := lsb_pos p hp
  omega

/-- a child c of p (c + lsb c = p) lies strictly above p − lsb p -/
theorem child_above (c : Nat) (hc : 0 < c) : (c + lsb c) - lsb (c + lsb c) < c := by
  have hl := lsb_pos c hc
  have := laminar c (c + lsb c) hc (by omega)
  have := lsb_le c
  have := lsb_pos (c + lsb c) (by omega)
  have := lsb_le (c + lsb c)
  omega

/-- two children of the same node: the smaller one is at most c − lsb c -/
theorem child_gap (c c' : Nat) (hc' : 0 < c') (hlt : c' < c) (h : c' + lsb c' = c + lsb c) :
    c' ≤ c - lsb c := by
  have := laminar c' c hc' hlt
  have := lsb_pos c (by omega)
  omega

/-- below a child c of p, the next boundary c − lsb c is again a child of p or the left end of p -/
theorem child_prev (c : Nat) (hc : 0 < c) :
    (c - lsb c) + lsb (c - lsb c) = c + lsb c ∨ c - lsb c = (c + lsb c) - lsb (c + lsb c) := by
  induction c, hc using pos_binary_induction with
  | odd a =>
    -- 2a and 2a + 2 are consecutive even numbers: one of them is 2 mod 4
    rw [sub_lsb_two_mul_add_one, lsb_two_mul_add_one, show 2 * a + 1 + 1 = 2 * (a + 1) from rfl, sub_lsb_two_mul,
      lsb_two_mul]
    obtain ⟨b, rfl | rfl⟩ := binary_cases a
    · right; rw [sub_lsb_two_mul_add_one]
    · left; rw [lsb_two_mul_add_one]; omega
  | even a ha ih =>
    rw [sub_lsb_two_mul, lsb_two_mul, lsb_two_mul, ← Nat.mul_add, ← Nat.mul_add, sub_lsb_two_mul]
    omega

/-- nesting used by `range`: if y covers a and a < y then the left end of y is at most the left end of a -/
theorem cover_nest (y a : Nat) (ha : 0 < a) (h1 : y - lsb y < a) (h2 : a < y) : y - lsb y ≤ a - lsb a := by
  have := laminar a y ha h2
  omega

end Tbx.Fenwick
