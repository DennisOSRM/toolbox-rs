import Tbx.Model.Arr
/-
The offsets array of `StaticGraph::new_from_sorted_list`, proved once.

The Rust reads an edge list sorted by source and pushes, for every node `i`, the position at which the edges of
source `i` end.  Three models write the same two loops over different inputs: `Csr.skipLoop/offsetsLoop` (array of
pairs), `Flow.advance/buildNodes` (array of `Edge`), `SG.skipLoop/offsetsLoop` (list of `InEdge`, read by `getD`);
`DG.newFromSortedList` shares `SG.skipLoop`.  Here the input is only `src : Nat → Nat` (source of the edge at a
position) and `len` (number of edges), and a loop is any function with the loop's recursion equations (`Skip`, `Offs`).
Each model states once that its loops have them (`Csr.loops`, `Flow.loops`, `SG.loops`), with all four equations by `rfl`.

Result: on a sorted input (`Mono`) the array is `cntBelow 0, cntBelow 1, …`, where `cntBelow u` counts the edges of
source `< u` (`Offs.build`); position `e` is below `cntBelow u` iff its source is below `u` (`lt_cntBelow_iff`), so
the edges of source `u` are the positions `cntBelow u ≤ e < cntBelow (u + 1)` (`mem_slice_iff`).

Last, the loop of `find_edge` over such a slice (`SG.findLoop`, `DG.findLoop`: the same text; `Flow.Graph.findFrom`:
position and count in the other order), again for any function with its two equations (`find_some`, `find_none`; at a
model `(fun _ => rfl) (fun _ _ => rfl)`).  Core Lean only.
-/
namespace Tbx.Offsets
open Tbx

def cntBelow (src : Nat → Nat) (len u : Nat) : Nat := (List.range len).countP fun j => decide (src j < u)

def Mono (src : Nat → Nat) (len : Nat) : Prop := ∀ i j, i ≤ j → j < len → src i ≤ src j

/-- `while off != len && src off == i { off += 1 }` with fuel -/
structure Skip (src : Nat → Nat) (len : Nat) (skip : Nat → Nat → Nat → Nat) : Prop where
  zero : ∀ i off, skip i 0 off = off
  succ : ∀ i fuel off, skip i (fuel + 1) off = if off ≠ len ∧ src off = i then skip i fuel (off + 1) else off

/-- `for i in i..i+k { skip; push(off) }` -/
structure Offs (len : Nat) (skip : Nat → Nat → Nat → Nat) (offs : Nat → Nat → Nat → Array Nat → Array Nat) : Prop where
  zero : ∀ i off acc, offs 0 i off acc = acc
  succ : ∀ k i off acc, offs (k + 1) i off acc =
    offs k (i + 1) (skip i (len - off) off) (acc.push (skip i (len - off) off))

variable {src : Nat → Nat} {len : Nat}

theorem cntBelow_le_len (src : Nat → Nat) (len u : Nat) : cntBelow src len u ≤ len :=
  Nat.le_trans (List.countP_le_length ..) (Nat.le_of_eq List.length_range)

theorem cntBelow_mono (src : Nat → Nat) (len : Nat) {u v : Nat} (h : u ≤ v) : cntBelow src len u ≤ cntBelow src len v :=
  List.countP_mono_left fun _ _ hj => decide_eq_true (Nat.lt_of_lt_of_le (of_decide_eq_true hj) h)

theorem cntBelow_zero (src : Nat → Nat) (len : Nat) : cntBelow src len 0 = 0 := by
  simp [cntBelow]

theorem cntBelow_all {u : Nat} (h : ∀ j, j < len → src j < u) : cntBelow src len u = len := by
  rw [cntBelow, List.countP_eq_length.mpr fun j hj => decide_eq_true (h j (List.mem_range.mp hj)), List.length_range]

theorem lt_cntBelow_iff (hm : Mono src len) {j u : Nat} (hj : j < len) : j < cntBelow src len u ↔ src j < u := by
  induction len with
  | zero => exact absurd hj (Nat.not_lt_zero j)
  | succ n ih =>
    have ih := ih fun a b hab hb => hm a b hab (Nat.lt_succ_of_lt hb)
    have hle := cntBelow_le_len src n u
    have hc : cntBelow src (n + 1) u = cntBelow src n u + if src n < u then 1 else 0 := by
      simp only [cntBelow, List.range_succ, List.countP_append, List.countP_singleton, decide_eq_true_eq]
    rw [hc]
    by_cases hn : src n < u
    · -- the last source is below `u`, so all are
      have hall := fun i (hi : i < n + 1) => Nat.lt_of_le_of_lt (hm i n (Nat.le_of_lt_succ hi) (Nat.lt_succ_self n)) hn
      rw [cntBelow_all fun i hi => hall i (Nat.lt_succ_of_lt hi), if_pos hn]
      exact iff_of_true hj (hall j hj)
    · rw [if_neg hn, Nat.add_zero]
      rcases Nat.lt_succ_iff_lt_or_eq.mp hj with h | rfl
      · exact ih h
      · exact iff_of_false (Nat.not_lt.mpr hle) hn

theorem mem_slice_iff (hm : Mono src len) (u e : Nat) :
    cntBelow src len u ≤ e ∧ e < cntBelow src len (u + 1) ↔ e < len ∧ src e = u := by
  refine ⟨fun ⟨h1, h2⟩ => ?_, fun ⟨he, hs⟩ => ⟨Nat.le_of_not_lt fun h => Nat.ne_of_lt ((lt_cntBelow_iff hm he).mp h) hs,
    (lt_cntBelow_iff hm he).mpr (hs ▸ Nat.lt_succ_self _)⟩⟩
  have he := Nat.lt_of_lt_of_le h2 (cntBelow_le_len src len (u + 1))
  exact ⟨he, Nat.le_antisymm (Nat.le_of_lt_succ ((lt_cntBelow_iff hm he).mp h2))
    (Nat.le_of_not_lt fun h => Nat.not_lt.mpr h1 ((lt_cntBelow_iff hm he).mpr h))⟩

/-- `mem_slice_iff` for a node array that holds the offsets, in the form `begin ≤ e < begin + out_degree` -/
theorem mem_range_iff (hm : Mono src len) {A : Array Nat} {u : Nat} (h0 : gt A u = cntBelow src len u)
    (h1 : gt A (u + 1) = cntBelow src len (u + 1)) (e : Nat) :
    gt A u ≤ e ∧ e < gt A u + (gt A (u + 1) - gt A u) ↔ e < len ∧ src e = u := by
  rw [h0, h1, Nat.add_sub_cancel' (cntBelow_mono src len (Nat.le_succ u))]; exact mem_slice_iff hm u e

theorem Skip.eq {skip : Nat → Nat → Nat → Nat} (hk : Skip src len skip) (hm : Mono src len) {i : Nat} : ∀ fuel off,
    cntBelow src len i ≤ off → off ≤ cntBelow src len (i + 1) → len - off ≤ fuel →
    skip i fuel off = cntBelow src len (i + 1) := by
  have hle := cntBelow_le_len src len (i + 1)
  intro fuel
  induction fuel with
  | zero =>
    intro off _ h2 hf
    exact (hk.zero i off).trans (Nat.le_antisymm h2 (Nat.le_trans hle (Nat.le_of_sub_eq_zero (Nat.le_zero.mp hf))))
  | succ fuel ih =>
    intro off h1 h2 hf
    rw [hk.succ]
    split
    · rename_i hc
      have hlt := Nat.lt_of_le_of_ne (Nat.le_trans h2 hle) hc.1
      exact ih (off + 1) (Nat.le_succ_of_le h1) ((lt_cntBelow_iff hm hlt).mpr (hc.2 ▸ Nat.lt_succ_self _))
        (Nat.pred_le_pred hf)
    · -- were the offset of `i + 1` further on, position `off` would have source `i` and the loop go on
      rename_i hc
      refine Nat.le_antisymm h2 (Nat.le_of_not_lt fun h => hc ?_)
      have hlt := Nat.lt_of_lt_of_le h hle
      exact ⟨Nat.ne_of_lt hlt, Nat.le_antisymm (Nat.le_of_lt_succ ((lt_cntBelow_iff hm hlt).mp h))
        (Nat.le_of_not_lt fun h' => Nat.not_lt.mpr h1 ((lt_cntBelow_iff hm hlt).mpr h'))⟩

theorem Offs.spec {skip : Nat → Nat → Nat → Nat} {offs : Nat → Nat → Nat → Array Nat → Array Nat}
    (ho : Offs len skip offs) (hk : Skip src len skip) (hm : Mono src len) : ∀ (k i off : Nat) (acc : Array Nat),
    acc.size = i + 1 → (∀ j, j ≤ i → gt acc j = cntBelow src len j) → off = cntBelow src len i →
    (offs k i off acc).size = i + 1 + k ∧ ∀ j, j ≤ i + k → gt (offs k i off acc) j = cntBelow src len j := by
  intro k
  induction k with
  | zero => intro i off acc hsz hacc _; rw [ho.zero]; exact ⟨hsz, hacc⟩
  | succ k ih =>
    intro i off acc hsz hacc hoff
    rw [ho.succ, hoff, hk.eq hm _ _ (Nat.le_refl _) (cntBelow_mono src len (Nat.le_succ i)) (Nat.le_refl _)]
    have r := ih (i + 1) _ (acc.push (cntBelow src len (i + 1))) (by rw [Array.size_push, hsz]) (fun j hj => by
      rcases Nat.lt_or_eq_of_le hj with c | rfl
      · rw [gt_push_lt _ _ _ (hsz ▸ c)]; exact hacc j (Nat.le_of_lt_succ c)
      · exact hsz ▸ gt_push_eq acc _) rfl
    rwa [Nat.add_right_comm i 1 k, Nat.add_right_comm (i + 1) 1 k] at r

theorem Offs.build {skip : Nat → Nat → Nat → Nat} {offs : Nat → Nat → Nat → Array Nat → Array Nat}
    (ho : Offs len skip offs) (hk : Skip src len skip) (hm : Mono src len) {n : Nat} (hn : ∀ j, j < len → src j ≤ n) :
    ((offs n 0 0 #[0]).push len).size = n + 2 ∧
    (∀ u, u ≤ n + 1 → gt ((offs n 0 0 #[0]).push len) u = cntBelow src len u) ∧
    gt ((offs n 0 0 #[0]).push len) (n + 1) = len := by
  obtain ⟨h1, h2⟩ := ho.spec hk hm n 0 0 #[0] rfl
    (fun j hj => by rw [Nat.le_zero.mp hj, cntBelow_zero]; rfl) (cntBelow_zero src len).symm
  generalize offs n 0 0 #[0] = A at h1 h2
  rw [Nat.zero_add] at h1 h2
  have hsz : A.size = n + 1 := h1.trans (Nat.add_comm 1 n)
  have hlast : gt (A.push len) (n + 1) = len := hsz ▸ gt_push_eq A len
  refine ⟨by rw [Array.size_push, hsz], fun u hu => ?_, hlast⟩
  rcases Nat.lt_or_eq_of_le hu with c | rfl
  · rw [gt_push_lt _ _ _ (hsz ▸ c)]; exact h2 u (Nat.le_of_lt_succ c)
  · rw [hlast, cntBelow_all fun j hj => Nat.lt_succ_of_le (hn j hj)]

theorem mono_getD {α : Type} [Inhabited α] (f : α → Nat) {l : List α} (h : l.Pairwise fun a b => f a ≤ f b) :
    Mono (fun j => f (l.getD j default)) l.length := by
  intro i j hij hj
  have hi : i < l.length := Nat.lt_of_le_of_lt hij hj
  simp only [List.getD_eq_getElem?_getD, List.getElem?_eq_getElem hi, List.getElem?_eq_getElem hj, Option.getD_some]
  rcases Nat.lt_or_eq_of_le hij with c | rfl
  · exact List.pairwise_iff_getElem.mp h i j hi hj c
  · exact Nat.le_refl _

theorem mono_toArray {α : Type} [Inhabited α] (f : α → Nat) {l : List α} (h : l.Pairwise fun a b => f a ≤ f b) :
    Mono (fun j => f (gt l.toArray j)) l.toArray.size := by
  simp only [gt_toArray]; exact mono_getD f h

theorem countP_eq_cntBelow {α : Type} [Inhabited α] (f : α → Nat) (l : List α) (u : Nat) :
    l.countP (fun e => decide (f e < u)) = cntBelow (fun j => f (l.getD j default)) l.length u := by
  induction l with
  | nil => rfl
  | cons a l ih =>
    simp only [cntBelow, List.length_cons, List.range_succ_eq_map, List.countP_cons, List.countP_map] at ih ⊢
    rw [ih]; rfl

section find
variable {p : Nat → Prop} {dec : DecidablePred p} {find : Nat → Nat → Option Nat} (h0 : ∀ e, find 0 e = none)
  (hs : ∀ k e, find (k + 1) e = if p e then some e else find k (e + 1))
include h0 hs

/-- `for e in e..e+k { if p e { return Some(e) } } None` is `Range::find` -/
theorem find_eq (k e : Nat) : find k e = (List.range' e k).find? fun j => decide (p j) := by
  induction k generalizing e with
  | zero => exact h0 e
  | succ k ih =>
    rw [hs, List.range'_succ, List.find?_cons, ih]
    by_cases h : p e
    · rw [if_pos h, decide_eq_true h]
    · rw [if_neg h, decide_eq_false h]

theorem find_some {k e r : Nat} (h : find k e = some r) : e ≤ r ∧ r < e + k ∧ p r ∧ ∀ j, e ≤ j → j < r → ¬ p j := by
  rw [find_eq h0 hs, List.find?_range'_eq_some] at h
  simp only [Bool.not_eq_true', decide_eq_false_iff_not, decide_eq_true_eq, List.mem_range'_1] at h
  exact ⟨h.2.1.1, h.2.1.2, h.1, h.2.2⟩

theorem find_none {k e : Nat} : find k e = none ↔ ∀ j, e ≤ j → j < e + k → ¬ p j := by
  simp only [find_eq h0 hs, List.find?_range'_eq_none, Bool.not_eq_true', decide_eq_false_iff_not]

end find

end Tbx.Offsets
