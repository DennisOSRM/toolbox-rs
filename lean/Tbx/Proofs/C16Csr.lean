import Tbx.Proofs.C16Arr
import Tbx.Spec.Components
import Tbx.Proofs.Offsets
import Tbx.Proofs.InsertSort
/-
The CSR construction of `Model/Csr.lean` (`StaticGraph::new`: sort, offsets, sentinel) builds a
well-formed graph whose edges are exactly the input's.  This links the C16 theorems, stated for
well-formed CSR graphs, to arbitrary input edge lists.  The offsets loops are proved in `Proofs/Offsets.lean`.
-/
namespace Tbx.Csr
open Tbx Offsets

def SrcSorted (l : List (Nat × Nat)) : Prop := List.Pairwise (fun a b => a.1 ≤ b.1) l

theorem insertSorted_mem (e : Nat × Nat) : ∀ (l : List (Nat × Nat)) (p : Nat × Nat),
    p ∈ insertSorted e l ↔ p = e ∨ p ∈ l :=
  fun _ _ => InsertSort.mem_ins insertSorted (fun _ => rfl) (fun _ _ _ => (ite_not ..).symm)

theorem edgeLe_src (x e : Nat × Nat) : (edgeLe x e = true → x.1 ≤ e.1) ∧ (¬ edgeLe x e = true → e.1 ≤ x.1) := by
  simp only [edgeLe, Bool.or_eq_true, decide_eq_true_eq, Bool.and_eq_true, beq_iff_eq, not_or, not_and]
  omega

theorem insertSorted_sorted (e : Nat × Nat) : ∀ (l : List (Nat × Nat)), SrcSorted l → SrcSorted (insertSorted e l) :=
  fun l h => InsertSort.pairwise_ins insertSorted (fun _ => rfl) (fun _ _ _ => (ite_not ..).symm) e l h Nat.le_trans
    fun x _ => ⟨(edgeLe_src x e).2, fun hc => (edgeLe_src x e).1 (Decidable.not_not.mp hc)⟩

theorem sortEdges_spec (es : List (Nat × Nat)) : SrcSorted (sortEdges es) ∧ ∀ p, p ∈ sortEdges es ↔ p ∈ es :=
  ⟨InsertSort.pairwise_foldl insertSorted_sorted es [] .nil, fun p => by
    rw [sortEdges, (InsertSort.perm_foldl
      (InsertSort.perm_ins insertSorted (fun _ => rfl) (fun _ _ _ => (ite_not ..).symm)) es []).mem_iff, List.append_nil]⟩

theorem maxId_ge : ∀ (es : List (Nat × Nat)) (m : Nat), m ≤ maxId es m ∧ ∀ e, e ∈ es → e.1 ≤ maxId es m ∧ e.2 ≤ maxId es m := by
  intro es
  induction es with
  | nil => intro m; exact ⟨Nat.le_refl _, fun e he => by cases he⟩
  | cons x xs ih =>
    intro m
    obtain ⟨h1, h2⟩ := ih (max x.2 (max x.1 m))
    obtain ⟨ha, hbm⟩ := Nat.max_le.mp h1
    obtain ⟨hb, hm⟩ := Nat.max_le.mp hbm
    refine ⟨hm, fun e he => ?_⟩
    rcases List.mem_cons.mp he with rfl | he
    · exact ⟨hb, ha⟩
    · exact h2 e he

/-- the constructor's loops are the shared ones, read at `src j = (gt a j).1` -/
theorem loops (a : Array (Nat × Nat)) : Skip (fun j => (gt a j).1) a.size (skipLoop a) ∧
    Offs a.size (skipLoop a) (offsetsLoop a) :=
  ⟨⟨fun _ _ => rfl, fun _ _ _ => rfl⟩, ⟨fun _ _ _ => rfl, fun _ _ _ _ => rfl⟩⟩

theorem ofSorted_spec (inp : List (Nat × Nat)) (hs : SrcSorted inp) :
    (ofSorted inp).nodes.size = maxId inp 0 + 2 ∧ (ofSorted inp).targets.size = inp.length ∧
    (∀ u, u ≤ maxId inp 0 + 1 →
      gt (ofSorted inp).nodes u = cntBelow (fun j => (gt inp.toArray j).1) inp.toArray.size u) ∧
    (∀ e, e < inp.length → gt (ofSorted inp).targets e = (gt inp.toArray e).2) ∧
    gt (ofSorted inp).nodes (maxId inp 0 + 1) = inp.length := by
  obtain ⟨h1, h2, h3⟩ := (loops inp.toArray).2.build (loops inp.toArray).1 (mono_toArray Prod.fst hs)
    (n := maxId inp 0) fun j hj => ((maxId_ge inp 0).2 _ (mem_toList_iff_gt (a := inp.toArray).mpr ⟨j, hj, rfl⟩)).1
  exact ⟨h1, by simp [ofSorted], h2, fun e he => by simp [ofSorted, gt, he], h3⟩

theorem numNodes_ofEdges (es : List (Nat × Nat)) : numNodes (ofEdges es) = maxId (sortEdges es) 0 + 1 := by
  obtain ⟨h1, _⟩ := ofSorted_spec (sortEdges es) (sortEdges_spec es).1
  show (ofSorted (sortEdges es)).nodes.size - 1 = _
  rw [h1]; rfl

theorem ofEdges_wf (es : List (Nat × Nat)) : WF (ofEdges es) := by
  obtain ⟨h1, h2, h3, h4, h5⟩ := ofSorted_spec (sortEdges es) (sortEdges_spec es).1
  have hn := numNodes_ofEdges es
  refine ⟨h1 ▸ Nat.le_add_left 1 _, fun i hi => ?_, by rw [hn]; exact h5.trans h2.symm, fun e he => ?_⟩
  · rw [hn] at hi
    rw [ofEdges, h3 i (Nat.le_of_lt hi), h3 (i + 1) hi]
    exact cntBelow_mono _ _ (Nat.le_succ i)
  · have he' : e < (sortEdges es).length := h2 ▸ he
    rw [hn]
    show gt (ofSorted (sortEdges es)).targets e < _
    rw [h4 e he']
    exact Nat.lt_succ_of_le ((maxId_ge (sortEdges es) 0).2 _
      (mem_toList_iff_gt (a := (sortEdges es).toArray).mpr ⟨e, by simpa using he', rfl⟩)).2

theorem mem_edgesOf_ofEdges (es : List (Nat × Nat)) (u v : Nat) : (u, v) ∈ edgesOf (ofEdges es) ↔ (u, v) ∈ es := by
  obtain ⟨hs, hmem⟩ := sortEdges_spec es
  obtain ⟨h1, h2, h3, h4, h5⟩ := ofSorted_spec (sortEdges es) hs
  suffices key : CycleCheck.E (ofEdges es) u v ↔
      ∃ e, e < (sortEdges es).toArray.size ∧ gt (sortEdges es).toArray e = (u, v) from
    key.trans ((mem_toList_iff_gt (a := (sortEdges es).toArray)).symm.trans (hmem _))
  rw [mem_edgesOf, mem_succs, numNodes_ofEdges]
  simp only [ofEdges, outDegree, beginEdges, endEdges, target]
  have hsz : (sortEdges es).toArray.size = (sortEdges es).length := List.size_toArray
  have hr := fun (hu : u < maxId (sortEdges es) 0 + 1) =>
    mem_range_iff (mono_toArray Prod.fst hs) (h3 u (Nat.le_of_lt hu)) (h3 (u + 1) hu)
  constructor
  · rintro ⟨hu, e, he1, he2, he3⟩
    obtain ⟨hem, hsrc⟩ := (hr hu e).mp ⟨he1, he2⟩
    exact ⟨e, hem, Prod.ext hsrc ((h4 e (hsz ▸ hem)).symm.trans he3)⟩
  · rintro ⟨e, hem, hpe⟩
    have hub : u < maxId (sortEdges es) 0 + 1 :=
      Nat.lt_succ_of_le ((maxId_ge (sortEdges es) 0).2 _ (mem_toList_iff_gt (a := (sortEdges es).toArray).mpr ⟨e, hem, hpe⟩)).1
    obtain ⟨hge, hlt⟩ := (hr hub e).mpr ⟨hem, by rw [hpe]⟩
    exact ⟨hub, e, hge, hlt, by rw [h4 e (hsz ▸ hem), hpe]⟩

theorem reach_ofEdges (es : List (Nat × Nat)) (u v : Nat) :
    Comp.Reach (edgesOf (ofEdges es)) u v ↔ Comp.Reach es u v :=
  ⟨Comp.Reach.mono fun (a, b) hp => (mem_edgesOf_ofEdges es a b).mp hp,
   Comp.Reach.mono fun (a, b) hp => (mem_edgesOf_ofEdges es a b).mpr hp⟩

theorem sameSCC_ofEdges (es : List (Nat × Nat)) (u v : Nat) :
    Comp.SameSCC (edgesOf (ofEdges es)) u v ↔ Comp.SameSCC es u v := by
  simp only [Comp.SameSCC, reach_ofEdges]

theorem hasCycle_ofEdges (es : List (Nat × Nat)) : Comp.HasCycle (edgesOf (ofEdges es)) ↔ Comp.HasCycle es := by
  simp only [Comp.HasCycle, mem_edgesOf_ofEdges, reach_ofEdges]

end Tbx.Csr
