import Tbx.Proofs.DijkstraBasic
/-
The queue interface the Dijkstra proofs rely on (`HeapLaws`, an explicit hypothesis, discharged for
the heap model in Tbx/Proofs/DijkstraHeapInst.lean) and the effect of one edge relaxation on the
queue's observers (`relax_spec`).
-/
namespace Tbx.Dijkstra
open Tbx Tbx.AHeap

structure HeapLaws (Inv : Heap → Prop) : Prop where
  inv_init : ∀ a b : Int, Inv (init a b)
  contains_inserted : ∀ q x, Inv q → contains q x = true → inserted q x = true
  insert_ok : ∀ q id w d, Inv q → inserted q id = false → q.wmin ≤ w →
    Inv (insert q id w d) ∧
    (∀ x, inserted (insert q id w d) x = (x == id || inserted q x)) ∧
    (∀ x, contains (insert q id w d) x = (x == id || contains q x)) ∧
    (∀ x, weight (insert q id w d) x = if x = id then w else weight q x) ∧
    (∀ x, data? (insert q id w d) x = if x = id then some d else data? q x)
  decd_ok : ∀ q id w d, Inv q → contains q id = true → q.wmin ≤ w → w ≤ weight q id →
    ∃ q', decreaseKeyData q id w d = some q' ∧ Inv q' ∧
    (∀ x, inserted q' x = inserted q x) ∧
    (∀ x, contains q' x = contains q x) ∧
    (∀ x, weight q' x = if x = id then w else weight q x) ∧
    (∀ x, data? q' x = if x = id then some d else data? q x)
  delmin_ok : ∀ q, Inv q → isEmpty q = false →
    ∃ q' u, deleteMin q = some (q', u) ∧ Inv q' ∧ contains q u = true ∧
    (∀ x, contains q x = true → weight q u ≤ weight q x) ∧
    (∀ x, contains q' x = (contains q x && x != u)) ∧
    (∀ x, inserted q' x = inserted q x) ∧
    (∀ x, weight q' x = weight q x) ∧
    (∀ x, data? q' x = data? q x)
  empty_iff : ∀ q, Inv q → (isEmpty q = true ↔ ∀ x, contains q x = false)
  data_some : ∀ q x, Inv q → inserted q x = true → ∃ d, data? q x = some d
  weight_wmax : ∀ q x, Inv q → inserted q x = false → weight q x = q.wmax
  /-- at most `inserted_len` distinct ids are inserted -/
  inserted_bound : ∀ q (l : List Int), Inv q → l.Nodup → (∀ x ∈ l, inserted q x = true) → l.length ≤ insertedLen q

variable {Inv : Heap → Prop}

def Improves (q : Heap) (v nd : Int) : Prop :=
  inserted q v = false ∨ (contains q v = true ∧ weight q v > nd)

theorem relax_spec (L : HeapLaws Inv) (q : Heap) (u d : Int) (v w : Nat) (hi : Inv q) (hw : q.wmin = 0)
    (hd : 0 ≤ d) :
    ∃ q', relax q u d v w = some q' ∧
      ((¬ Improves q v (d + w) ∧ q' = q) ∨
       (Improves q v (d + w) ∧ Inv q' ∧
        (∀ x, x ≠ (v : Int) → inserted q' x = inserted q x ∧ contains q' x = contains q x ∧
          weight q' x = weight q x ∧ data? q' x = data? q x) ∧
        inserted q' v = true ∧ contains q' v = true ∧ weight q' v = d + w ∧ data? q' v = some u)) := by
  have hnd : q.wmin ≤ d + (w : Int) := by rw [hw]; omega
  rw [relax_eq]
  unfold relaxPre
  cases hins : inserted q (v : Int) with
  | false =>
    obtain ⟨i1, i2, i3, i4, i5⟩ := L.insert_ok q v (d + w) u hi hins hnd
    refine ⟨insert q v (d + w) u, ?_, Or.inr ⟨Or.inl hins, i1, fun x hx => ?_, ?_⟩⟩
    · simp [i4]
    · rw [i2, i3, i4, i5, beq_false_of_ne hx, if_neg hx, if_neg hx]
      exact ⟨rfl, rfl, rfl, rfl⟩
    · rw [i2, i3, i4, i5]; simp
  | true =>
    rw [Bool.not_true, if_neg Bool.false_ne_true]
    by_cases hc : (contains q (v : Int) && decide (weight q (v : Int) > d + w)) = true
    · rw [if_pos hc]
      simp only [Bool.and_eq_true, decide_eq_true_eq] at hc
      obtain ⟨q', e, i1, i2, i3, i4, i5⟩ := L.decd_ok q v (d + w) u hi hc.1 hnd (Int.le_of_lt hc.2)
      refine ⟨q', e, Or.inr ⟨Or.inr hc, i1, fun x hx => ?_, ?_⟩⟩
      · rw [i2, i3, i4, i5, if_neg hx, if_neg hx]
        exact ⟨rfl, rfl, rfl, rfl⟩
      · rw [i2, i3, i4, i5, if_pos rfl, if_pos rfl]
        exact ⟨hins, hc.1, rfl, rfl⟩
    · rw [if_neg hc]
      refine ⟨q, rfl, Or.inl ⟨?_, rfl⟩⟩
      rintro (h | h)
      · rw [hins] at h; cases h
      · exact hc (by simp [h.1, h.2])

end Tbx.Dijkstra
