import Tbx.Model.CycleCheck
import Tbx.Proofs.C16Arr
import Tbx.Spec.Components
/-
`cycle_check` (`Model/CycleCheck.lean`).
The explicit stack is read as a list of levels, deepest first, followed by the pending entries
`pend` on top.  A level `(x, sibs)` is a grey node `x` whose copy on the stack is being explored,
with the still unexplored entries `sibs` below it that the same scan pushed; `pend` are the
unexplored entries pushed by the deepest grey node (or the root, while nothing is grey).
`fin` is the ghost list of nodes that have been blackened, most recent first; every successor of
a finished node finished earlier (`Topo`), which excludes cycles.
A lower copy of a node pushed twice may sit among the pending entries while the node is grey
(because a higher copy is being explored) or already black (it is then greyed and scanned a
second time, finds only finished successors, and is blackened again): `LevelsOK` only excludes
pending copies of the grey nodes at or below the level that pushed them.
-/
namespace Tbx.CycleCheck
open Tbx Tbx.Csr Tbx.Comp

/-- the targets in the `k` edge slots from `e` on, which is what `scan` runs through; from `beginEdges g u` with
    `k = outDegree g u` they are `succs g u` -/
def scanTargets (g : Graph) (e k : Nat) : List Nat := (List.range' e k).map (target g)

theorem scan_spec (g : Graph) (colors : Array Color) :
    ∀ (k e : Nat) (stack : Array Nat), (∀ t ∈ scanTargets g e k, t < colors.size) →
      (scan g colors k e stack = .found ∧ ∃ t ∈ scanTargets g e k, gt colors t = .grey) ∨
      ∃ stack', scan g colors k e stack = .cont stack' ∧ (∀ t ∈ scanTargets g e k, gt colors t ≠ .grey) ∧
        stack'.toList = stack.toList ++ (scanTargets g e k).filter (fun t => gt colors t = .white) := by
  intro k
  induction k with
  | zero => intro e stack _; exact Or.inr ⟨stack, rfl, by simp [scanTargets], by simp [scanTargets]⟩
  | succ k ih =>
    intro e stack hb
    have hts : scanTargets g e (k + 1) = target g e :: scanTargets g (e + 1) k := by
      simp [scanTargets, List.range'_succ]
    rw [hts] at hb ⊢
    obtain ⟨h0, hb⟩ := List.forall_mem_cons.mp hb
    simp only [scan, if_neg (Nat.not_le.mpr h0), List.forall_mem_cons, List.filter_cons]
    cases hc : gt colors (target g e) with
    | white =>
      rcases ih (e + 1) (stack.push (target g e)) hb with ⟨hf, t, ht, hg⟩ | ⟨s', hs, hng, hl⟩
      · exact Or.inl ⟨hf, t, List.mem_cons_of_mem _ ht, hg⟩
      · exact Or.inr ⟨s', hs, ⟨Color.noConfusion, hng⟩, by simp [hl]⟩
    | grey => exact Or.inl ⟨rfl, _, List.mem_cons_self, hc⟩
    | black =>
      rcases ih (e + 1) stack hb with ⟨hf, t, ht, hg⟩ | ⟨s', hs, hng, hl⟩
      · exact Or.inl ⟨hf, t, List.mem_cons_of_mem _ ht, hg⟩
      · exact Or.inr ⟨s', hs, ⟨Color.noConfusion, hng⟩, by simp [hl]⟩

abbrev Level := Nat × List Nat

/-- the part of the stack (bottom first) that a list of levels (deepest first) stands for -/
def flat : List Level → List Nat
  | [] => []
  | l :: fs => flat fs ++ l.2 ++ [l.1]

def greys (fs : List Level) : List Nat := fs.map (·.1)

theorem length_le_flat : ∀ fs : List Level, fs.length ≤ (flat fs).length
  | [] => Nat.le_refl _
  | l :: fs => by
    simp only [flat, List.length_append, List.length_cons, List.length_nil]
    exact Nat.succ_le_succ (Nat.le_trans (length_le_flat fs) (Nat.le_add_right _ _))

/-- `ch` are the entries that the scan of the deepest grey node `x` left directly above it: all of them are
    successors of `x` and none is `x` or a grey node below it; every other successor of `x` has finished.
    The same holds one level down for `x` and its pending siblings. -/
def LevelsOK (g : Graph) (fin : List Nat) : List Nat → List Level → Prop
  | _, [] => True
  | ch, l :: fs =>
    (∀ c ∈ ch, E g l.1 c ∧ c ∉ l.1 :: greys fs) ∧ (∀ v, E g l.1 v → v ∈ fin ∨ v ∈ ch) ∧
    LevelsOK g fin (l.2 ++ [l.1]) fs

theorem LevelsOK.not_grey {g : Graph} {fin ch : List Nat} {fs : List Level} (h : LevelsOK g fin ch fs) :
    ∀ c ∈ ch, c ∉ greys fs := by
  cases fs with
  | nil => intro c _ hc; cases hc
  | cons l fs => exact fun c hc => (h.1 c hc).2

theorem LevelsOK.reach {g : Graph} {fin : List Nat} {fs : List Level} :
    ∀ {ch : List Nat}, LevelsOK g fin ch fs → ∀ c ∈ ch, ∀ y ∈ greys fs, Reach (edgesOf g) y c := by
  induction fs with
  | nil => intro _ _ _ _ y hy; cases hy
  | cons l fs ih =>
    intro ch h c hc y hy
    have hxc : Reach (edgesOf g) l.1 c := Reach.single (h.1 c hc).1
    rcases List.mem_cons.mp hy with rfl | hy
    · exact hxc
    · exact (ih h.2.2 l.1 (by simp) y hy).trans hxc

theorem LevelsOK.mono {g : Graph} {fin fin' : List Nat} (hsub : ∀ v, v ∈ fin → v ∈ fin') {fs : List Level} :
    ∀ {ch : List Nat}, LevelsOK g fin ch fs → LevelsOK g fin' ch fs := by
  induction fs with
  | nil => intro _ _; trivial
  | cons l fs ih => exact fun h => ⟨h.1, fun v hv => (h.2.1 v hv).imp_left (hsub v), ih h.2.2⟩

theorem LevelsOK.pop {g : Graph} {fin fin' ch : List Nat} {x : Nat} {fs : List Level}
    (hsub : ∀ v, v ∈ fin → v ∈ fin') (hx : x ∈ fin') (h : LevelsOK g fin (ch ++ [x]) fs) : LevelsOK g fin' ch fs := by
  cases fs with
  | nil => trivial
  | cons l fs =>
    refine ⟨fun c hc => h.1 c (List.mem_append_left _ hc), fun v hv => ?_, h.2.2.mono hsub⟩
    rcases h.2.1 v hv with hf | hm
    · exact Or.inl (hsub v hf)
    · rcases List.mem_append.mp hm with hm | hm
      · exact Or.inr hm
      · exact Or.inl (List.mem_singleton.mp hm ▸ hx)

inductive Topo (g : Graph) : List Nat → Prop where
  | nil : Topo g []
  | cons {u : Nat} {fin : List Nat} : Topo g fin → (∀ v, E g u v → v ∈ fin) → Topo g (u :: fin)

theorem Topo.closed {g : Graph} {fin : List Nat} (h : Topo g fin) : ∀ a b, a ∈ fin → E g a b → b ∈ fin := by
  induction h with
  | nil => intro a b ha; cases ha
  | cons _ hu ih =>
    intro a b ha hab
    rcases List.mem_cons.mp ha with rfl | ha
    · exact List.mem_cons_of_mem _ (hu b hab)
    · exact List.mem_cons_of_mem _ (ih a b ha hab)

theorem Topo.no_cycle {g : Graph} {fin : List Nat} (h : Topo g fin) :
    ∀ u v, u ∈ fin → E g u v → ¬ Reach (edgesOf g) v u := by
  induction h with
  | nil => intro u v hu; cases hu
  | @cons x fin ht hx ih =>
    intro u v hu huv hr
    have hvfin : v ∈ fin := by
      rcases List.mem_cons.mp hu with rfl | hu
      · exact hx v huv
      · exact ht.closed u v hu huv
    exact ih u v (Reach.closed ht.closed hvfin hr) huv hr

/-- the colours against the grey nodes `greys fs` of the levels and the finished nodes `fin`;
    between two roots it holds with `fs = []` -/
structure Inv (g : Graph) (colors : Array Color) (fin : List Nat) (fs : List Level) : Prop where
  csz : colors.size = numNodes g
  grey_iff : ∀ x, gt colors x = .grey ↔ x ∈ greys fs
  black_fin : ∀ x, gt colors x = .black → x ∈ fin
  topo : Topo g fin
  fin_nw : ∀ x, x ∈ fin → gt colors x ≠ .white

theorem nw_st {colors : Array Color} {t y : Nat} {c : Color} (ht : t < colors.size) (hc : c ≠ .white)
    (h : gt colors y ≠ .white) : gt (st colors t c) y ≠ .white := by
  rw [gt_st_lt _ _ _ _ ht]
  split
  · exact hc
  · exact h

theorem Inv.activate {g : Graph} {colors : Array Color} {fin : List Nat} {fs : List Level} (h : Inv g colors fin fs)
    {t : Nat} (ht : t < colors.size) (sibs : List Nat) : Inv g (st colors t .grey) fin ((t, sibs) :: fs) := by
  refine ⟨by rw [size_st]; exact h.csz, fun x => ?_, fun x hx => h.black_fin x ?_, h.topo,
    fun x hx => nw_st ht Color.noConfusion (h.fin_nw x hx)⟩
  · rw [gt_st_lt _ _ _ _ ht]
    show _ ↔ x ∈ t :: greys fs
    by_cases hxt : x = t
    · simp [hxt]
    · simp [hxt, h.grey_iff x]
  · rw [gt_st_lt _ _ _ _ ht] at hx
    split at hx
    · cases hx
    · exact hx

theorem Inv.pop {g : Graph} {colors : Array Color} {fin : List Nat} {fs : List Level} {x : Nat} {sibs : List Nat}
    (h : Inv g colors fin ((x, sibs) :: fs)) (hx : x < colors.size) (hxg : x ∉ greys fs)
    (hsucc : ∀ v, E g x v → v ∈ fin) : Inv g (st colors x .black) (x :: fin) fs := by
  refine ⟨by rw [size_st]; exact h.csz, fun y => ?_, fun y hy => ?_, .cons h.topo hsucc, fun y hy => ?_⟩
  · rw [gt_st_lt _ _ _ _ hx]
    have hy : _ ↔ y ∈ x :: greys fs := h.grey_iff y
    by_cases hyx : y = x
    · simp [hyx, hxg]
    · simpa [hyx] using hy
  · rw [gt_st_lt _ _ _ _ hx] at hy
    split at hy
    · rename_i he; exact he ▸ List.mem_cons_self
    · exact List.mem_cons_of_mem _ (h.black_fin y hy)
  · rcases List.mem_cons.mp hy with rfl | hy
    · rw [gt_st_eq _ _ _ hx]; exact Color.noConfusion
    · exact nw_st hx Color.noConfusion (h.fin_nw y hy)

/-- total out-degree of the white nodes: the pushes still to come -/
def whiteDeg (g : Graph) (colors : Array Color) : Nat :=
  sumTo (fun v => if gt colors v = .white then outDegree g v else 0) (numNodes g)

theorem whiteDeg_le (g : Graph) (hwf : WF g) (colors : Array Color) : whiteDeg g colors ≤ numEdges g :=
  Nat.le_trans (sumTo_le _ _ _ fun i _ => by
    split
    · exact Nat.le_refl _
    · exact Nat.zero_le _) hwf.sum_outDegree

theorem whiteDeg_st (g : Graph) (colors : Array Color) (t : Nat) (c : Color) (ht : t < numNodes g)
    (htc : t < colors.size) (hc : c ≠ .white) :
    whiteDeg g (st colors t c) + (if gt colors t = .white then outDegree g t else 0) = whiteDeg g colors := by
  have h := sumTo_update (fun v => if gt colors v = .white then outDegree g v else 0)
    (fun v => if gt (st colors t c) v = .white then outDegree g v else 0) t
    (by intro i hi; simp only [gt_st_lt _ _ _ _ htc, if_neg hi]) (numNodes g) ht
  rw [gt_st_eq _ _ _ htc, if_neg hc] at h
  exact h

/-! The measure of `whileLoop_spec` in one iteration, with `w` = `whiteDeg`, `s` = stack size, `f` = fuel, `l` = number
    of levels: a pop takes one entry and one level; greying the top entry adds a level, takes `d` off `whiteDeg`
    (`w' + d = w`; `d` is its out-degree if it was white, else 0) and pushes `p ≤ d` entries. -/

theorem fuel_pop {w s f l : Nat} (h : 2 * w + 2 * (s + 1) < f + 1 + (l + 1)) : 2 * w + 2 * s < f + l := by
  rw [Nat.mul_succ, ← Nat.add_assoc, Nat.add_add_add_comm f 1 l 1] at h
  exact Nat.lt_of_add_lt_add_right h

theorem fuel_push {w w' d s p f l : Nat} (hw : w' + d = w) (hp : p ≤ d) (h : 2 * w + 2 * s < f + 1 + l) :
    2 * w' + 2 * (s + p) < f + (l + 1) := by
  refine Nat.lt_of_le_of_lt ?_ (Nat.add_right_comm f 1 l ▸ h)
  rw [← hw, Nat.mul_add, Nat.mul_add, Nat.add_right_comm (2 * w'), ← Nat.add_assoc]
  exact Nat.add_le_add_left (Nat.mul_le_mul_left 2 hp) _

/-- the measure: twice the stack size less the number of grey entries, plus twice `whiteDeg` -/
theorem whileLoop_spec (g : Graph) (hwf : WF g) :
    ∀ (f : Nat) (colors : Array Color) (stack : Array Nat) (fin pend : List Nat) (fs : List Level),
      Inv g colors fin fs → stack.toList = flat fs ++ pend → LevelsOK g fin pend fs →
      (∀ x, x ∈ stack.toList → x < numNodes g) → 2 * whiteDeg g colors + 2 * stack.size < f + fs.length →
      (whileLoop g f colors stack = .found ∧ HasCycle (edgesOf g)) ∨
      ∃ colors' fin', whileLoop g f colors stack = .done colors' ∧ Inv g colors' fin' [] ∧
        ∀ x, gt colors x ≠ .white ∨ x ∈ stack.toList → gt colors' x ≠ .white := by
  intro f
  induction f with
  | zero =>
    intro colors stack fin pend fs _ hst _ _ hphi
    have h1 := length_le_flat fs
    have h2 := congrArg List.length hst
    rw [Array.length_toList, List.length_append] at h2
    omega
  | succ f ih =>
    intro colors stack fin pend fs hinv hst hlv hent hphi
    simp only [whileLoop]
    rcases List.eq_nil_or_concat pend with rfl | ⟨pend', top, rfl⟩
    · cases fs with
      | nil =>
        have hnil : stack.toList = [] := hst
        rw [if_pos (by simpa using congrArg List.length hnil)]
        exact Or.inr ⟨colors, fin, rfl, hinv, fun x hx => hx.elim id fun hm => by rw [hnil] at hm; cases hm⟩
      | cons l fs =>
        -- nothing pending on top: the top entry is the deepest grey node; blacken and pop it
        obtain ⟨top, sibs⟩ := l
        have hst : stack.toList = flat fs ++ sibs ++ [top] := hst.trans (List.append_nil _)
        obtain ⟨hemp, htop, hpl⟩ := top_of_toList hst
        rw [if_neg hemp, htop]
        have htn : top < numNodes g := hent top (by rw [hst]; simp)
        have htc : top < colors.size := by rw [hinv.csz]; exact htn
        rw [if_neg (Nat.not_le.mpr htc)]
        have hg : gt colors top = .grey := (hinv.grey_iff top).mpr List.mem_cons_self
        rw [if_neg fun h => h hg]
        have hW := whiteDeg_st g colors top .black htn htc Color.noConfusion
        rw [hg, if_neg Color.noConfusion, Nat.add_zero] at hW
        have hinv' := hinv.pop htc (hlv.2.2.not_grey top (by simp))
          (fun v hv => (hlv.2.1 v hv).elim id fun hm => by cases hm)
        rcases ih _ stack.pop _ sibs fs hinv' hpl (hlv.2.2.pop (fun _ => List.mem_cons_of_mem _) List.mem_cons_self)
            (fun y hy => hent y (by rw [hst, ← hpl]; exact List.mem_append_left _ hy))
            (fuel_pop (by rw [hW, Array.size_pop, Nat.sub_add_cancel (Nat.pos_of_ne_zero hemp)]; exact hphi))
          with hf | ⟨colors', fin', hd, hi, hnw⟩
        · exact Or.inl hf
        · refine Or.inr ⟨colors', fin', hd, hi, fun y hy => hnw y ?_⟩
          rw [hst, ← hpl, List.mem_append, List.mem_singleton] at hy
          rcases hy with hy | hy | rfl
          · exact Or.inl (nw_st htc Color.noConfusion hy)
          · exact Or.inr hy
          · exact Or.inl (by rw [gt_st_eq _ _ _ htc]; exact Color.noConfusion)
    · -- the top entry is pending, hence not grey: grey it and scan its edges
      rw [List.concat_eq_append, ← List.append_assoc] at hst
      obtain ⟨hemp, htop, _⟩ := top_of_toList hst
      rw [if_neg hemp, htop]
      have htn : top < numNodes g := hent top (by rw [hst]; simp)
      have htc : top < colors.size := by rw [hinv.csz]; exact htn
      rw [if_neg (Nat.not_le.mpr htc)]
      have hmem : top ∈ pend'.concat top := by simp
      have hng : gt colors top ≠ .grey := fun hh => hlv.not_grey top hmem ((hinv.grey_iff top).mp hh)
      rw [if_pos hng]
      have hinv1 := hinv.activate htc pend'
      have hT : scanTargets g (beginEdges g top) (endEdges g top - beginEdges g top) = succs g top := rfl
      have hsz : (st colors top .grey).size = numNodes g := by rw [size_st, hinv.csz]
      rcases scan_spec g (st colors top .grey) _ (beginEdges g top) stack
          (fun v hv => by rw [hsz]; exact succ_lt hwf htn (hT ▸ hv)) with ⟨hsc, T, hTm, hTg⟩ | ⟨stack', hsc, hngs, hl⟩
      · -- a grey successor: `top` itself, or a grey node below, which reaches `top`
        simp only [hsc]
        rw [hT] at hTm
        have hE : E g top T := (mem_edgesOf g top T).mpr ⟨htn, hTm⟩
        rcases List.mem_cons.mp ((hinv1.grey_iff T).mp hTg) with rfl | hTf
        · exact Or.inl ⟨trivial, T, T, hE, .refl _⟩
        · exact Or.inl ⟨trivial, top, T, hE, hlv.reach top hmem T hTf⟩
      · simp only [hsc]
        rw [hT] at hngs hl
        generalize hpu : (succs g top).filter (fun v => gt (st colors top .grey) v = .white) = pushed at hl
        have hpm : ∀ c, c ∈ pushed ↔ c ∈ succs g top ∧ gt (st colors top .grey) c = .white := by
          intro c; rw [← hpu, List.mem_filter, decide_eq_true_eq]
        have hlen : stack'.size = stack.size + pushed.length := by
          simpa using congrArg List.length hl
        have hW := whiteDeg_st g colors top .grey htn htc Color.noConfusion
        -- a node greyed for the second time pushes nothing: its successors have finished
        have hpl : pushed.length ≤ if gt colors top = .white then outDegree g top else 0 := by
          split
          · rw [← hpu]
            refine Nat.le_trans (List.length_filter_le _ _) (Nat.le_of_eq ?_)
            simp [succs]
          · rename_i hw
            have hb : gt colors top = .black := by
              cases hc : gt colors top with
              | white => exact absurd hc hw
              | grey => exact absurd hc hng
              | black => rfl
            have : pushed = [] := List.eq_nil_iff_forall_not_mem.mpr fun c hc =>
              hinv1.fin_nw c (hinv.topo.closed top c (hinv.black_fin top hb)
                ((mem_edgesOf g top c).mpr ⟨htn, ((hpm c).mp hc).1⟩)) ((hpm c).mp hc).2
            rw [this]; exact Nat.le_refl _
        rcases ih _ stack' fin pushed ((top, pend') :: fs) hinv1 (by rw [hl, hst]; simp [flat])
            ⟨fun c hc => ⟨(mem_edgesOf g top c).mpr ⟨htn, ((hpm c).mp hc).1⟩, fun hh => by
                have := (hinv1.grey_iff c).mpr hh
                rw [((hpm c).mp hc).2] at this; cases this⟩,
              fun v hv => by
                have hvs := ((mem_edgesOf g top v).mp hv).2
                cases hcv : gt (st colors top .grey) v with
                | white => exact Or.inr ((hpm v).mpr ⟨hvs, hcv⟩)
                | grey => exact absurd hcv (hngs v hvs)
                | black => exact Or.inl (hinv1.black_fin v hcv),
              by rw [← List.concat_eq_append]; exact hlv⟩
            (fun y hy => by
              rw [hl] at hy
              rcases List.mem_append.mp hy with hy | hy
              · exact hent y hy
              · exact succ_lt hwf htn ((hpm y).mp hy).1)
            (by rw [hlen]; exact fuel_push hW hpl hphi) with hf | ⟨colors', fin', hd, hi, hnw⟩
        · exact Or.inl hf
        · refine Or.inr ⟨colors', fin', hd, hi, fun y hy => hnw y ?_⟩
          rcases hy with hy | hy
          · exact Or.inl (nw_st htc Color.noConfusion hy)
          · exact Or.inr (by rw [hl]; exact List.mem_append_left _ hy)

theorem outer_spec (g : Graph) (hwf : WF g) :
    ∀ (k root : Nat) (colors : Array Color) (fin : List Nat), Inv g colors fin [] → root + k = numNodes g →
      (∀ u, u < root → gt colors u ≠ .white) →
      ∃ b, outer g k root colors = some b ∧ (b = true ↔ HasCycle (edgesOf g)) := by
  intro k
  induction k with
  | zero =>
    intro root colors fin hinv hk hall
    refine ⟨false, rfl, fun h => Bool.noConfusion h, ?_⟩
    rintro ⟨u, v, huv, hr⟩
    have hblack : gt colors u = .black := by
      have hk' : root = numNodes g := hk
      have h1 := hall u (hk' ▸ ((mem_edgesOf g u v).mp huv).1)
      cases hc : gt colors u with
      | white => exact absurd hc h1
      | grey => cases (hinv.grey_iff u).mp hc
      | black => rfl
    exact absurd hr (hinv.topo.no_cycle u v (hinv.black_fin u hblack) huv)
  | succ k ih =>
    intro root colors fin hinv hk hall
    simp only [outer]
    by_cases hnw : gt colors root ≠ .white
    · rw [if_pos hnw]
      refine ih (root + 1) colors fin hinv ((Nat.add_right_comm root 1 k).trans hk) fun u hu => ?_
      by_cases hur : u = root
      · exact hur ▸ hnw
      · exact hall u (Nat.lt_of_le_of_ne (Nat.le_of_lt_succ hu) hur)
    · rw [if_neg hnw]
      have hW := whiteDeg_le g hwf colors
      have hroot : root < numNodes g := hk ▸ Nat.lt_add_of_pos_right (Nat.succ_pos k)
      rcases whileLoop_spec g hwf (loopFuel g) colors #[root] fin [root] [] hinv rfl trivial
          (fun x hx => List.mem_singleton.mp hx ▸ hroot) (by simp only [loopFuel, List.size_toArray, List.length]; omega)
        with ⟨hf, hcy⟩ | ⟨colors', fin', hd, hinv', hnw⟩
      · simp only [hf]
        exact ⟨true, rfl, fun _ => hcy, fun _ => rfl⟩
      · simp only [hd]
        refine ih (root + 1) colors' fin' hinv' ((Nat.add_right_comm root 1 k).trans hk) fun u hu => hnw u ?_
        by_cases hur : u = root
        · exact Or.inr (by simp [hur])
        · exact Or.inl (hall u (Nat.lt_of_le_of_ne (Nat.le_of_lt_succ hu) hur))

end Tbx.CycleCheck
