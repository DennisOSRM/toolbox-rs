import Tbx.Proofs.DijkstraLaws
import Tbx.Props.C10
/-
Discharges the hypothesis `HeapLaws` of the Dijkstra proofs for the real heap model: the laws are
consequences of C10's representation invariant `AHeap.Inv` and its refinement theorems to the
reference queue `PQ` (Props/C10: `insert_refines`, `decreaseKeyData_refines`, `deleteMin_refines`, observers).
-/
namespace Tbx.Dijkstra
open Tbx Tbx.AHeap Tbx.Props.C10

theorem obs_some {q : Heap} (I : AHeap.Inv q) {x : Int} {e : PQ.Entry} (h : PQ.find? (abs q) x = some e) :
    inserted q x = true ∧ contains q x = e.live ∧ weight q x = e.weight ∧ data? q x = some e.data := by
  rw [inserted_eq q I, contains_eq q I, weight_eq q I, data_eq q I]
  unfold PQ.inserted PQ.contains PQ.weight PQ.data?
  rw [h]; exact ⟨rfl, rfl, rfl, rfl⟩

theorem obs_none {q : Heap} (I : AHeap.Inv q) {x : Int} (h : PQ.find? (abs q) x = none) :
    inserted q x = false ∧ contains q x = false ∧ weight q x = q.wmax ∧ data? q x = none := by
  rw [inserted_eq q I, contains_eq q I, weight_eq q I, data_eq q I]
  unfold PQ.inserted PQ.contains PQ.weight PQ.data?
  rw [h]; exact ⟨rfl, rfl, rfl, rfl⟩

theorem obs_congr {q q' : Heap} (I : AHeap.Inv q) (I' : AHeap.Inv q') (hm : q'.wmax = q.wmax) {x : Int}
    (h : PQ.find? (abs q') x = PQ.find? (abs q) x) :
    inserted q' x = inserted q x ∧ contains q' x = contains q x ∧ weight q' x = weight q x ∧
      data? q' x = data? q x := by
  cases hf : PQ.find? (abs q) x with
  | none =>
    obtain ⟨a1, a2, a3, a4⟩ := obs_none I hf
    obtain ⟨b1, b2, b3, b4⟩ := obs_none I' (h.trans hf)
    exact ⟨b1.trans a1.symm, b2.trans a2.symm, b3.trans (hm.trans a3.symm), b4.trans a4.symm⟩
  | some e =>
    obtain ⟨a1, a2, a3, a4⟩ := obs_some I hf
    obtain ⟨b1, b2, b3, b4⟩ := obs_some I' (h.trans hf)
    exact ⟨b1.trans a1.symm, b2.trans a2.symm, b3.trans a3.symm, b4.trans a4.symm⟩

theorem heapLaws : HeapLaws AHeap.Inv where
  inv_init := fun a b => init_inv a b
  contains_inserted := by
    intro q x I h
    cases hf : PQ.find? (abs q) x with
    | none => rw [(obs_none I hf).2.1] at h; cases h
    | some e => exact (obs_some I hf).1
  insert_ok := by
    intro q id w d I hfresh hw
    obtain ⟨I', habs, _, hm⟩ := insert_refines q I id w d ((inserted_eq q I id).symm.trans hfresh) hw
    have hnone : PQ.find? (abs q) id = none := by
      cases hf : PQ.find? (abs q) id with
      | none => rfl
      | some e => rw [(obs_some I hf).1] at hfresh; cases hfresh
    have key : ∀ x, PQ.find? (abs (insert q id w d)) x =
        (PQ.find? (abs q) x).or (if id == x then some ⟨id, w, d, true⟩ else none) :=
      fun x => by rw [habs]; exact PQ.find_append_single _ _ x
    refine ⟨I', ?_⟩
    simp only [← forall_and]
    intro x
    by_cases hx : x = id
    · obtain ⟨a1, a2, a3, a4⟩ := obs_some I' (e := ⟨id, w, d, true⟩) ((key x).trans (by rw [hx, hnone]; simp))
      rw [a1, a2, a3, a4, if_pos hx, if_pos hx, beq_iff_eq.mpr hx]
      exact ⟨rfl, rfl, rfl, rfl⟩
    · obtain ⟨a1, a2, a3, a4⟩ := obs_congr I I' hm ((key x).trans (by simp [Ne.symm hx]))
      rw [a1, a2, a3, a4, if_neg hx, if_neg hx, beq_false_of_ne hx]
      exact ⟨rfl, rfl, rfl, rfl⟩
  decd_ok := by
    intro q id w d I hc hw1 hw2
    obtain ⟨q', e, I', habs, _, hm⟩ := decreaseKeyData_refines q I id w d ((contains_eq q I id).symm.trans hc) hw1
      ((weight_eq q I id) ▸ hw2)
    have key : ∀ x, PQ.find? (abs q') x =
        if x = id then (PQ.find? (abs q) x).map (fun e => { e with weight := w, data := d })
        else PQ.find? (abs q) x := by
      intro x
      rw [habs]; unfold PQ.setData PQ.decreaseKey
      rw [PQ.find_map_upd _ id (fun e => { e with data := d }) (fun _ => rfl),
        PQ.find_map_upd _ id (fun e => { e with weight := w }) (fun _ => rfl)]
      split
      · rw [Option.map_map]; rfl
      · rfl
    refine ⟨q', e, I', ?_⟩
    simp only [← forall_and]
    intro x
    by_cases hx : x = id
    · cases hf : PQ.find? (abs q) x with
      | none => rw [hx] at hf; rw [(obs_none I hf).2.1] at hc; cases hc
      | some e0 =>
        obtain ⟨a1, a2, _, _⟩ := obs_some I hf
        obtain ⟨b1, b2, b3, b4⟩ := obs_some I' ((key x).trans ((if_pos hx).trans (by rw [hf]; rfl)))
        rw [a1, a2, b1, b2, b3, b4, if_pos hx, if_pos hx]
        exact ⟨rfl, rfl, rfl, rfl⟩
    · obtain ⟨a1, a2, a3, a4⟩ := obs_congr I I' hm ((key x).trans (if_neg hx))
      rw [a1, a2, a3, a4, if_neg hx, if_neg hx]
      exact ⟨rfl, rfl, rfl, rfl⟩
  delmin_ok := by
    intro q I hne
    have hlen : PQ.len (abs q) ≠ 0 := by
      rw [isEmpty_eq q I] at hne
      simpa using hne
    obtain ⟨q', u, e, I', hmin, habs, _, _, hm⟩ := deleteMin_refines q I hlen
    obtain ⟨eu, heu, hid, hlive, hle⟩ := hmin
    have hfu : PQ.find? (abs q) u = some eu := by rw [← hid]; exact find_of_mem q I eu heu
    obtain ⟨_, u2, u3, _⟩ := obs_some I hfu
    have key : ∀ x, PQ.find? (abs q') x =
        if x = u then (PQ.find? (abs q) x).map (fun e => { e with live := false }) else PQ.find? (abs q) x := by
      intro x
      rw [habs]; unfold PQ.remove
      rw [PQ.find_map_upd _ u (fun e => { e with live := false }) (fun _ => rfl)]
    refine ⟨q', u, e, I', u2.trans hlive, fun x hx => ?_, ?_⟩
    · cases hf : PQ.find? (abs q) x with
      | none => rw [(obs_none I hf).2.1] at hx; cases hx
      | some e0 =>
        obtain ⟨_, a2, a3, _⟩ := obs_some I hf
        rw [u3, a3]
        exact hle e0 (PQ.find_mem hf).1 (a2.symm.trans hx)
    · simp only [← forall_and]
      intro x
      by_cases hx : x = u
      · obtain ⟨a1, a2, a3, a4⟩ := obs_some I (hx ▸ hfu)
        obtain ⟨b1, b2, b3, b4⟩ := obs_some I' ((key x).trans ((if_pos hx).trans (by rw [hx, hfu]; rfl)))
        rw [a1, a2, a3, a4, b1, b2, b3, b4, hx]
        simp
      · obtain ⟨a1, a2, a3, a4⟩ := obs_congr I I' hm ((key x).trans (if_neg hx))
        rw [a1, a2, a3, a4]
        simp [hx]
  empty_iff := by
    intro q I
    rw [isEmpty_eq q I]
    simp only [beq_iff_eq]
    unfold PQ.len
    constructor
    · intro h x
      rw [contains_eq q I]; unfold PQ.contains
      cases hf : PQ.find? (abs q) x with
      | none => rfl
      | some e0 =>
        simp only
        cases hl : e0.live
        · rfl
        · have : e0 ∈ (abs q).filter (·.live) := List.mem_filter.mpr ⟨(PQ.find_mem hf).1, hl⟩
          rw [List.length_eq_zero_iff.mp h] at this; cases this
    · intro h
      rw [List.length_eq_zero_iff, List.filter_eq_nil_iff]
      intro e0 he0 hl
      have := h e0.id
      rw [contains_eq q I] at this; unfold PQ.contains at this
      rw [find_of_mem q I e0 he0] at this
      simp only at this
      rw [this] at hl; cases hl
  data_some := by
    intro q x I h
    cases hf : PQ.find? (abs q) x with
    | none => rw [(obs_none I hf).1] at h; cases h
    | some e0 => exact ⟨e0.data, (obs_some I hf).2.2.2⟩
  weight_wmax := by
    intro q x I h
    cases hf : PQ.find? (abs q) x with
    | none => exact (obs_none I hf).2.2.1
    | some e0 => rw [(obs_some I hf).1] at h; cases h
  inserted_bound := by
    intro q l I hnd hall
    rw [insertedLen_eq q]; unfold PQ.insertedLen
    have : l.length ≤ ((abs q).map (·.id)).length := by
      apply hnd.length_le_of_subset
      intro x hx
      have := hall x hx
      rw [inserted_eq q I] at this; unfold PQ.inserted at this
      cases hf : PQ.find? (abs q) x with
      | none => rw [hf] at this; cases this
      | some e0 =>
        obtain ⟨hm, hid⟩ := PQ.find_mem hf
        exact List.mem_map.mpr ⟨e0, hm, hid⟩
    simpa using this

end Tbx.Dijkstra
