import Tbx.Model.Chipper
/-
`flow_cmp` is a strict weak order on results with non-empty sides, and on a list of such results `min_by` returns the
LEFTMOST minimum (`Split`).  Leftmost minima compose under `minOp` (`Split.append`), so the left fold and every
reduction tree, as rayon's `reduce_with` builds one, give the same element.  Over the axes the winner is the unique
minimum of (flow, −balance, axis).
The balance, an f64 in the source, is compared as the exact rational min(|L|,|R|)/(|L|+|R|), by cross multiplication.
-/
namespace Tbx.Chipper
open Tbx.InertialFlow

def BalLt (a b : FlowRes) : Prop := balanceNum a * balanceDen b < balanceNum b * balanceDen a

def Lt (a b : FlowRes) : Prop := a.flow < b.flow ∨ (a.flow = b.flow ∧ BalLt b a)

instance (a b : FlowRes) : Decidable (BalLt a b) := by unfold BalLt; exact inferInstance
instance (a b : FlowRes) : Decidable (Lt a b) := by unfold Lt; exact inferInstance

theorem flowCmp_gt_iff (a b : FlowRes) : flowCmp a b = .gt ↔ Lt b a := by
  unfold flowCmp Lt BalLt
  by_cases h : a.flow = b.flow
  · rw [if_pos h, Nat.compare_eq_gt]
    constructor
    · intro hh; exact Or.inr ⟨h.symm, hh⟩
    · intro hh
      rcases hh with hh | ⟨_, hh⟩
      · omega
      · exact hh
  · rw [if_neg h, Int.compare_eq_gt]
    constructor
    · intro hh; exact Or.inl hh
    · intro hh
      rcases hh with hh | ⟨h2, _⟩
      · exact hh
      · exact absurd h2.symm h

theorem minOp_eq (a b : FlowRes) : minOp a b = if Lt b a then b else a := by
  unfold minOp
  by_cases h : Lt b a
  · rw [if_pos h, if_pos ((flowCmp_gt_iff a b).mpr h)]
  · rw [if_neg h, if_neg (fun hh => h ((flowCmp_gt_iff a b).mp hh))]

private theorem cross_cotrans {pa qa pb qb pc qc : Nat} (hqb : 0 < qb)
    (h : pa * qc < pc * qa) : pa * qb < pb * qa ∨ pb * qc < pc * qb := by
  apply Decidable.byContradiction
  intro hn
  have h1 : pb * qa * qc ≤ pa * qb * qc := Nat.mul_le_mul_right _ (by omega)
  have h2 : pc * qb * qa ≤ pb * qc * qa := Nat.mul_le_mul_right _ (by omega)
  have e1 : pa * qb * qc = pa * qc * qb := Nat.mul_right_comm _ _ _
  have e2 : pb * qa * qc = pb * qc * qa := Nat.mul_right_comm _ _ _
  have e3 : pc * qb * qa = pc * qa * qb := Nat.mul_right_comm _ _ _
  exact Nat.lt_irrefl _ (Nat.lt_of_lt_of_le (Nat.mul_lt_mul_of_pos_right h hqb) (by omega))

theorem Lt.asymm {a b : FlowRes} (h : Lt a b) : ¬ Lt b a := by
  unfold Lt BalLt at *; omega

theorem Lt.irrefl (a : FlowRes) : ¬ Lt a a := fun h => h.asymm h

/-- negative transitivity: with `Lt.asymm` it makes `Lt` a strict weak order; the three transitivity rules below are
its instances -/
theorem Lt.cotrans {a c : FlowRes} (b : FlowRes) (hb : 0 < balanceDen b) (h : Lt a c) : Lt a b ∨ Lt b c := by
  unfold Lt at *
  rcases h with h | ⟨e, h⟩
  · omega
  · rcases Int.lt_trichotomy a.flow b.flow with h1 | h1 | h1
    · exact Or.inl (Or.inl h1)
    · exact (cross_cotrans hb h).symm.imp (fun h' => Or.inr ⟨h1, h'⟩) (fun h' => Or.inr ⟨by omega, h'⟩)
    · exact Or.inr (Or.inl (by omega))

theorem Lt.trans {a b c : FlowRes} (hc : 0 < balanceDen c) (h1 : Lt a b) (h2 : Lt b c) : Lt a c :=
  (h1.cotrans c hc).resolve_right h2.asymm

theorem lt_of_not_lt_of_lt {a b c : FlowRes} (ha : 0 < balanceDen a)
    (h1 : ¬ Lt b a) (h2 : Lt b c) : Lt a c :=
  (h2.cotrans a ha).resolve_left h1

theorem lt_of_lt_of_not_lt {a b c : FlowRes} (hc : 0 < balanceDen c)
    (h1 : Lt a b) (h2 : ¬ Lt c b) : Lt a c :=
  (h1.cotrans c hc).resolve_right h2

/-- `x` is the leftmost minimum of `xs` -/
def Split (xs : List FlowRes) (x : FlowRes) : Prop :=
  ∃ l r, xs = l ++ x :: r ∧ (∀ y ∈ l, Lt x y) ∧ (∀ y ∈ r, ¬ Lt y x)

theorem minBy_eq_none {xs : List FlowRes} : minBy xs = none ↔ xs = [] := by
  cases xs <;> simp [minBy]

theorem Split.single (x : FlowRes) : Split [x] x :=
  ⟨[], [], rfl, fun _ hy => absurd hy List.not_mem_nil, fun _ hy => absurd hy List.not_mem_nil⟩

theorem Split.mem {xs : List FlowRes} {x : FlowRes} (h : Split xs x) : x ∈ xs := by
  obtain ⟨l, r, rfl, _⟩ := h
  exact List.mem_append_right _ List.mem_cons_self

theorem Split.not_lt {xs : List FlowRes} {x : FlowRes} (h : Split xs x) : ∀ y ∈ xs, ¬ Lt y x := by
  obtain ⟨l, r, rfl, hl, hr⟩ := h
  intro y hy
  rcases List.mem_append.mp hy with hy | hy
  · exact (hl y hy).asymm
  · rcases List.mem_cons.mp hy with rfl | hy
    · exact Lt.irrefl _
    · exact hr y hy

theorem Split.append {l r : List FlowRes} {x y : FlowRes} (hpos : ∀ z ∈ l ++ r, 0 < balanceDen z)
    (hx : Split l x) (hy : Split r y) : Split (l ++ r) (minOp x y) := by
  have hxpos := hpos x (List.mem_append_left _ hx.mem)
  have hypos := hpos y (List.mem_append_right _ hy.mem)
  obtain ⟨l1, r1, rfl, hl1, hr1⟩ := hx
  obtain ⟨l2, r2, rfl, hl2, hr2⟩ := hy
  rw [minOp_eq]
  split
  · rename_i hlt
    -- the right half wins: everything in the left half is strictly worse
    refine ⟨(l1 ++ x :: r1) ++ l2, r2, by simp, ?_, hr2⟩
    intro z hz
    rcases List.mem_append.mp hz with hz | hz
    · rcases List.mem_append.mp hz with hz | hz
      · exact Lt.trans (hpos z (by simp [hz])) hlt (hl1 z hz)
      · rcases List.mem_cons.mp hz with rfl | hz
        · exact hlt
        · exact lt_of_lt_of_not_lt (hpos z (by simp [hz])) hlt (hr1 z hz)
    · exact hl2 z hz
  · rename_i hnlt
    refine ⟨l1, r1 ++ (l2 ++ y :: r2), by simp, hl1, ?_⟩
    intro z hz
    rcases List.mem_append.mp hz with hz | hz
    · exact hr1 z hz
    · rcases List.mem_append.mp hz with hz | hz
      · exact fun hzl => Lt.asymm (lt_of_not_lt_of_lt hxpos hnlt (hl2 z hz)) hzl
      · rcases List.mem_cons.mp hz with rfl | hz
        · exact hnlt
        · exact fun hzl => hr2 z hz (lt_of_lt_of_not_lt hypos hzl hnlt)

theorem Split.foldl {l : List FlowRes} {acc : FlowRes} (ys : List FlowRes) (hpos : ∀ z ∈ l ++ ys, 0 < balanceDen z)
    (h : Split l acc) : Split (l ++ ys) (ys.foldl minOp acc) := by
  induction ys generalizing l acc with
  | nil => rwa [List.append_nil]
  | cons y ys ih =>
    rw [List.append_cons] at hpos ⊢
    exact ih hpos (h.append (fun z hz => hpos z (List.mem_append_left _ hz)) (Split.single y))

theorem split_of_minBy {xs : List FlowRes} {x : FlowRes} (hpos : ∀ y ∈ xs, 0 < balanceDen y)
    (h : minBy xs = some x) : Split xs x := by
  cases xs with
  | nil => cases h
  | cons a ys => cases h; exact (Split.single a).foldl ys hpos

/-- of two candidates the one further right has the other strictly before it and not strictly better -/
theorem Split.unique {xs : List FlowRes} {x y : FlowRes} (hx : Split xs x) (hy : Split xs y) : x = y := by
  obtain ⟨l1, r1, rfl, hl1, hr1⟩ := hx
  obtain ⟨l2, r2, e, hl2, hr2⟩ := hy
  rcases List.append_eq_append_iff.mp e with ⟨m, rfl, e'⟩ | ⟨m, rfl, e'⟩
  · cases m with
    | nil => cases e'; rfl
    | cons z m => cases e'; exact absurd (hl2 _ (by simp)) (hr1 _ (by simp))
  · cases m with
    | nil => cases e'; rfl
    | cons z m => cases e'; exact absurd (hl1 _ (by simp)) (hr2 _ (by simp))

theorem minBy_of_split {xs : List FlowRes} {x : FlowRes} (hpos : ∀ y ∈ xs, 0 < balanceDen y)
    (h : Split xs x) : minBy xs = some x := by
  cases hm : minBy xs with
  | none => rw [minBy_eq_none.mp hm] at h; exact absurd h.mem List.not_mem_nil
  | some z => rw [(split_of_minBy hpos hm).unique h]

theorem foldl_minOp_mem (xs : List FlowRes) (acc : FlowRes) : xs.foldl minOp acc = acc ∨ xs.foldl minOp acc ∈ xs := by
  induction xs generalizing acc with
  | nil => exact Or.inl rfl
  | cons y ys ih =>
    simp only [List.foldl_cons]
    rcases ih (minOp acc y) with h | h
    · rw [h]
      unfold minOp
      split
      · exact Or.inr List.mem_cons_self
      · exact Or.inl rfl
    · exact Or.inr (List.mem_cons_of_mem _ h)

theorem minBy_mem' {xs : List FlowRes} {x : FlowRes} (h : minBy xs = some x) : x ∈ xs := by
  cases xs with
  | nil => simp [minBy] at h
  | cons y ys =>
    simp only [minBy, Option.some.injEq] at h
    subst h
    rcases foldl_minOp_mem ys y with h | h
    · rw [h]; exact List.mem_cons_self
    · exact List.mem_cons_of_mem _ h

/-- `minBy_mem'` with the hypothesis of its neighbours `split_of_minBy`, `minBy_of_split`; it is not needed here -/
theorem minBy_mem {xs : List FlowRes} {x : FlowRes} (hpos : ∀ y ∈ xs, 0 < balanceDen y)
    (h : minBy xs = some x) : x ∈ xs :=
  (fun _ => minBy_mem' h) hpos

theorem okOf_eq_some {o : StepOut} {r : FlowRes} : okOf o = some r ↔ o = .ok r := by
  cases o <;> simp [okOf]

theorem bestOf_eq_some {outs : List StepOut} {x : FlowRes} :
    bestOf outs = .some x ↔ outs.any isPanic = false ∧ minBy (outs.filterMap okOf) = some x := by
  unfold bestOf
  cases outs.any isPanic
  · cases minBy (outs.filterMap okOf) <;> simp
  · simp

theorem bestOf_eq_panic {outs : List StepOut} : bestOf outs = .panic ↔ outs.any isPanic = true := by
  unfold bestOf
  cases outs.any isPanic
  · cases minBy (outs.filterMap okOf) <;> simp
  · simp

theorem bestOf_some {outs : List StepOut} {r : FlowRes} (h : bestOf outs = .some r) : StepOut.ok r ∈ outs := by
  obtain ⟨o, ho, hx⟩ := List.mem_filterMap.mp (minBy_mem' (bestOf_eq_some.mp h).2)
  exact okOf_eq_some.mp hx ▸ ho

theorem bestOf_exists {outs : List StepOut} {r : FlowRes} (hnp : outs.any isPanic = false)
    (hmem : StepOut.ok r ∈ outs) : ∃ res, bestOf outs = .some res := by
  cases hmin : minBy (outs.filterMap okOf) with
  | some res => exact ⟨res, bestOf_eq_some.mpr ⟨hnp, hmin⟩⟩
  | none =>
    have hm : r ∈ outs.filterMap okOf := List.mem_filterMap.mpr ⟨.ok r, hmem, rfl⟩
    rw [minBy_eq_none.mp hmin] at hm
    cases hm

theorem bestOf_eq_none {outs : List StepOut} :
    bestOf outs = .none ↔ outs.any isPanic = false ∧ ∀ r, StepOut.ok r ∉ outs := by
  constructor
  · intro h
    cases hp : outs.any isPanic with
    | true => rw [bestOf_eq_panic.mpr hp] at h; cases h
    | false =>
      refine ⟨rfl, fun r hr => ?_⟩
      obtain ⟨_, h'⟩ := bestOf_exists hp hr
      rw [h] at h'; cases h'
  · rintro ⟨hp, hno⟩
    cases h : bestOf outs with
    | none => rfl
    | panic => rw [bestOf_eq_panic.mp h] at hp; cases hp
    | some r => exact absurd (bestOf_some h) (hno r)

/-- a way of splitting a non-empty sequence into halves recursively -/
inductive RTree where
  | leaf (x : FlowRes)
  | node (l r : RTree)

def RTree.flatten : RTree → List FlowRes
  | .leaf x => [x]
  | .node l r => l.flatten ++ r.flatten

/-- `reduce_with(minOp)` along the tree -/
def RTree.reduce : RTree → FlowRes
  | .leaf x => x
  | .node l r => minOp l.reduce r.reduce

theorem RTree.flatten_ne_nil (t : RTree) : t.flatten ≠ [] := by
  induction t with
  | leaf x => simp [RTree.flatten]
  | node l r ihl _ => simp [RTree.flatten, ihl]

theorem RTree.reduce_split (t : RTree) (hpos : ∀ y ∈ t.flatten, 0 < balanceDen y) :
    Split t.flatten t.reduce := by
  induction t with
  | leaf x => exact Split.single x
  | node l r ihl ihr =>
    exact (ihl fun y hy => hpos y (List.mem_append_left _ hy)).append hpos
      (ihr fun y hy => hpos y (List.mem_append_right _ hy))

theorem RTree.reduce_eq (t : RTree) (hpos : ∀ y ∈ t.flatten, 0 < balanceDen y) :
    minBy t.flatten = some t.reduce :=
  minBy_of_split hpos (t.reduce_split hpos)

theorem range_split_lt {n a b : Nat} {l1 l2 : List Nat} (h : List.range n = l1 ++ a :: l2) (hb : b < a) : b ∈ l1 := by
  have hp : (l1 ++ a :: l2).Pairwise (· < ·) := h ▸ List.pairwise_lt_range
  have ha : a < n := List.mem_range.mp (h ▸ List.mem_append_right _ List.mem_cons_self)
  have hmem : b ∈ l1 ++ a :: l2 := h ▸ List.mem_range.mpr (Nat.lt_trans hb ha)
  rcases List.mem_append.mp hmem with hm | hm
  · exact hm
  · rcases List.mem_cons.mp hm with rfl | hm
    · omega
    · have := List.rel_of_pairwise_cons (List.pairwise_append.mp hp).2.1 hm
      omega

/-- the winner over the axes is the minimum of (flow, −balance, axis) in lexicographic order (C05 `flowCmp_lex`) -/
theorem bestOf_axis_lex (n : Nat) (g : Nat → StepOut) (x : FlowRes)
    (hpos : ∀ a, a < n → ∀ y, g a = .ok y → 0 < balanceDen y)
    (h : bestOf ((List.range n).map g) = .some x) :
    ∃ a, a < n ∧ g a = .ok x ∧
      (∀ a', a' < n → ∀ y, g a' = .ok y → ¬ Lt y x) ∧
      (∀ a', a' < a → ∀ y, g a' = .ok y → Lt x y) := by
  obtain ⟨_, hm⟩ := bestOf_eq_some.mp h
  rw [List.filterMap_map] at hm
  have hs : Split ((List.range n).filterMap (okOf ∘ g)) x := by
    refine split_of_minBy (fun y hy => ?_) hm
    obtain ⟨a, ha, hy⟩ := List.mem_filterMap.mp hy
    exact hpos a (List.mem_range.mp ha) y (okOf_eq_some.mp hy)
  have hbest := hs.not_lt
  obtain ⟨l, r, e, hl, -⟩ := hs
  -- the axis `a` the winner comes from: the reports of the axes before it make up `l`
  obtain ⟨i1, i2, e1, rfl, f2⟩ := List.filterMap_eq_append_iff.mp e
  obtain ⟨j1, a, j2, rfl, fj1, fa, -⟩ := List.filterMap_eq_cons_iff.mp f2
  rw [← List.append_assoc] at e1
  refine ⟨a, List.mem_range.mp (e1 ▸ by simp), okOf_eq_some.mp fa,
    fun a' ha' y hy => hbest y (List.mem_filterMap.mpr ⟨a', List.mem_range.mpr ha', okOf_eq_some.mpr hy⟩),
    fun a' ha' y hy => ?_⟩
  rcases List.mem_append.mp (range_split_lt e1 ha') with hmem | hmem
  · exact hl y (List.mem_filterMap.mpr ⟨a', hmem, okOf_eq_some.mpr hy⟩)
  · have := fj1 a' hmem
    rw [Function.comp, hy] at this
    cases this

/-- converse of `bestOf_axis_lex`: that minimum is unique -/
theorem bestOf_of_axis_lex (n : Nat) (g : Nat → StepOut) (x : FlowRes)
    (hpos : ∀ a, a < n → ∀ y, g a = .ok y → 0 < balanceDen y)
    (hnp : ((List.range n).map g).any isPanic = false) {a : Nat} (ha : a < n) (hga : g a = .ok x)
    (hbest : ∀ a', a' < n → ∀ y, g a' = .ok y → ¬ Lt y x)
    (hlow : ∀ a', a' < a → ∀ y, g a' = .ok y → Lt x y) :
    bestOf ((List.range n).map g) = .some x := by
  obtain ⟨w, hw⟩ := bestOf_exists hnp (List.mem_map.mpr ⟨a, List.mem_range.mpr ha, hga⟩)
  obtain ⟨b, hb, hgb, hbest', hlow'⟩ := bestOf_axis_lex n g w hpos hw
  rcases Nat.lt_trichotomy a b with h | rfl | h
  · exact absurd (hlow' a h x hga) (hbest b hb w hgb)
  · rw [hw, show w = x from StepOut.ok.inj (hgb.symm.trans hga)]
  · exact absurd (hlow b h w hgb) (hbest' a ha x hga)

end Tbx.Chipper
