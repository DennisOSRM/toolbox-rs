import Tbx.Proofs.AHeapInvOps
/-
C10: `new`, `flush`, and `delete_min` in its two halves: the state after swap-pop and sift (`delMid`, AHeapInvOps) is
linked except for the removed node (`delMid_spec`), and marking that node removed gives `Inv` and `PQ.remove`
(`kill_spec`).  Props/C10 puts the halves together.
-/
namespace Tbx.AHeap
open Tbx

theorem init_inv (wmin wmax : Int) : Inv (init wmin wmax) := by
  refine ⟨by simp [init], by simp [init, gt], ?_, ?_, ?_, ?_, ?_⟩
  · intro k hk
    have : k = 0 := by simp [init] at hk; omega
    subst this; simp [init, gt]
  · intro k k1 k2; simp [init] at k2; omega
  · intro k k1 k2; simp [init] at k2; omega
  · intro i i1; simp [init] at i1
  · intro id i; simp [init, lookup]

theorem init_abs (wmin wmax : Int) : abs (init wmin wmax) = [] := by
  simp [abs, init]

theorem size_delHeap (s : Heap) : (delHeap s).size = s.heap.size - 1 := by
  simp [delHeap]

theorem gt_delHeap_ne (s : Heap) (k : Nat) (h1 : k < s.heap.size - 1) (h2 : k ≠ 1) :
    gt (delHeap s) k = gt s.heap k := by
  unfold delHeap
  rw [gt_pop_lt _ _ (by simpa using h1), gt_st_ne _ _ _ _ (Ne.symm h2)]

theorem gt_delHeap_one (s : Heap) (h : 2 < s.heap.size) :
    gt (delHeap s) 1 = gt s.heap (s.heap.size - 1) := by
  unfold delHeap
  rw [gt_pop_lt _ _ (by simp; omega), gt_st_eq _ _ _ (by omega)]

/-- after `swap(1, last); pop()` the old last element sits at the root, its node still pointing to
the last slot, and the old root's node is the one exempt from the pointer invariant -/
theorem delHeap_pinv (s : Heap) (I : Inv s) (h : 2 < s.heap.size) :
    PInv (delHeap s) s.nodes 1 (gt (delHeap s) 1).index (gt s.heap 1).index s.wmin ∧
    (gt s.nodes (gt (delHeap s) 1).index).weight = (gt (delHeap s) 1).weight ∧
    s.wmin ≤ (gt (delHeap s) 1).weight := by
  have hn : s.heap.size - 1 < s.heap.size := by omega
  have h1 : 1 < s.heap.size - 1 := by omega
  obtain ⟨x1, x2, x3⟩ := I.back 1 (Nat.le_refl 1) (Nat.lt_trans h1 hn)
  obtain ⟨l1, l2, l3⟩ := I.back (s.heap.size - 1) (Nat.le_of_lt h1) hn
  rw [gt_delHeap_one s h]
  have hle := Nat.sub_le s.heap.size 1
  refine ⟨⟨Nat.le_refl 1, (size_delHeap s).symm ▸ h1, l1, ?_, by rw [l2]; exact Nat.ne_of_gt (Nat.lt_trans Nat.zero_lt_one h1),
    ?_, ?_, ?_⟩, l3, I.wlo _ hn⟩
  · intro e; rw [e, x2] at l2; exact absurd l2 (Nat.ne_of_lt h1)
  · intro k k1 k2
    rw [size_delHeap] at k1
    rw [gt_delHeap_ne s k k1 k2]; exact I.wlo k (Nat.lt_of_lt_of_le k1 hle)
  · intro k k1 k2 k3
    rw [size_delHeap] at k2
    rw [gt_delHeap_ne s k k2 k3]
    obtain ⟨c1, c2, c3⟩ := I.back k k1 (Nat.lt_of_lt_of_le k2 hle)
    refine ⟨c1, ?_, ?_, c2, c3⟩
    · intro e; rw [e, l2] at c2; exact absurd c2 (Nat.ne_of_gt k2)
    · intro e; rw [e, x2] at c2; exact k3 c2.symm
  · intro i i1 i2 i3 i4
    obtain ⟨c1, c2⟩ := I.fwd i i1 i4
    have n1 : (gt s.nodes i).key ≠ s.heap.size - 1 := by
      intro e; rw [e] at c2; exact i2 c2.symm
    have n2 : (gt s.nodes i).key ≠ 1 := by
      intro e; rw [e] at c2; exact i3 c2.symm
    have c3 : (gt s.nodes i).key < s.heap.size - 1 := Nat.lt_of_le_of_ne (Nat.le_sub_one_of_lt c1) n1
    rw [size_delHeap, gt_delHeap_ne s _ c3 n2]
    exact ⟨c3, n2, c2⟩

theorem delHeap_ordD (s : Heap) (I : Inv s) (w : Int) : OrdD (delHeap s) 1 w := by
  intro k k1 k2 k3
  rw [size_delHeap] at k2
  unfold wt
  have k4 : k ≠ 1 := Nat.ne_of_gt k1
  rw [if_neg k3, if_neg k4, gt_delHeap_ne s k k2 k4,
    gt_delHeap_ne s (k / 2) (Nat.lt_of_le_of_lt (Nat.div_le_self k 2) k2) k3]
  exact I.ord k k1 (Nat.lt_of_lt_of_le k2 (Nat.sub_le _ _))

theorem delMid_spec (s : Heap) (I : Inv s) (h : 1 < s.heap.size) :
    Sifted { s with heap := delHeap s } (delMid s) (gt s.heap 1).index s.wmin := by
  unfold delMid
  split
  · rename_i hgt
    rw [size_delHeap] at hgt
    obtain ⟨P, hw, hlo⟩ := delHeap_pinv s I (by omega)
    exact downHeap_spec { s with heap := delHeap s } 1 (gt s.heap 1).index
      s.wmin P hw hlo (delHeap_ordD s I _) (fun h2 => absurd h2 (by decide))
  · rename_i hle
    have hs : (delHeap s).size = 1 := by rw [size_delHeap] at hle ⊢; omega
    have hnone : ∀ k, 1 ≤ k → ¬ k < (delHeap s).size := fun k k1 k2 => absurd (hs ▸ k2) (Nat.not_lt.mpr k1)
    refine ⟨rfl, fun k k1 k2 => absurd k2 (hnone k (Nat.le_of_lt k1)),
      ⟨fun k k1 k2 => absurd k2 (hnone k k1), ?_⟩, Frame.refl _, ?_, rfl⟩
    · intro i (i1 : i < s.nodes.size) i2 (i3 : (gt s.nodes i).key ≠ 0)
      obtain ⟨c1, c2⟩ := I.fwd i i1 i3
      have : (gt s.nodes i).key = 1 := by rw [size_delHeap] at hs; omega
      rw [this] at c2; exact absurd c2.symm i2
    · intro k (hk : k < (delHeap s).size)
      have : k = 0 := by omega
      rw [this]
      show s.wmin ≤ (gt (delHeap s) 0).weight
      rw [gt_delHeap_ne s 0 (by omega) (by omega)]; exact I.wlo 0 I.size_pos

theorem PtrX.kill {h : Array Elem} {ns : Array Node} {x : Nat} (P : PtrX h ns x) :
    PtrX h (setKey ns x 0) (setKey ns x 0).size := by
  refine ⟨?_, ?_⟩
  · intro k k1 k2
    obtain ⟨c1, c2, c3, c4⟩ := P.back k k1 k2
    rw [gt_setKey_ne _ _ _ _ (Ne.symm c2), size_setKey]
    exact ⟨c1, by omega, c3, c4⟩
  · intro i i1 _ i3
    rw [size_setKey] at i1
    by_cases e : x = i
    · subst e
      rw [setKey_key_eq _ _ _ i1] at i3
      exact absurd rfl i3
    · rw [gt_setKey_ne _ _ _ _ e] at i3 ⊢
      exact P.fwd i i1 (Ne.symm e) i3

/-- the last write of `delete_min` (`inserted_nodes[removed_index].key = 0`), on a state linked except for node `x` -/
theorem kill_spec {m : Heap} {x : Nat} (h1 : 1 ≤ m.heap.size)
    (h2 : (gt m.heap 0).weight = m.wmin) (h3 : ∀ k, k < m.heap.size → m.wmin ≤ (gt m.heap k).weight)
    (h4 : Ord m.heap) (P : PtrX m.heap m.nodes x) (M : IdMap m.idx m.nodes) (hx : x < m.nodes.size) :
    Inv { m with nodes := setKey m.nodes x 0 } ∧
    abs { m with nodes := setKey m.nodes x 0 } = PQ.remove (abs m) (gt m.nodes x).id :=
  ⟨Inv.of_ptr h1 h2 h3 h4 P.kill (M.frame (size_setKey _ _ _) fun _ => setKey_id _ _ _ _), abs_st M hx _ _ rfl⟩

theorem flushLoop_spec (n : Nat) (h : Array Elem) (ns : Array Node) :
    (flushLoop n h ns).size = ns.size ∧
    (∀ i, gt (flushLoop n h ns) i = gt ns i ∨ gt (flushLoop n h ns) i = { gt ns i with key := 0 }) ∧
    ∀ k, 1 ≤ k → k ≤ n → (gt h k).index < ns.size → (gt (flushLoop n h ns) (gt h k).index).key = 0 := by
  induction n generalizing ns with
  | zero => exact ⟨rfl, fun _ => Or.inl rfl, fun k k1 k2 => absurd k1 (by omega)⟩
  | succ n ih =>
    obtain ⟨a, b, c⟩ := ih (setKey ns (gt h (n + 1)).index 0)
    have hstep : flushLoop (n + 1) h ns = flushLoop n h (setKey ns (gt h (n + 1)).index 0) := rfl
    rw [hstep]
    refine ⟨a.trans (size_setKey _ _ _), fun i => ?_, fun k k1 k2 k3 => ?_⟩
    · have := b i
      unfold setKey at this
      rw [gt_st] at this
      split at this
      · -- the slot zeroed in this iteration: zeroing its key once more changes nothing
        rename_i e; obtain ⟨rfl, _⟩ := e; exact Or.inr (this.elim (fun h => h) fun h => h)
      · exact this
    · by_cases e : k = n + 1
      · -- its node is zeroed first, and the remaining iterations only zero keys
        rw [e] at k3 ⊢
        have := b (gt h (n + 1)).index
        rw [gt_setKey_eq _ _ _ k3] at this
        rcases this with h' | h' <;> rw [h']
      · exact c k k1 (by omega) (by rw [size_setKey]; exact k3)

/-- under the invariant every node with a non-zero key sits in a slot, so `flush` zeroes all keys -/
theorem flush_nodes (s : Heap) (I : Inv s) (i : Nat) (hi : i < s.nodes.size) :
    gt (flush s).nodes i = { gt s.nodes i with key := 0 } := by
  obtain ⟨_, b, c⟩ := flushLoop_spec (s.heap.size - 1) s.heap s.nodes
  show gt (flushLoop (s.heap.size - 1) s.heap s.nodes) i = _
  rcases b i with h | h
  · by_cases e : (gt s.nodes i).key = 0
    · rw [h, ← e]
    · obtain ⟨c1, c2⟩ := I.fwd i hi e
      have := c _ (Nat.pos_of_ne_zero e) (Nat.le_sub_one_of_lt c1) (c2.symm ▸ hi)
      rw [c2, h] at this
      exact absurd this e
  · exact h

theorem flush_spec (s : Heap) (I : Inv s) :
    Inv (flush s) ∧ abs (flush s) = PQ.flush (abs s) ∧ (flush s).heap.size = 1 := by
  have hp := I.size_pos
  obtain ⟨a, b, _⟩ := flushLoop_spec (s.heap.size - 1) s.heap s.nodes
  have hh : (flush s).heap = s.heap.extract 0 1 := rfl
  have hsz : (flush s).heap.size = 1 := by rw [hh]; simp; omega
  have hnone : ∀ k, 1 ≤ k → ¬ k < (flush s).heap.size := fun k k1 k2 => absurd (hsz ▸ k2) (Nat.not_lt.mpr k1)
  refine ⟨⟨Nat.le_of_eq hsz.symm, ?_, ?_, fun k k1 k2 => absurd k2 (hnone k (Nat.le_of_lt k1)),
    fun k k1 k2 => absurd k2 (hnone k k1), fun i i1 i3 => absurd (by rw [flush_nodes s I i (a ▸ i1)]) i3,
    I.idmap.frame a fun i => (b i).elim (congrArg Node.id) (congrArg Node.id)⟩, ?_, hsz⟩
  · rw [hh, gt_extract _ 0 1 0 hp Nat.one_pos]; exact I.sentinel
  · intro k hk
    have : k = 0 := by omega
    rw [this, hh, gt_extract _ 0 1 0 hp Nat.one_pos]; exact I.wlo 0 hp
  · refine map_ent_map _ a fun i hi => ?_
    show ent (gt (flush s).nodes i) = _
    rw [flush_nodes s I i hi]
    simp [ent]

end Tbx.AHeap
