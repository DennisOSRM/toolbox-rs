import Tbx.Proofs.CellIndex
/-
`BaseCell::process` computes the true boundary distances of the cell's own graph (`process_exact`):
the loops return and lay the matrix out row by row (`processLoop_run`, `loop_entries`), exactness of
the one-to-many searches on the renumbered graph (`O2MPost.exact`, heap laws discharged from C10) and the
transfer of walks through the renumbering (CellRenumber).
-/
namespace Tbx.Dijkstra
open Tbx Tbx.AHeap

/-- C08 `matrix_exact` -/
theorem process_exact (c : BaseCell) (hout : c.outgoing.Nodup) :
    ∃ mc, process c = .ok mc ∧ mc.incoming = c.incoming ∧ mc.outgoing = c.outgoing ∧
      mc.matrix.size = c.incoming.length * c.outgoing.length ∧
      ∀ (i j a b : Nat), c.incoming[i]? = some a → c.outgoing[j]? = some b →
        (∃ d : Nat, gt mc.matrix (i * c.outgoing.length + j) = (d : Int) ∧ SP.IsDist (cellGraph c.edges) a b d) ∨
        (gt mc.matrix (i * c.outgoing.length + j) = UMAX ∧ ¬ SP.Reachable (cellGraph c.edges) a b) := by
  obtain ⟨Min, _, has_in⟩ := foldl_orInsert_ok c.incoming [] MapOK.nil
  obtain ⟨M0, ext0, has_out⟩ := foldl_orInsert_ok c.outgoing _ Min
  obtain ⟨newEdges, seenF, hren, MF, extF, hmapped, hK⟩ := renumber_spec c.edges _ M0
  have kin : ∀ k ∈ c.incoming, Known seenF k := by
    intro k hk
    obtain ⟨i, hi⟩ := has_in k hk
    exact ⟨i, extF k i (ext0 k i hi)⟩
  have kout : ∀ k ∈ c.outgoing, Known seenF k := by
    intro k hk
    obtain ⟨i, hi⟩ := has_out k hk
    exact ⟨i, extF k i hi⟩
  have hsrc := (lookupAll_eq_some_iff seenF c.incoming _).mpr ⟨kin, rfl⟩
  have htgt := (lookupAll_eq_some_iff seenF c.outgoing _).mpr ⟨kout, rfl⟩
  have hndT := nodup_map_newId MF c.outgoing hout kout
  have hrun : ∀ s, s < staticNodes newEdges → ∃ p, o2mRun (staticAdj newEdges) (staticNodes newEdges) O2M.new s
        (c.outgoing.map (newId seenF)) = .ok p ∧ (O2MPost AHeap.Inv (staticAdj newEdges) s (c.outgoing.map (newId seenF)) p.1 ∧ _) :=
    fun s hs =>
      have H := o2mRun_spec heapLaws (staticAdj newEdges) (staticNodes newEdges) O2M.new s _ WFq_new_o2m
      Res.ok_of H.1 (H.2 (bounded_static newEdges) hs)
  obtain ⟨⟨stF, mxF⟩, hloop⟩ := (processLoop_run (staticAdj newEdges) (staticNodes newEdges) c.edges.isEmpty
    (c.outgoing.map (newId seenF)) c.outgoing.length (by simp) (c.incoming.map (newId seenF)) 0 O2M.new WFq_new_o2m
    (Array.replicate (c.incoming.length * c.outgoing.length) UMAX) (by simp)).2 fun s _ hc =>
      (hrun s (by simp only [Bool.or_eq_false_iff, decide_eq_false_iff_not] at hc; omega)).imp fun _ h => h.1
  obtain ⟨hsz, hentry⟩ := loop_entries (List.length_map _) (List.length_map _) hloop
  refine ⟨⟨c.incoming, c.outgoing, mxF⟩, by unfold process; simp only [hren, hsrc, htgt, hloop], rfl, rfl, hsz, ?_⟩
  intro i j a b hi hj
  have ha : Known seenF a := kin a (List.mem_of_getElem? hi)
  have hb : Known seenF b := kout b (List.mem_of_getElem? hj)
  rw [(hentry i j (newId seenF a) (newId seenF b) (by simp [hi]) (by simp [hj])).2]
  unfold cellEntry
  by_cases hcond : (c.edges.isEmpty || decide (newId seenF a ≥ staticNodes newEdges)) = true
  · -- boundary node without incident edge
    rw [if_pos hcond]
    have hiso : ∀ e ∈ c.edges, e.1 ≠ a := by
      intro e he hea
      simp only [Bool.or_eq_true, decide_eq_true_eq] at hcond
      rcases hcond with h | h
      · rw [List.isEmpty_iff.mp h] at he; cases he
      · have hm : (newId seenF e.1, newId seenF e.2.1, e.2.2) ∈ newEdges := by
          rw [hmapped]; exact List.mem_map.mpr ⟨e, he, rfl⟩
        have := (staticNodes_bound newEdges _ hm).1
        simp only at this
        rw [hea] at this; omega
    by_cases hab : newId seenF b = newId seenF a
    · rw [if_pos hab]
      have : b = a := newId_inj MF hb ha hab
      subst this
      left; exact ⟨0, rfl, SP.isDist_self _ _⟩
    · rw [if_neg hab]
      right
      refine ⟨rfl, ?_⟩
      rintro ⟨d, hw⟩
      have := (walk_isolated hiso hw).1
      subst this
      exact hab rfl
  · rw [if_neg hcond]
    have hs : newId seenF a < staticNodes newEdges := by
      simp only [Bool.or_eq_true, decide_eq_true_eq, not_or] at hcond
      omega
    obtain ⟨p, hp, hP⟩ := hrun _ hs
    rw [hp]
    simp only
    have hmem : newId seenF b ∈ c.outgoing.map (newId seenF) := List.mem_map.mpr ⟨b, List.mem_of_getElem? hj, rfl⟩
    rcases (hP.1.exact heapLaws hndT).2 _ hmem with ⟨d, hd, hdist⟩ | ⟨hd, hnr⟩
    · left
      refine ⟨d, hd, ?_⟩
      rw [hmapped] at hdist
      exact (isDist_transfer MF hK ha hb).mp hdist
    · right
      refine ⟨hd, ?_⟩
      intro hr
      apply hnr
      rw [hmapped]
      exact (reachable_transfer MF hK ha hb).mpr hr

end Tbx.Dijkstra
