import Tbx.Proofs.LruL0
/-
L0 over histories.  An operation that does not write a key leaves its binding as it was or forgets it
(eviction), so a binding still seen after a history that does not write the key is the one seen before;
and the list is ordered by `lastUse` (`Rec`).
-/
namespace Tbx.LruL0
open Tbx.LruSpec

set_option linter.unusedSectionVars false
variable {K V : Type} [DecidableEq K]

theorem get_snd_eq_lookup (s : Cache K V) (k : K) : (get s k).2 = lookup s k := by
  unfold get lookup; split <;> (rename_i h; simp [h])

theorem lookup_isSome_iff (s : Cache K V) (k : K) : (lookup s k).isSome = contains s k := by
  rw [Bool.eq_iff_iff, lookup, Option.isSome_map, List.find?_isSome, contains, List.any_eq_true]

theorem find_remove_other (l : List (K × V)) (k k' : K) (h : k ≠ k') :
    (remove l k').find? (fun p => p.1 == k) = l.find? (fun p => p.1 == k) := by
  simp only [remove, List.find?_filter]
  congr 1; funext p
  by_cases hp : p.1 = k
  · simp [hp, h]
  · simp [hp]

theorem lookup_push_same (s : Cache K V) (k : K) (v : V) : lookup (push s k v) k = some v := by
  unfold push lookup
  split
  · simp
  · split <;> simp

theorem lookup_push_other (s : Cache K V) (k k' : K) (v : V) (h : k' ≠ k) (x : V)
    (hx : lookup (push s k v) k' = some x) : lookup s k' = some x := by
  have hk : (k == k') = false := by simpa using fun e => h e.symm
  unfold push at hx
  unfold lookup at hx ⊢
  split at hx
  · simp only [List.find?, hk] at hx
    rwa [find_remove_other _ _ _ h] at hx
  · split at hx
    · simp only [List.find?, hk] at hx
      obtain ⟨p, hp, rfl⟩ := Option.map_eq_some_iff.1 hx
      rw [(List.dropLast_prefix _).find?_eq_some hp]; rfl
    · simpa only [List.find?, hk] using hx

theorem keys_get (s : Cache K V) (k : K) :
    keys (get s k).1 = if contains s k then k :: (keys s).filter (fun k' => !(k' == k)) else keys s := by
  rw [← lookup_isSome_iff, lookup]
  unfold get
  split
  · next p hf =>
    have hp : p.1 = k := by simpa using List.find?_some hf
    simp only [hf, Option.map_some, Option.isSome_some, if_true, keys, List.map_cons, hp, keys_remove]
  · next hf => simp [hf]

theorem lookup_get (s : Cache K V) (k k' : K) : lookup (get s k).1 k' = lookup s k' := by
  unfold get
  split
  · rename_i p hf
    have hp : p.1 = k := by simpa using List.find?_some hf
    unfold lookup
    by_cases e : k' = k
    · subst e; simp [List.find?, hp, hf]
    · have : (p.1 == k') = false := by simp [hp]; exact fun e' => e e'.symm
      simp only [List.find?, this]
      rw [find_remove_other _ _ _ e]
  · rfl

theorem contains_get (s : Cache K V) (k k' : K) : contains (get s k).1 k' = contains s k' := by
  rw [← lookup_isSome_iff, ← lookup_isSome_iff, lookup_get]

theorem lookup_setFront (s : Cache K V) (v : V) (k : K) :
    lookup (setFront s v).1 k = if s.items.head?.map (·.1) = some k then some v else lookup s k := by
  unfold setFront
  split
  · next e => simp [e]
  · next k0 old rest e =>
    cases hk : k0 == k
    · have : ¬ k0 = k := by simpa using hk
      simp [lookup, e, List.find?, hk, this]
    · have : k0 = k := by simpa using hk
      simp [lookup, e, List.find?, this]

theorem keys_setFront (s : Cache K V) (v : V) : keys (setFront s v).1 = keys s := by
  unfold setFront; split
  · rfl
  · rename_i e; simp [keys, e]

theorem lookup_step_of_not_writes (s : Cache K V) (op : Op K V) (k : K) (hw : writes s op k = false) (x : V)
    (hx : lookup (step s op).1 k = some x) : lookup s k = some x := by
  cases op with
  | push k' v =>
    have : k ≠ k' := by simp [writes] at hw; exact fun e => hw e.symm
    exact lookup_push_other s k' k v this x hx
  | get k' => exact lookup_get s k' k ▸ hx
  | contains k' => exact hx
  | front => exact hx
  | setFront v => rwa [step, lookup_setFront, if_neg (by simpa [writes] using hw)] at hx
  | clear => simp [writes] at hw
  | len => exact hx

theorem lookup_run_of_undisturbed (s : Cache K V) (ops : List (Op K V)) (k : K) (hu : Undisturbed s ops k) (x : V)
    (hx : lookup (run s ops) k = some x) : lookup s k = some x := by
  induction ops generalizing s with
  | nil => exact hx
  | cons op ops ih => exact lookup_step_of_not_writes s op k hu.1 x (ih _ hu.2 (run_cons s ops op ▸ hx))

theorem get_run_of_undisturbed (s : Cache K V) (ops : List (Op K V)) (k : K) (v : V) (hv : lookup s k = some v)
    (hu : Undisturbed s ops k) (hc : contains (run s ops) k = true) : (get (run s ops) k).2 = some v := by
  rw [get_snd_eq_lookup]
  obtain ⟨x, hx⟩ := Option.isSome_iff_exists.1 ((lookup_isSome_iff _ k).trans hc)
  exact hx.trans ((lookup_run_of_undisturbed s ops k hu x hx).symm.trans hv)

structure Rec (ops : List (Op K V)) (s : Cache K V) : Prop where
  used : ∀ k ∈ keys s, ∃ t, lastUse ops k = some t
  ordered : (keys s).Pairwise (fun a b => UsedBefore ops b a)

theorem usedBefore_snoc_of_not_use (ops : List (Op K V)) (op : Op K V) (a b : K)
    (ha : isUse op a = false) (hb : isUse op b = false) (h : UsedBefore ops a b) :
    UsedBefore (ops ++ [op]) a b := by
  obtain ⟨ta, tb, h1, h2, h3⟩ := h
  exact ⟨ta, tb, by rw [lastUse_snoc, ha]; simpa using h1, by rw [lastUse_snoc, hb]; simpa using h2, h3⟩

theorem usedBefore_snoc_of_use (ops : List (Op K V)) (op : Op K V) (a b : K)
    (ha : isUse op a = false) (hb : isUse op b = true) (h : ∃ t, lastUse ops a = some t) :
    UsedBefore (ops ++ [op]) a b := by
  obtain ⟨ta, h1⟩ := h
  exact ⟨ta, ops.length, by rw [lastUse_snoc, ha]; simpa using h1, by rw [lastUse_snoc, hb]; simp,
    lastUse_lt ops a ta h1⟩

theorem rec_step_same (ops : List (Op K V)) (op : Op K V) (s s' : Cache K V) (h : Rec ops s)
    (hk : keys s' = keys s) (hu : ∀ k ∈ keys s, isUse op k = false) : Rec (ops ++ [op]) s' := by
  constructor
  · intro k hk'; rw [hk] at hk'
    obtain ⟨t, ht⟩ := h.used k hk'
    exact ⟨t, by rw [lastUse_snoc, hu k hk']; simpa using ht⟩
  · rw [hk]
    exact h.ordered.imp_of_mem (fun ha hb hab => usedBefore_snoc_of_not_use ops op _ _ (hu _ hb) (hu _ ha) hab)

theorem isUse_push (k k' : K) (v : V) : isUse (Op.push k v : Op K V) k' = (k == k') := rfl
theorem isUse_get (k k' : K) : isUse (Op.get k : Op K V) k' = (k == k') := rfl

/-- the common shape of `keys_push` and of a hit of `keys_get` -/
theorem rec_step_front (ops : List (Op K V)) (op : Op K V) (s s' : Cache K V) (k : K) (rest : List K)
    (h : Rec ops s) (hk : keys s' = k :: rest) (hsub : rest.Sublist ((keys s).filter (fun k' => !(k' == k))))
    (hu : ∀ k', isUse op k' = (k == k')) : Rec (ops ++ [op]) s' := by
  have huk : isUse op k = true := by rw [hu]; simp
  have hne : ∀ k' ∈ rest, isUse op k' = false := fun k' hm => by
    have := (List.mem_filter.1 (hsub.subset hm)).2
    rw [hu]; simp at this ⊢; exact fun e => this e.symm
  have hks : ∀ k' ∈ rest, k' ∈ keys s := fun k' hm => (List.mem_filter.1 (hsub.subset hm)).1
  constructor
  · intro k' hk'
    rw [hk, List.mem_cons] at hk'
    rcases hk' with e | e
    · subst e; exact ⟨ops.length, by rw [lastUse_snoc, huk]; simp⟩
    · obtain ⟨t, ht⟩ := h.used k' (hks k' e)
      exact ⟨t, by rw [lastUse_snoc, hne k' e]; simpa using ht⟩
  · rw [hk, List.pairwise_cons]
    constructor
    · intro b hb
      exact usedBefore_snoc_of_use ops op b k (hne b hb) huk (h.used b (hks b hb))
    · exact (h.ordered.sublist (hsub.trans List.filter_sublist)).imp_of_mem
        (fun ha hb hab => usedBefore_snoc_of_not_use ops op _ _ (hne _ hb) (hne _ ha) hab)

theorem rec_step (ops : List (Op K V)) (op : Op K V) (s : Cache K V) (hc : 1 ≤ s.cap) (hi : Inv s) (h : Rec ops s) :
    Rec (ops ++ [op]) (step s op).1 := by
  cases op with
  | push k v =>
    obtain ⟨rest, e, hsub⟩ := keys_push s k v hc hi
    exact rec_step_front ops _ s _ k rest h e hsub (fun k' => isUse_push k k' v)
  | get k =>
    have hk := keys_get s k
    by_cases hit : contains s k = true
    · rw [if_pos hit] at hk
      exact rec_step_front ops _ s _ k _ h hk (List.Sublist.refl _) (isUse_get k)
    · rw [if_neg hit] at hk
      refine rec_step_same ops _ s _ h hk fun k' hk' => ?_
      rw [isUse_get]
      simpa using fun (e : k = k') => hit ((contains_iff s k).2 (e ▸ hk'))
  | contains k => exact rec_step_same ops _ s _ h rfl (fun _ _ => rfl)
  | front => exact rec_step_same ops _ s _ h rfl (fun _ _ => rfl)
  | setFront v => exact rec_step_same ops _ s _ h (keys_setFront s v) (fun _ _ => rfl)
  | clear => exact ⟨by simp [step, clear, keys], by simp [step, clear, keys]⟩
  | len => exact rec_step_same ops _ s _ h rfl (fun _ _ => rfl)

theorem rec_run (cap : Nat) (hc : 1 ≤ cap) (ops : List (Op K V)) :
    Rec ops (run (init cap : Cache K V) ops) := by
  induction ops using snoc_induction with
  | nil => exact ⟨by simp [run, init, keys], by simp [run, init, keys]⟩
  | snoc ops op ih =>
    rw [run_snoc]
    exact rec_step ops op _ (by rw [cap_run]; exact hc) (inv_run _ ops hc (inv_init cap)) ih

end Tbx.LruL0
