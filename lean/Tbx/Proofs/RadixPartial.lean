import Tbx.Proofs.RadixLSD
/-
Floats and `partial_cmp` (C17): a vector sorted by totalOrder is `==`-equal, position by position, to the stable
sort by `partial_cmp` (which keeps −0.0/+0.0 in input order).  Proof: `partial_cmp` on patterns is totalOrder on
the representatives `canon` (−0.0 ↦ +0.0) and is coarser than totalOrder, so `canon` is monotone; `map canon` commutes
with `mergeSort`; a sorted arrangement is the one `mergeSort` produces.
-/
namespace Tbx.Radix
open Tbx Tbx.SortSpec

/-- the two zeros have adjacent keys: −0.0 ↦ half − 1, +0.0 ↦ half -/
theorem fmag_zero_iff_key (t : Ty) (hw : 0 < t.w) (x : Nat) (hx : x < t.card) :
    fmag t x = 0 ↔ floatTr t x + 1 = t.half ∨ floatTr t x = t.half := by
  have hc := card_eq_two_half t hw
  have hp := half_pos t
  rw [fmag_eq t hw x hx, floatTr_eq t hw x hx]
  split <;> omega

theorem canon_lt (t : Ty) (hw : 0 < t.w) (x : Nat) (hx : x < t.card) : canon t x < t.card := by
  unfold canon
  split
  · have := half_pos t; have := card_eq_two_half t hw; omega
  · exact hx

/-- `canon` moves the key of −0.0 onto the key of +0.0 and leaves every other key alone -/
theorem floatTr_canon (t : Ty) (hw : 0 < t.w) (x : Nat) (hx : x < t.card) :
    floatTr t (canon t x) = if floatTr t x + 1 = t.half then t.half else floatTr t x := by
  have hp := half_pos t
  have hz := fmag_zero_iff_key t hw x hx
  unfold canon
  by_cases h : fmag t x = 0
  · rw [if_pos h, floatTr_eq t hw 0 (Nat.lt_trans hp (by have := card_eq_two_half t hw; omega)),
      if_neg (by omega), Nat.zero_add]
    rcases hz.1 h with e | e
    · rw [if_pos e]
    · rw [if_neg (by omega), e]
  · rw [if_neg h, if_neg (fun e => h (hz.2 (Or.inl e)))]

theorem ple_canon (t : Ty) (hw : 0 < t.w) (hf : t.kind = .float) (a b : Nat) (ha : a < t.card) (hb : b < t.card) :
    pleB t a b = leB t (canon t a) (canon t b) := by
  have hp := half_pos t
  have hle : ∀ x y, le t x y ↔ fle t x y := by intro x y; unfold le; rw [hf]
  rw [Bool.eq_iff_iff]
  unfold pleB leB isZeroF
  simp only [Bool.or_eq_true, Bool.and_eq_true, decide_eq_true_eq, beq_iff_eq, hle]
  rw [fle_iff_key t hw a b ha hb, fle_iff_key t hw _ _ (canon_lt t hw a ha) (canon_lt t hw b hb),
    fmag_zero_iff_key t hw a ha, fmag_zero_iff_key t hw b hb, floatTr_canon t hw a ha, floatTr_canon t hw b hb]
  split <;> split <;> omega

theorem sorted_eq_partial_sort (t : Ty) (hw : 0 < t.w) (hf : t.kind = .float) {xs l : List Nat}
    (hx : ∀ x ∈ xs, x < t.card) (h : IsSortOf t xs l) :
    l.map (canon t) = (xs.mergeSort (pleB t)).map (canon t) := by
  rw [List.map_mergeSort (s := leB t) (fun a ha b hb => ple_canon t hw hf a b (hx a ha) (hx b hb))]
  have hl : (l.map (canon t)).Pairwise (le t) := by
    rw [List.pairwise_map]
    refine h.2.imp_of_mem ?_
    intro a b ha hb hab
    -- `partial_cmp` is coarser than totalOrder
    have := ple_canon t hw hf a b (hx a (h.1.subset ha)) (hx b (h.1.subset hb))
    rw [pleB, leB, decide_eq_true hab, Bool.true_or] at this
    exact of_decide_eq_true this.symm
  refine eq_mergeSort t hw ?_ ⟨h.1.map (canon t), hl⟩
  intro y hy
  rcases List.mem_map.mp hy with ⟨x, hx', rfl⟩
  exact canon_lt t hw x (hx x hx')

theorem feqB_iff_canon (t : Ty) (a b : Nat) : feqB t a b = true ↔ canon t a = canon t b := by
  have h0 : fmag t 0 = 0 := Nat.zero_mod _
  unfold feqB isZeroF canon
  simp only [Bool.or_eq_true, Bool.and_eq_true, beq_iff_eq]
  by_cases za : fmag t a = 0 <;> by_cases zb : fmag t b = 0 <;> simp only [za, zb, if_true, if_false]
  · simp
  · constructor
    · rintro (rfl | ⟨_, h⟩)
      · exact absurd za zb
      · exact h.elim
    · rintro rfl; exact absurd h0 zb
  · constructor
    · rintro (rfl | ⟨h, _⟩)
      · exact absurd zb za
      · exact h.elim
    · rintro rfl; exact absurd h0 za
  · simp

end Tbx.Radix
