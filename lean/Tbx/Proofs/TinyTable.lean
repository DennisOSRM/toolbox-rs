import Tbx.Model.TinyTable
import Tbx.Spec.FinMap
/-
The tiny table (unsorted vector, linear search, swap_remove) refines the finite-map Spec.

A table is a list of the same type as the reference map, and its linear search is the map's lookup
(`find_eq_get?`); with distinct keys a lookup does not depend on the order of the entries.  So the
relation kept along a history is: the table is a permutation of the reference map.
-/
namespace Tbx.TinyTable
open Tbx FinMap

theorem find_eq_get? (t : T) (k : Nat) : find t k = get? t k := by
  induction t with
  | nil => rfl
  | cons e t ih => obtain ⟨a, w⟩ := e; simp only [find, get?, ih]

theorem contains_eq (t : T) (k : Nat) : TinyTable.contains t k = FinMap.contains t k := by
  induction t with
  | nil => rfl
  | cons e t ih =>
    obtain ⟨a, w⟩ := e
    simp only [TinyTable.contains, List.any_cons, FinMap.contains, get?] at ih ⊢
    by_cases h : a = k
    · simp [h]
    · simp [h, ih]

theorem swapRemove_zero_perm (x : Nat × Int) (xs : T) : (swapRemove (x :: xs) 0).Perm xs := by
  simp only [swapRemove]
  cases h : xs.getLast? with
  | none => rw [List.getLast?_eq_none_iff.mp h]
  | some z =>
    obtain ⟨ys, e⟩ := List.getLast?_eq_some_iff.mp h
    subst e
    simp only [List.dropLast_concat]
    exact (List.perm_append_singleton z ys).symm

theorem remove_perm (t : T) (k : Nat) (hn : NoDup t) : (remove t k).1.Perm (erase t k) := by
  induction t with
  | nil => exact List.Perm.refl _
  | cons e t ih =>
    obtain ⟨a, w⟩ := e
    obtain ⟨hn1, hn2⟩ := List.nodup_cons.1 hn
    by_cases h : a = k
    · subst h
      simp only [remove, position, if_true, erase]
      rw [erase_of_not_mem t a hn1]
      exact swapRemove_zero_perm _ _
    · have ih := ih hn2
      simp only [remove, position, h, if_false, erase] at ih ⊢
      cases hp : position t k with
      | none => simp only [hp, Option.map_none] at ih ⊢; exact List.Perm.cons _ ih
      | some i => simp only [hp, Option.map_some, swapRemove] at ih ⊢; exact List.Perm.cons _ ih

theorem remove_ret (t : T) (k : Nat) : (remove t k).2 = FinMap.contains t k := by
  induction t with
  | nil => rfl
  | cons e t ih =>
    obtain ⟨a, w⟩ := e
    by_cases h : a = k
    · simp [remove, position, FinMap.contains, get?, h]
    · simp only [remove, position, FinMap.contains, get?, h, if_false] at ih ⊢
      cases hp : position t k with
      | none => simp only [hp] at ih; simpa using ih
      | some i => simp only [hp] at ih; simpa using ih

/-- overwriting through `find_mut`: an insert if the key is present, nothing otherwise -/
theorem setVal_perm (t : T) (k : Nat) (v : Int) (hn : NoDup t) :
    (setVal t k v).1.Perm (if FinMap.contains t k then FinMap.insert t k v else t) ∧
      (setVal t k v).2 = FinMap.contains t k := by
  induction t with
  | nil => exact ⟨List.Perm.refl _, rfl⟩
  | cons e t ih =>
    obtain ⟨a, w⟩ := e
    obtain ⟨hn1, hn2⟩ := List.nodup_cons.1 hn
    by_cases h : a = k
    · subst h
      simp [setVal, FinMap.contains, get?, FinMap.insert, erase, erase_of_not_mem t a hn1]
    · obtain ⟨ih1, ih2⟩ := ih hn2
      have hc : FinMap.contains ((a, w) :: t) k = FinMap.contains t k := by simp [FinMap.contains, get?, h]
      simp only [setVal, h, if_false, hc, ih2, and_true]
      split
      · next hk =>
        rw [hk] at ih1
        simp only [FinMap.insert, erase, h, if_false] at ih1 ⊢
        exact (ih1.cons _).trans (List.Perm.swap _ _ _)
      · next hk => rw [if_neg hk] at ih1; exact ih1.cons _

structure Rel (t : T) (m : M) : Prop where
  perm : t.Perm m
  nodup : NoDup m

theorem Rel.get? {t : T} {m : M} (R : Rel t m) (k : Nat) : find t k = FinMap.get? m k :=
  (find_eq_get? t k).trans (get?_perm R.perm R.nodup k)

theorem Rel.contains {t : T} {m : M} (R : Rel t m) (k : Nat) : FinMap.contains t k = FinMap.contains m k := by
  rw [FinMap.contains, get?_perm R.perm R.nodup]; rfl

theorem rel_new : Rel new FinMap.clear := ⟨List.Perm.refl _, noDup_clear⟩

theorem rel_clear (t : T) : Rel (TinyTable.clear t) FinMap.clear := rel_new

theorem rel_remove {t : T} {m : M} (R : Rel t m) (k : Nat) :
    Rel (remove t k).1 (FinMap.remove m k).1 ∧ (remove t k).2 = (FinMap.remove m k).2 :=
  ⟨⟨(remove_perm t k ((noDup_perm R.perm).2 R.nodup)).trans (erase_perm R.perm k), noDup_erase m k R.nodup⟩,
    (remove_ret t k).trans (R.contains k)⟩

theorem rel_insert {t : T} {m : M} (R : Rel t m) (k : Nat) (v : Int) :
    Rel (TinyTable.insert t k v).1 (FinMap.insert m k v) ∧ (TinyTable.insert t k v).2 = FinMap.contains m k :=
  ⟨⟨(List.perm_append_singleton _ _).trans ((rel_remove R k).1.perm.cons _), noDup_insert m k v R.nodup⟩,
    (rel_remove R k).2⟩

theorem rel_setVal {t : T} {m : M} (R : Rel t m) (k : Nat) (v : Int) :
    Rel (setVal t k v).1 (if FinMap.contains m k then FinMap.insert m k v else m) ∧
      (setVal t k v).2 = FinMap.contains m k := by
  obtain ⟨h1, h2⟩ := setVal_perm t k v ((noDup_perm R.perm).2 R.nodup)
  rw [R.contains] at h1 h2
  refine ⟨?_, h2⟩
  split
  · next hc => exact ⟨(if_pos hc ▸ h1).trans ((erase_perm R.perm k).cons _), noDup_insert m k v R.nodup⟩
  · next hc => exact ⟨(if_neg hc ▸ h1).trans R.perm, R.nodup⟩

end Tbx.TinyTable
