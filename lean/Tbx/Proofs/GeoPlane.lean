import Tbx.Proofs.GeoHull
import Mathlib.Algebra.Order.Ring.Int
import Mathlib.Tactic.Ring
/-
Plane geometry on integer coordinates used by the enclosure and convexity proofs of the monotone chain.
Two uses of one polynomial identity among the orientation tests of three vectors u, v, w (Grassmann–Plücker):
  vx · (u × w) = ux · (v × w) + wx · (u × v).
On vector components it says that vectors of the lexicographically non-negative half plane are ordered by direction
transitively (`det_trans`, which proves the identity in place, `key`); the four lemmas of the enclosure proof
(`crossX1`, `crossX2`, `crossP`, `crossP'`) are instances of `det_trans`: the points ordered by (lon, lat) give the
signs of the coordinate differences, the vectors to points before the base point are reversed (`cross_rev`,
`cross_rev2`).  On points (`cross_plucker`, in a longitude and a latitude form) it gives the two lemmas of the
convexity proof about points on one line, `opposite_sides` and `collinear_of_on_line`.
Last, the point reflection `neg`: it keeps every orientation test and turns the (lon, lat) order round.
-/
namespace Tbx.Geo

/-- the vector (x, y) is lexicographically ≥ 0 (x is the longitude difference) -/
def Lex0 (x y : Int) : Prop := 0 < x ∨ (x = 0 ∧ 0 ≤ y)

theorem Lex0.fst {x y : Int} (h : Lex0 x y) : 0 ≤ x := by rcases h with h | ⟨h, _⟩ <;> omega
theorem Lex0.snd {x y : Int} (h : Lex0 x y) (hx : x = 0) : 0 ≤ y := by rcases h with h | ⟨_, h⟩ <;> omega

/-- a ≼ b in the (lon, lat) order -/
def LexLe (a b : Coord) : Prop := Lex0 (b.lon - a.lon) (b.lat - a.lat)

theorem lexLe_iff (a b : Coord) : lonLatLe a b = true ↔ LexLe a b := by
  simp only [lonLatLe, LexLe, Lex0, Bool.or_eq_true, Bool.and_eq_true, decide_eq_true_eq]
  omega

theorem LexLe.fst {a b : Coord} (h : LexLe a b) : 0 ≤ b.lon - a.lon := Lex0.fst h

theorem LexLe.lon_le {a b : Coord} (h : LexLe a b) : a.lon ≤ b.lon := Int.le_of_sub_nonneg h.fst

theorem LexLe.lat_le {a b : Coord} (h : LexLe a b) (e : a.lon = b.lon) : a.lat ≤ b.lat := by
  have := Lex0.snd h (by omega); omega

theorem LexLe.refl (a : Coord) : LexLe a a := (lexLe_iff a a).mp (lonLatLe_refl a)

theorem LexLe.trans {a b c : Coord} (h1 : LexLe a b) (h2 : LexLe b c) : LexLe a c :=
  (lexLe_iff a c).mp (lonLatLe_trans a b c ((lexLe_iff a b).mpr h1) ((lexLe_iff b c).mpr h2))

theorem LexLe.total (a b : Coord) : LexLe a b ∨ LexLe b a :=
  (Bool.or_eq_true _ _ ▸ lonLatLe_total a b).imp (lexLe_iff a b).mp (lexLe_iff b a).mp

theorem coord_ext {a b : Coord} (h1 : a.lon = b.lon) (h2 : a.lat = b.lat) : a = b := by
  cases a; cases b; cases h1; cases h2; rfl

theorem LexLe.antisymm {a b : Coord} (h1 : LexLe a b) (h2 : LexLe b a) : a = b := by
  have e : a.lon = b.lon := Int.le_antisymm h1.lon_le h2.lon_le
  exact coord_ext e (Int.le_antisymm (h1.lat_le e) (h2.lat_le e.symm))

def LexLt (a b : Coord) : Prop := LexLe a b ∧ a ≠ b

theorem lexLt_of_not_le {a b : Coord} (h : ¬ LexLe a b) : LexLt b a :=
  ⟨(LexLe.total a b).resolve_left h, fun e => h (e ▸ LexLe.refl b)⟩

theorem LexLt.cases {a b : Coord} (h : LexLt a b) : a.lon < b.lon ∨ (a.lon = b.lon ∧ a.lat < b.lat) := by
  rcases Int.lt_or_eq_of_le h.1.lon_le with hl | e
  · exact Or.inl hl
  · refine Or.inr ⟨e, lt_of_le_of_ne (h.1.lat_le e) fun e2 => h.2 (coord_ext e e2)⟩

theorem cross_swap (o a b : Coord) : cross o b a = -cross o a b := by
  unfold cross; ring

theorem cross_flip (o a q : Coord) : cross a o q = -cross o a q := by
  unfold cross; ring

theorem cross_cycle (o a b : Coord) : cross a b o = cross o a b := by
  unfold cross; ring

theorem cross_self_right (o p : Coord) : cross o p p = 0 := by
  unfold cross; ring

theorem cross_self_left (o p : Coord) : cross o o p = 0 := by
  unfold cross; ring

theorem cross_self_base (o p : Coord) : cross o p o = 0 := by
  unfold cross; ring

/-- Grassmann–Plücker relation of the vectors o → a, o → p, o → q, longitude component -/
theorem cross_plucker (o a p q : Coord) :
    (a.lon - o.lon) * cross o p q = (p.lon - o.lon) * cross o a q - (q.lon - o.lon) * cross o a p := by
  unfold cross; ring

theorem cross_plucker_lat (o a p q : Coord) :
    (a.lat - o.lat) * cross o p q = (p.lat - o.lat) * cross o a q - (q.lat - o.lat) * cross o a p := by
  unfold cross; ring

theorem cross_of_lon_eq {o q : Coord} (p : Coord) (h : q.lon = o.lon) :
    cross o p q = (p.lon - o.lon) * (q.lat - o.lat) := by
  unfold cross; rw [h, Int.sub_self, Int.mul_zero, Int.sub_zero]

theorem cross_of_lon_eq' {o q : Coord} (p : Coord) (h : q.lon = o.lon) :
    cross o q p = -((q.lat - o.lat) * (p.lon - o.lon)) := by
  unfold cross; rw [h, Int.sub_self, Int.zero_mul, Int.zero_sub]

/-- vectors of the lexicographically non-negative half plane are ordered by direction: `0 ≤ u × v` is
transitive through a middle vector `v ≠ 0`.  Of `u` only `0 ≤ ux` is used. -/
theorem det_trans {ux uy vx vy wx wy : Int} (hu : 0 ≤ ux) (hv : Lex0 vx vy) (hw : Lex0 wx wy)
    (hv0 : vx = 0 → vy ≠ 0)
    (h1 : 0 ≤ ux * vy - uy * vx) (h2 : 0 ≤ vx * wy - vy * wx) : 0 ≤ ux * wy - uy * wx := by
  rcases hv with hvx | ⟨rfl, hvy⟩
  · have key : vx * (ux * wy - uy * wx) = ux * (vx * wy - vy * wx) + wx * (ux * vy - uy * vx) := by ring
    exact nonneg_of_mul_nonneg_right (key ▸ add_nonneg (mul_nonneg hu h2) (mul_nonneg hw.fst h1)) hvx
  · -- v points straight up: w has no longitude component either
    rw [Int.zero_mul, Int.zero_sub, neg_nonneg] at h2
    have hwx : wx = 0 :=
      Int.le_antisymm (nonpos_of_mul_nonpos_right h2 (lt_of_le_of_ne hvy (hv0 rfl).symm)) hw.fst
    rw [hwx, Int.mul_zero, Int.sub_zero]
    exact mul_nonneg hu (hw.snd hwx)

theorem cross_rev (o a b : Coord) :
    cross o a b = (o.lon - b.lon) * (a.lat - o.lat) - (o.lat - b.lat) * (a.lon - o.lon) := by
  unfold cross; ring

theorem cross_rev2 (o a b : Coord) :
    cross o a b = (o.lon - a.lon) * (o.lat - b.lat) - (o.lat - a.lat) * (o.lon - b.lon) := by
  unfold cross; ring

theorem sub_ne_of_ne {a o : Coord} (h : a ≠ o) (h1 : a.lon - o.lon = 0) : a.lat - o.lat ≠ 0 :=
  fun h2 => h (coord_ext (Int.eq_of_sub_eq_zero h1) (Int.eq_of_sub_eq_zero h2))

/-- o ≼ q ≼ a ≼ p; q left of o → a, p right of o → a  ⟹  q left of o → p -/
theorem crossX1 {o a p q : Coord} (hoq : LexLe o q) (hqa : LexLe q a) (hap : LexLe a p)
    (h1 : 0 ≤ cross o a q) (h2 : cross o a p ≤ 0) : 0 ≤ cross o p q := by
  by_cases hao : a = o
  · rw [LexLe.antisymm (hao ▸ hqa) hoq, cross_self_base]
  · have h2' : 0 ≤ cross o p a := by rw [cross_swap]; exact Int.neg_nonneg_of_nonpos h2
    exact det_trans ((hoq.trans hqa).trans hap).fst (hoq.trans hqa) hoq (sub_ne_of_ne hao) h2' h1

/-- o ≼ a ≼ q ≼ p; p right of o → a, q left of a → p  ⟹  q left of o → p (seen from p) -/
theorem crossX2 {o a p q : Coord} (hoa : LexLe o a) (haq : LexLe a q) (hqp : LexLe q p)
    (h1 : cross o a p ≤ 0) (h2 : 0 ≤ cross a p q) : 0 ≤ cross o p q := by
  by_cases hpa : p = a
  · rw [LexLe.antisymm hqp (hpa ▸ haq), cross_self_right]
  · have h1' : 0 ≤ cross p a o := by rw [cross_cycle o p a, cross_swap]; exact Int.neg_nonneg_of_nonpos h1
    rw [← cross_cycle a p q, cross_rev2] at h2
    rw [cross_rev2] at h1'
    rw [← cross_cycle o p q, cross_rev2]
    exact det_trans hqp.fst (haq.trans hqp) ((hoa.trans haq).trans hqp) (sub_ne_of_ne hpa) h2 h1'

/-- o' ≼ o ≼ p, q ≼ o; q left of o' → o, strict left turn o' → o → p  ⟹  q left of o → p -/
theorem crossP {o' o p q : Coord} (ho : LexLe o' o) (hp : LexLe o p) (hq : LexLe q o)
    (h1 : 0 ≤ cross o' o q) (h2 : 0 < cross o' o p) : 0 ≤ cross o p q := by
  have hne : o ≠ o' := fun h => by rw [h, cross_self_left] at h2; exact Int.lt_irrefl 0 h2
  have h2' := Int.le_of_lt h2
  rw [← cross_cycle o' o q, cross_rev2] at h1
  rw [← cross_cycle o' o p, cross_rev] at h2'
  rw [cross_rev]
  exact det_trans hq.fst ho hp (sub_ne_of_ne hne) h1 h2'

/-- s0 ≼ s1 ≼ s2, s1 ≼ p; p left of s1 → s2, strict left turn s0 → s1 → s2  ⟹  p left of s0 → s1 -/
theorem crossP' {s0 s1 s2 p : Coord} (h01 : LexLe s0 s1) (h12 : LexLe s1 s2) (h1p : LexLe s1 p)
    (h1 : 0 ≤ cross s1 s2 p) (h2 : 0 < cross s0 s1 s2) : 0 ≤ cross s0 s1 p := by
  have hne : s2 ≠ s1 := fun h => by rw [h, cross_self_right] at h2; exact Int.lt_irrefl 0 h2
  have h2' := Int.le_of_lt h2
  rw [← cross_cycle s0 s1 s2, cross_rev] at h2'
  rw [← cross_cycle s0 s1 p, cross_rev]
  exact det_trans h01.fst h12 h1p (sub_ne_of_ne hne) h2' h1

theorem opp_sign {k m X Y : Int} (hk : k < 0) (hm : 0 < m) (h : k * X = m * Y) : 0 < Y ↔ X < 0 := by
  have hs := congrArg Int.sign h
  rw [Int.sign_mul, Int.sign_mul, Int.sign_eq_neg_one_of_neg hk, Int.sign_eq_one_of_pos hm, Int.one_mul] at hs
  rw [← Int.sign_eq_one_iff_pos, ← Int.sign_eq_neg_one_iff_neg, ← hs]
  omega

theorem opposite_sides {u p v : Coord} (hup : LexLt u p) (hpv : LexLt p v) (hcol : cross p u v = 0) (w : Coord) :
    0 < cross p w u ↔ cross p w v < 0 := by
  have e1 := cross_plucker p u w v
  have e2 := cross_plucker_lat p u w v
  rw [hcol, Int.mul_zero, Int.zero_sub, cross_swap p w u, Int.mul_neg, Int.neg_neg] at e1 e2
  rcases hup.cases with hu | ⟨eu, lu⟩
  · refine opp_sign (Int.sub_neg_of_lt hu) ?_ e1
    rcases hpv.cases with hv | ⟨ev, lv⟩
    · exact Int.sub_pos_of_lt hv
    · -- v straight above p, u strictly to the left: not collinear
      rw [cross_of_lon_eq u ev.symm] at hcol
      rcases Int.mul_eq_zero.mp hcol with h | h
      · exact absurd (Int.sub_eq_zero.mp h) (Int.ne_of_lt hu)
      · exact absurd (Int.sub_eq_zero.mp h).symm (Int.ne_of_lt lv)
  · -- u straight below p: v is on the meridian too, above p
    have ev : v.lon = p.lon := by
      rw [cross_of_lon_eq' v eu] at hcol
      rcases Int.mul_eq_zero.mp (Int.neg_eq_zero.mp hcol) with h | h
      · exact absurd (Int.sub_eq_zero.mp h) (Int.ne_of_lt lu)
      · exact Int.sub_eq_zero.mp h
    refine opp_sign (Int.sub_neg_of_lt lu) (Int.sub_pos_of_lt ?_) e2
    rcases hpv.cases with hv | ⟨_, lv⟩
    · exact absurd ev.symm (Int.ne_of_lt hv)
    · exact lv

theorem collinear_of_on_line {p v w w' : Coord} (hpv : p ≠ v) (h1 : cross p w v = 0) (h2 : cross p w' v = 0) :
    cross p w w' = 0 := by
  have e1 := cross_plucker p v w w'
  have e2 := cross_plucker_lat p v w w'
  rw [cross_swap p w' v, cross_swap p w v, h1, h2, Int.neg_zero, Int.mul_zero, Int.mul_zero, Int.sub_zero] at e1 e2
  rcases Int.mul_eq_zero.mp e1 with hl | h
  · rcases Int.mul_eq_zero.mp e2 with hl' | h
    · exact absurd (coord_ext (by omega) (by omega)) hpv
    · exact h
  · exact h

theorem cross_rebase (o a b c : Coord) : cross a b c = cross o a b + cross o b c - cross o a c := by
  unfold cross; ring

theorem collinear_of_line {u v a b c : Coord} (huv : u ≠ v) (ha : cross u v a = 0) (hb : cross u v b = 0)
    (hc : cross u v c = 0) : cross a b c = 0 := by
  rw [cross_swap] at ha hb hc
  have ha := Int.neg_eq_zero.mp ha
  have hb := Int.neg_eq_zero.mp hb
  have hc := Int.neg_eq_zero.mp hc
  rw [cross_rebase u a b c, collinear_of_on_line huv ha hb, collinear_of_on_line huv hb hc,
    collinear_of_on_line huv ha hc]
  rfl

def neg (c : Coord) : Coord := ⟨-c.lat, -c.lon⟩

theorem neg_neg (c : Coord) : neg (neg c) = c := by
  cases c; simp [neg]

theorem neg_inj {a b : Coord} (h : neg a = neg b) : a = b := by
  have := congrArg neg h
  rwa [neg_neg, neg_neg] at this

theorem cross_neg (o a b : Coord) : cross (neg o) (neg a) (neg b) = cross o a b := by
  simp only [cross, neg]; ring

theorem isCW_neg (o a p : Coord) : isCW (neg o) (neg a) (neg p) = isCW o a p := by
  rw [Bool.eq_iff_iff, isCW_iff, isCW_iff, cross_neg]

theorem LexLe_neg {a b : Coord} : LexLe (neg a) (neg b) ↔ LexLe b a := by
  simp only [LexLe, Lex0, neg]; omega

theorem LexLt_neg {a b : Coord} : LexLt (neg a) (neg b) ↔ LexLt b a :=
  and_congr LexLe_neg ⟨fun h e => h (e ▸ rfl), fun h e => h (neg_inj e).symm⟩

end Tbx.Geo
