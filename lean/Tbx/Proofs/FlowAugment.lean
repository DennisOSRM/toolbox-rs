import Mathlib.Algebra.BigOperators.Ring.Finset
import Tbx.Proofs.FlowTheory
/-
C01 `residual_inv` / `augment_ok` at the level of residual functions (DESIGN.md Appendix A.5):
pushing δ along a simple s–t path of residual edges, 0 ≤ δ ≤ every residual capacity on the path, keeps
the residual invariant and conservation and raises the value by δ.  The solvers' proofs (`Flow.push_finv`) take only
the pair sums, conservation and the value from here (`augment_rev`, for any walk listed from the target back).
-/
open Finset
namespace Tbx.FlowTheory
variable {n : Nat}

/-- signed indicator of the edges of a walk: +1 on (vᵢ,vᵢ₊₁), −1 on (vᵢ₊₁,vᵢ) -/
def chi : List (Fin n) → Fin n → Fin n → ℤ
  | a :: b :: rest, u, v =>
      (if u = a ∧ v = b then 1 else 0) - (if u = b ∧ v = a then 1 else 0) + chi (b :: rest) u v
  | _, _, _ => 0

theorem chi_anti (p : List (Fin n)) (u v : Fin n) : chi p u v = - chi p v u := by
  induction p with
  | nil => simp [chi]
  | cons a rest ih =>
    cases rest with
    | nil => simp [chi]
    | cons b rest =>
      simp only [chi]
      rw [ih]
      have e1 : (u = a ∧ v = b) ↔ (v = b ∧ u = a) := And.comm
      have e2 : (u = b ∧ v = a) ↔ (v = a ∧ u = b) := And.comm
      simp only [e1, e2]; ring

theorem sum_ite_and_eq (P : Prop) [Decidable P] (b : Fin n) :
    ∑ v : Fin n, (if P ∧ v = b then (1:ℤ) else 0) = if P then 1 else 0 := by
  by_cases h : P
  · simp only [h, true_and, Finset.sum_ite_eq', Finset.mem_univ, if_true]
  · simp only [h, false_and, if_false, Finset.sum_const_zero]

theorem chi_sum (a : Fin n) (rest : List (Fin n)) (u : Fin n) :
    ∑ v, chi (a :: rest) u v =
      (if u = a then 1 else 0) - (if u = (a :: rest).getLast (by simp) then 1 else 0) := by
  induction rest generalizing a with
  | nil => simp only [chi, Finset.sum_const_zero, List.getLast_singleton]; exact (sub_self _).symm
  | cons b rest ih =>
    simp only [chi, Finset.sum_add_distrib, Finset.sum_sub_distrib, sum_ite_and_eq, ih b,
      List.getLast_cons_cons]
    exact sub_add_sub_cancel _ _ _

theorem chi_not_mem_left (p : List (Fin n)) (u v : Fin n) (h : u ∉ p) : chi p u v = 0 := by
  induction p with
  | nil => simp [chi]
  | cons a rest ih =>
    cases rest with
    | nil => simp [chi]
    | cons b rest =>
      simp only [chi]
      have ha : u ≠ a := fun e => h (e ▸ List.mem_cons_self)
      have hb : u ≠ b := fun e => h (e ▸ List.mem_cons_of_mem _ List.mem_cons_self)
      rw [ih (fun hm => h (List.mem_cons_of_mem _ hm))]
      simp [ha, hb]

theorem chi_not_mem_right (p : List (Fin n)) (u v : Fin n) (h : v ∉ p) : chi p u v = 0 := by
  rw [chi_anti, chi_not_mem_left p v u h]; simp

def consec {α : Type} : List α → List (α × α)
  | a :: b :: rest => (a, b) :: consec (b :: rest)
  | _ => []

theorem chi_le_one (p : List (Fin n)) (hnd : p.Nodup) (u v : Fin n) :
    chi p u v ≤ 1 ∧ (0 < chi p u v → (u, v) ∈ consec p) := by
  induction p with
  | nil => simp [chi]
  | cons a rest ih =>
    cases rest with
    | nil => simp [chi]
    | cons b rest =>
      have hnd' : (b :: rest).Nodup := (List.nodup_cons.mp hnd).2
      have ha : a ∉ b :: rest := (List.nodup_cons.mp hnd).1
      have hab : a ≠ b := fun e => ha (e ▸ List.mem_cons_self)
      obtain ⟨i1, i2⟩ := ih hnd'
      simp only [chi, consec]
      by_cases h1 : u = a ∧ v = b
      · have : chi (b :: rest) u v = 0 := chi_not_mem_left _ _ _ (h1.1 ▸ ha)
        have h2 : ¬ (u = b ∧ v = a) := fun h => hab (h1.1 ▸ h.1)
        rw [this, if_pos h1, if_neg h2]
        refine ⟨by decide, fun _ => ?_⟩
        rw [h1.1, h1.2]; exact List.mem_cons_self
      · by_cases h2 : u = b ∧ v = a
        · have : chi (b :: rest) u v = 0 := chi_not_mem_right _ _ _ (h2.2 ▸ ha)
          rw [this, if_neg h1, if_pos h2]
          exact ⟨by decide, fun h => absurd h (by decide)⟩
        · rw [if_neg h1, if_neg h2, Int.sub_self, Int.zero_add]
          exact ⟨i1, fun h => List.mem_cons_of_mem _ (i2 h)⟩

def pushAlong (r : Fin n → Fin n → ℤ) (δ : ℤ) (p : List (Fin n)) : Fin n → Fin n → ℤ :=
  fun u v => r u v - δ * chi p u v

theorem conserved_sub_mul {c r : Fin n → Fin n → ℤ} {s t : Fin n} (hst : s ≠ t) (hc : Conserved c r s t) (δ : ℤ)
    (χ : Fin n → Fin n → ℤ)
    (hsum : ∀ u, ∑ v, χ u v = (if u = s then 1 else 0) - (if u = t then 1 else 0)) :
    Conserved c (fun u v => r u v - δ * χ u v) s t ∧
    value (resFlow c (fun u v => r u v - δ * χ u v)) s = value (resFlow c r) s + δ := by
  have hrow : ∀ u, ∑ v, resFlow c (fun u v => r u v - δ * χ u v) u v =
      ∑ v, resFlow c r u v + δ * ((if u = s then 1 else 0) - (if u = t then 1 else 0)) := by
    intro u
    have : ∀ v, resFlow c (fun u v => r u v - δ * χ u v) u v = resFlow c r u v + δ * χ u v := by
      intro v; unfold resFlow; ring
    simp only [this, Finset.sum_add_distrib, ← Finset.mul_sum, hsum]
  constructor
  · intro u hus hut
    rw [hrow u, hc u hus hut, if_neg hus, if_neg hut]; ring
  · unfold value
    rw [hrow s, if_pos rfl, if_neg hst]; ring

theorem pushAlong_resInv {c r : Fin n → Fin n → ℤ} (h : ResInv c r) (δ : ℤ) (hδ : 0 ≤ δ)
    (p : List (Fin n)) (hnd : p.Nodup) (hcap : ∀ ab ∈ consec p, δ ≤ r ab.1 ab.2) :
    ResInv c (pushAlong r δ p) := by
  constructor
  · intro u v
    show 0 ≤ r u v - δ * chi p u v
    obtain ⟨hle, hmem⟩ := chi_le_one p hnd u v
    by_cases hpos : 0 < chi p u v
    · rw [Int.le_antisymm hle hpos, mul_one]; exact Int.sub_nonneg_of_le (hcap (u, v) (hmem hpos))
    · exact Int.sub_nonneg_of_le
        (Int.le_trans (mul_nonpos_of_nonneg_of_nonpos hδ (Int.not_lt.mp hpos)) (h.nonneg u v))
  · intro u v
    show r u v - δ * chi p u v + (r v u - δ * chi p v u) = _
    have := h.pair u v
    rw [chi_anti p v u, mul_neg]; omega

theorem augment_ok {c r : Fin n → Fin n → ℤ} {s t : Fin n} (hst : s ≠ t) (h : ResInv c r)
    (hc : Conserved c r s t) (δ : ℤ) (hδ : 0 ≤ δ) (rest : List (Fin n)) (hnd : (s :: rest).Nodup)
    (hlast : (s :: rest).getLast (by simp) = t)
    (hcap : ∀ ab ∈ consec (s :: rest), δ ≤ r ab.1 ab.2) :
    ResInv c (pushAlong r δ (s :: rest)) ∧ Conserved c (pushAlong r δ (s :: rest)) s t ∧
    value (resFlow c (pushAlong r δ (s :: rest))) s = value (resFlow c r) s + δ :=
  ⟨pushAlong_resInv h δ hδ _ hnd hcap,
    conserved_sub_mul hst hc δ (chi (s :: rest)) fun u => by rw [chi_sum, hlast]⟩

/-- a path listed from the target back to the source (the order in which the solvers' `path_iter()` yields it):
    `t :: rest` ends in `s`, and a window (a,b) stands for the edge b → a, so the indicator is the transpose of
    `chi (t :: rest)` and δ is added.  Neither simplicity nor a capacity bound is asked: that no residual capacity
    becomes negative is seen on the edges of the graph (`Flow.pushPath_nonneg`). -/
theorem augment_rev {c r : Fin n → Fin n → ℤ} {s t : Fin n} (hst : s ≠ t)
    (hp : ∀ u v, r u v + r v u = c u v + c v u) (hc : Conserved c r s t) (δ : ℤ) (rest : List (Fin n))
    (hlast : (t :: rest).getLast (by simp) = s) :
    (∀ u v, r u v + δ * chi (t :: rest) u v + (r v u + δ * chi (t :: rest) v u) = c u v + c v u) ∧
    Conserved c (fun u v => r u v + δ * chi (t :: rest) u v) s t ∧
    value (resFlow c (fun u v => r u v + δ * chi (t :: rest) u v)) s = value (resFlow c r) s + δ := by
  refine ⟨fun u v => ?_, ?_⟩
  · rw [chi_anti (t :: rest) v u, mul_neg, add_add_add_comm, add_neg_cancel, add_zero]; exact hp u v
  have e : (fun u v => r u v + δ * chi (t :: rest) u v) = fun u v => r u v - δ * chi (t :: rest) v u := by
    funext u v; rw [chi_anti]; ring
  rw [e]
  refine conserved_sub_mul hst hc δ _ fun u => ?_
  rw [Finset.sum_congr rfl fun v _ => chi_anti (t :: rest) v u, Finset.sum_neg_distrib, chi_sum, hlast]
  ring

end Tbx.FlowTheory
