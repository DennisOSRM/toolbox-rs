import Tbx.Model.CountMin
/-
Counters of the count-min model never decrease below a bound already reached, each `insert` of a key
raises that key's counter in every row (saturating), and `estimate` is the minimum over exactly those
counters.
-/
namespace Tbx.CountMin
open Tbx

theorem cap_le_satInc (x v : Nat) (h : min x u32Max ≤ v) : min x u32Max ≤ satInc v := by
  simp only [satInc]
  split
  · exact Nat.min_le_right _ _
  · exact Nat.le_succ_of_le h

theorem cap_succ_le_satInc (x v : Nat) (h : min x u32Max ≤ v) : min (x + 1) u32Max ≤ satInc v := by
  simp only [satInc]
  split
  · exact Nat.min_le_right _ _
  · omega

theorem cellAt_bump {c : Array (Array Nat)} {k m r b : Nat} (S : Grid c k m) (hr : r < k) (hb : b < m)
    (v r' b' : Nat) :
    cellAt (st c r (st (gt c r) b v)) r' b' = if r' = r ∧ b' = b then v else cellAt c r' b' :=
  S.gt_st_st hr hb v r' b'

theorem shape_bumpRows (c : Array (Array Nat)) (k m : Nat) (bs : List Nat) (r0 : Nat) (S : Grid c k m)
    (hlen : r0 + bs.length ≤ k) : Grid (bumpRows c bs r0) k m := by
  induction bs generalizing c r0 with
  | nil => exact S
  | cons b bs ih =>
    simp only [bumpRows]
    simp only [List.length_cons] at hlen
    exact ih _ (r0 + 1) (S.st_st r0 b _) (by omega)

/-- the loop in closed form: the cell that `bs` names in each row from `r0` on is bumped, nothing else changes -/
theorem cellAt_bumpRows (c : Array (Array Nat)) (k m : Nat) (bs : List Nat) (r0 r b : Nat) (S : Grid c k m)
    (hlen : r0 + bs.length ≤ k) (hbs : ∀ y ∈ bs, y < m) :
    cellAt (bumpRows c bs r0) r b =
      if r0 ≤ r ∧ bs[r - r0]? = some b then satInc (cellAt c r b) else cellAt c r b := by
  induction bs generalizing c r0 with
  | nil => rw [bumpRows, List.getElem?_nil, if_neg (fun h => nomatch h.2)]
  | cons b0 bs ih =>
    simp only [List.length_cons] at hlen
    have hb0 : b0 < m := hbs b0 (List.mem_cons_self ..)
    rw [bumpRows, ih _ (r0 + 1) (S.st_st r0 b0 _) (by omega)
      (fun y hy => hbs y (List.mem_cons_of_mem _ hy)), cellAt_bump S (by omega) hb0]
    by_cases e : r = r0
    · subst e
      have h1 : ¬ (r + 1 ≤ r ∧ bs[r - (r + 1)]? = some b) := fun h => Nat.not_succ_le_self r h.1
      simp only [h1, if_false, Nat.sub_self, List.getElem?_cons_zero, Nat.le_refl, true_and, Option.some.injEq]
      by_cases eb : b = b0
      · subst eb; simp only [if_true]
      · rw [if_neg eb, if_neg (fun h => eb h.symm)]
    · have h1 : ¬ (r = r0 ∧ b = b0) := fun h => e h.1
      simp only [h1, if_false]
      by_cases hlt : r0 < r
      · rw [show r - r0 = (r - (r0 + 1)) + 1 by omega, List.getElem?_cons_succ]
        simp only [show r0 + 1 ≤ r from hlt, Nat.le_of_lt hlt]
      · rw [if_neg (fun h => hlt h.1), if_neg (fun h => hlt (by omega))]

theorem foldl_min_ge (l : List Nat) (a x : Nat) (ha : x ≤ a) (hl : ∀ y ∈ l, x ≤ y) : x ≤ l.foldl Nat.min a := by
  induction l generalizing a with
  | nil => exact ha
  | cons y l ih =>
    simp only [List.foldl_cons]
    apply ih
    · exact Nat.le_min.mpr ⟨ha, hl y (List.mem_cons_self ..)⟩
    · intro z hz; exact hl z (List.mem_cons_of_mem _ hz)

theorem mem_rowVals (c : Array (Array Nat)) (bs : List Nat) (r0 y : Nat) (hy : y ∈ rowVals c bs r0) :
    ∃ r b, r0 ≤ r ∧ bs[r - r0]? = some b ∧ y = cellAt c r b := by
  induction bs generalizing r0 with
  | nil => simp [rowVals] at hy
  | cons b0 bs ih =>
    simp only [rowVals, List.mem_cons] at hy
    rcases hy with e | hm
    · exact ⟨r0, b0, Nat.le_refl _, by simp, e⟩
    · obtain ⟨r, b, hr, hb, he⟩ := ih (r0 + 1) hm
      refine ⟨r, b, by omega, ?_, he⟩
      have hidx : r - r0 = (r - (r0 + 1)) + 1 := by omega
      rw [hidx, List.getElem?_cons_succ]; exact hb

theorem buckets_length (k m h1 h2 : Nat) : (buckets k m h1 h2).length = k := by
  simp only [buckets]
  split
  · rename_i h; simp [h]
  · simp

theorem buckets_lt (k m h1 h2 : Nat) (hm : 0 < m) : ∀ y ∈ buckets k m h1 h2, y < m := by
  intro y hy
  simp only [buckets] at hy
  split at hy
  · simp only [List.mem_singleton] at hy; subst hy; exact Nat.mod_lt _ hm
  · simp only [List.mem_map] at hy
    obtain ⟨i, _, e⟩ := hy
    subst e; exact Nat.mod_lt _ hm

theorem grid_init (k m : Nat) : Grid (init k m).counter k m :=
  ⟨by simp [init], fun r hr => by simp [init, gt, Array.getD_eq_getD_getElem?, hr]⟩

theorem grid_insert (s : Sketch) (h1 h2 : Nat) (S : Grid s.counter s.k s.m) :
    Grid (insert s h1 h2).counter s.k s.m :=
  shape_bumpRows _ _ _ _ 0 S (by rw [buckets_length]; omega)

/-- every counter `estimate (g1,g2)` reads is at least `x`, capped at u32::MAX where the counters saturate -/
def LB (s : Sketch) (g1 g2 x : Nat) : Prop :=
  ∀ r b, (buckets s.k s.m g1 g2)[r]? = some b → min x u32Max ≤ cellAt s.counter r b

theorem estimate_ge (s : Sketch) (g1 g2 x : Nat) (L : LB s g1 g2 x) : min x u32Max ≤ estimate s g1 g2 := by
  simp only [estimate]
  apply foldl_min_ge _ _ _ (Nat.min_le_right _ _)
  intro y hy
  obtain ⟨r, b, _, hb, e⟩ := mem_rowVals _ _ 0 y hy
  subst e
  exact L r b hb

theorem lb_insert_other (s : Sketch) (g1 g2 h1 h2 x : Nat) (S : Grid s.counter s.k s.m) (hm : 0 < s.m)
    (L : LB s g1 g2 x) : LB (insert s h1 h2) g1 g2 x := by
  intro r b hb
  simp only [insert]
  rw [cellAt_bumpRows _ _ _ _ 0 r b S (by rw [buckets_length]; omega) (buckets_lt _ _ h1 h2 hm)]
  split
  · exact cap_le_satInc x _ (L r b hb)
  · exact L r b hb

theorem lb_insert_same (s : Sketch) (g1 g2 x : Nat) (S : Grid s.counter s.k s.m) (hm : 0 < s.m)
    (L : LB s g1 g2 x) : LB (insert s g1 g2) g1 g2 (x + 1) := by
  intro r b hb
  simp only [insert]
  rw [cellAt_bumpRows _ _ _ _ 0 r b S (by rw [buckets_length]; omega) (buckets_lt _ _ g1 g2 hm),
    if_pos ⟨Nat.zero_le _, hb⟩]
  exact cap_succ_le_satInc x _ (L r b hb)

end Tbx.CountMin
