import Tbx.Proofs.DijkstraLaws
import Tbx.Spec.ShortestPath
/-
Invariants of a Dijkstra search from `s` over the queue observers, and their preservation by one
relaxation (`RInv.step`).  Everything is relative to `HeapLaws Inv`.

  Core  : holds at every program point (label soundness, exactness of settled labels, monotone
          settle order, parent pointers with a strictly decreasing rank)
  LInv  : Core + every settled node has all its out-edges relaxed           (outer loop head)
  RInv  : Core + the same for all settled nodes but the current one `u`, for which the edges in `D`
          are done                                                           (inside the for loop)
  PathReady : Core + the parent of every node is closed: what `LInv`, and `RInv` right after the pop,
          give; it is all that path retrieval needs
-/
namespace Tbx.Dijkstra
open Tbx Tbx.AHeap

variable {Inv : Heap → Prop}

/-- popped: inserted and no longer in the queue -/
def Settled (q : Heap) (x : Int) : Prop := inserted q x = true ∧ contains q x = false

instance (q : Heap) (x : Int) : Decidable (Settled q x) := inferInstanceAs (Decidable (_ ∧ _))

/-- all out-edges of `x` have been relaxed (and nothing was raised since) -/
def ClosedAt (adj : Adj) (q : Heap) (x : Nat) : Prop :=
  ∀ v w, (v, w) ∈ adj x → inserted q (v : Int) = true ∧ weight q (v : Int) ≤ weight q (x : Int) + (w : Int)

structure Core (Inv : Heap → Prop) (adj : Adj) (s : Nat) (q : Heap) : Prop where
  inv : Inv q
  wf : WFq q
  src : inserted q (s : Int) = true ∧ weight q (s : Int) = 0 ∧ data? q (s : Int) = some (s : Int)
  sound : ∀ x, inserted q x = true → ∃ v d : Nat, x = (v : Int) ∧ weight q x = (d : Int) ∧ SP.Walk adj s v d
  exact : ∀ v : Nat, Settled q (v : Int) → ∀ d', SP.Walk adj s v d' → weight q (v : Int) ≤ (d' : Int)
  mono : ∀ x y, Settled q x → contains q y = true → weight q x ≤ weight q y
  par : ∀ x : Int, inserted q x = true → x ≠ (s : Int) →
    ∃ p w : Nat, data? q x = some (p : Int) ∧ Settled q (p : Int) ∧ (x.toNat, w) ∈ adj p ∧
      weight q x = weight q (p : Int) + (w : Int)
  rank : ∃ rank : Int → Nat, ∀ x, inserted q x = true → x ≠ (s : Int) → ∀ p, data? q x = some p → rank p < rank x

theorem Core.walk {adj : Adj} {s : Nat} {q : Heap} (C : Core Inv adj s q) {v : Nat}
    (hv : inserted q (v : Int) = true) : ∃ d : Nat, weight q (v : Int) = (d : Int) ∧ SP.Walk adj s v d := by
  obtain ⟨v', d, hv', hd, hwalk⟩ := C.sound v hv
  have : v = v' := by omega
  subst this
  exact ⟨d, hd, hwalk⟩

theorem Core.not_inserted {adj : Adj} {s : Nat} {q : Heap} (C : Core Inv adj s q) {v : Nat}
    (hv : ¬ SP.Reachable adj s v) : inserted q (v : Int) = false := by
  cases hi : inserted q (v : Int)
  · rfl
  · obtain ⟨d, _, hwalk⟩ := C.walk hi
    exact absurd ⟨d, hwalk⟩ hv

theorem Core.weight_not_inserted (L : HeapLaws Inv) {adj : Adj} {s : Nat} {q : Heap} (C : Core Inv adj s q) {x : Int}
    (hx : inserted q x = false) : weight q x = UMAX :=
  (L.weight_wmax q x C.inv hx).trans C.wf.2

theorem Core.settled_exact {adj : Adj} {s : Nat} {q : Heap} (C : Core Inv adj s q) {t : Nat}
    (ht : Settled q (t : Int)) : ∃ d : Nat, weight q (t : Int) = (d : Int) ∧ SP.IsDist adj s t d := by
  obtain ⟨d, hd, hwalk⟩ := C.walk ht.1
  refine ⟨d, hd, hwalk, fun d2 hw2 => ?_⟩
  have := C.exact t ht d2 hw2
  omega

theorem Core.parent_settled {adj : Adj} {s : Nat} {q : Heap} (C : Core Inv adj s q) {x p : Int}
    (hx : inserted q x = true) (hxs : x ≠ (s : Int)) (hp : data? q x = some p) : Settled q p := by
  obtain ⟨_, _, h1, h2, _, _⟩ := C.par x hx hxs
  exact Option.some.inj (h1.symm.trans hp) ▸ h2

structure LInv (Inv : Heap → Prop) (adj : Adj) (s : Nat) (q : Heap) : Prop extends Core Inv adj s q where
  closed : ∀ x : Nat, Settled q (x : Int) → ClosedAt adj q x

structure RInv (Inv : Heap → Prop) (adj : Adj) (s : Nat) (u : Nat) (dist : Int) (D : Nat → Nat → Prop) (q : Heap) : Prop
    extends Core Inv adj s q where
  cur : Settled q (u : Int) ∧ weight q (u : Int) = dist
  closed : ∀ x : Nat, Settled q (x : Int) → x ≠ u → ClosedAt adj q x
  done : ∀ v w, D v w → inserted q (v : Int) = true ∧ weight q (v : Int) ≤ dist + (w : Int)
  le_cur : ∀ x, Settled q x → weight q x ≤ dist
  par_cur : ∀ x : Int, inserted q x = true → x ≠ (s : Int) → data? q x = some (u : Int) → ∃ w, D x.toNat w

theorem RInv.step (L : HeapLaws Inv) {adj : Adj} {s u : Nat} {dist : Int} {D : Nat → Nat → Prop} {q : Heap}
    (R : RInv Inv adj s u dist D q) (v w : Nat) (he : (v, w) ∈ adj u) :
    ∃ q', relax q u dist v w = some q' ∧ RInv Inv adj s u dist (fun a b => D a b ∨ (a = v ∧ b = w)) q' ∧
      ∀ x, Settled q' x ↔ Settled q x := by
  obtain ⟨cd, hcw, cwalk⟩ := R.toCore.walk R.cur.1.1
  have hdist : dist = (cd : Int) := R.cur.2.symm.trans hcw
  obtain ⟨q', e, ⟨himp, hq⟩ | ⟨himp, i1, ne, v1, v2, v3, v4⟩⟩ :=
    relax_spec L q u dist v w R.inv R.wf.1 (by omega)
  · -- nothing happens: `v` is inserted, and settled or with a label not above the new one
    refine ⟨q, hq ▸ e, ?_, fun _ => Iff.rfl⟩
    have hins : inserted q (v : Int) = true := by
      cases h : inserted q (v : Int)
      · exact absurd (Or.inl h) himp
      · rfl
    have hle : weight q (v : Int) ≤ dist + w := by
      cases hc : contains q (v : Int)
      · have := R.le_cur v ⟨hins, hc⟩; omega
      · exact Int.not_lt.mp fun h => himp (Or.inr ⟨hc, h⟩)
    exact { toCore := R.toCore, cur := R.cur, closed := R.closed, le_cur := R.le_cur,
            done := fun a b hab => hab.elim (R.done a b) fun h => by rw [h.1, h.2]; exact ⟨hins, hle⟩,
            par_cur := fun x hx hxs hp => (R.par_cur x hx hxs hp).imp fun _ h => Or.inl h }
  · -- `v` is queued with the new label `dist + w` and parent `u`; nothing else changes
    have hvS : ¬ Settled q (v : Int) := fun h =>
      himp.elim (fun h' => by rw [h.1] at h'; cases h') (fun h' => by rw [h.2] at h'; cases h'.1)
    have Sne : ∀ x, Settled q x → x ≠ (v : Int) := fun x hx hxv => hvS (hxv ▸ hx)
    have hvu : (u : Int) ≠ (v : Int) := Sne _ R.cur.1
    have hvs : (s : Int) ≠ (v : Int) := by
      intro h
      rcases himp with h' | h'
      · rw [← h, R.src.1] at h'; cases h'
      · rw [← h, R.src.2.1] at h'; omega
    have ins' : ∀ x, inserted q x = true → inserted q' x = true := fun x hx => by
      by_cases hxv : x = (v : Int)
      · rw [hxv]; exact v1
      · rw [(ne x hxv).1]; exact hx
    have S : ∀ x, Settled q' x ↔ Settled q x := fun x => by
      by_cases hxv : x = (v : Int)
      · rw [hxv]
        exact ⟨fun h => Bool.noConfusion (v2.symm.trans h.2), fun h => absurd h hvS⟩
      · unfold Settled; rw [(ne x hxv).1, (ne x hxv).2.1]
    have wS : ∀ x, Settled q x → weight q' x = weight q x := fun x hx => (ne x (Sne x hx)).2.2.1
    have F3 : ∀ x, inserted q x = true → weight q' x ≤ weight q x := fun x hx => by
      by_cases hxv : x = (v : Int)
      · rw [hxv, v3]
        rcases himp with h | h
        · rw [hxv] at hx; rw [hx] at h; cases h
        · exact Int.le_of_lt h.2
      · rw [(ne x hxv).2.2.1]; exact Int.le_refl _
    have core : Core Inv adj s q' := by
      refine ⟨i1, R.wf.of_params (relax_params e), ?_, ?_, ?_, ?_, ?_, ?_⟩
      · obtain ⟨n1, _, n3, n4⟩ := ne s hvs
        rw [n1, n3, n4]; exact R.src
      · intro x hx
        by_cases hxv : x = (v : Int)
        · exact ⟨v, cd + w, hxv, by rw [hxv, v3, hdist]; omega, SP.Walk.snoc cwalk he⟩
        · obtain ⟨n1, _, n3, _⟩ := ne x hxv
          rw [n3]; exact R.sound x (n1 ▸ hx)
      · intro x hx d' hw'
        have hx0 := (S x).mp hx
        rw [wS x hx0]; exact R.exact x hx0 d' hw'
      · intro x y hx hy
        have hx0 := (S x).mp hx
        rw [wS x hx0]
        by_cases hyv : y = (v : Int)
        · rw [hyv, v3]; have := R.le_cur x hx0; omega
        · obtain ⟨_, n2, n3, _⟩ := ne y hyv
          rw [n3]; exact R.mono x y hx0 (n2 ▸ hy)
      · intro x hx hxs
        by_cases hxv : x = (v : Int)
        · refine ⟨u, w, by rw [hxv]; exact v4, (S u).mpr R.cur.1, by rw [hxv]; simpa using he, ?_⟩
          rw [hxv, v3, wS _ R.cur.1, R.cur.2]
        · obtain ⟨n1, _, n3, n4⟩ := ne x hxv
          obtain ⟨p, w', h1, h2, h3, h4⟩ := R.par x (n1 ▸ hx) hxs
          exact ⟨p, w', n4 ▸ h1, (S p).mpr h2, h3, by rw [n3, wS _ h2]; exact h4⟩
      · obtain ⟨rank, hr⟩ := R.rank
        refine ⟨fun y => if y = (v : Int) then rank (u : Int) + 1 else rank y, fun x hx hxs p hp => ?_⟩
        by_cases hxv : x = (v : Int)
        · rw [hxv, v4] at hp
          cases hp
          show (if _ then _ else _) < (if _ then _ else _)
          rw [if_pos hxv, if_neg hvu]; exact Nat.lt_succ_self _
        · obtain ⟨n1, _, _, n4⟩ := ne x hxv
          rw [n4] at hp
          show (if _ then _ else _) < (if _ then _ else _)
          rw [if_neg hxv, if_neg (Sne _ (R.parent_settled (n1 ▸ hx) hxs hp))]
          exact hr x (n1 ▸ hx) hxs _ hp
    refine ⟨q', e, { toCore := core, cur := ?_, closed := ?_, done := ?_, le_cur := ?_, par_cur := ?_ }, S⟩
    · exact ⟨(S u).mpr R.cur.1, (wS _ R.cur.1).trans R.cur.2⟩
    · intro x hx hxu y w' hy
      have hx0 := (S x).mp hx
      obtain ⟨a, b⟩ := R.closed x hx0 hxu y w' hy
      rw [wS _ hx0]
      exact ⟨ins' _ a, Int.le_trans (F3 _ a) b⟩
    · rintro a b (hab | ⟨rfl, rfl⟩)
      · obtain ⟨h1, h2⟩ := R.done a b hab
        exact ⟨ins' _ h1, Int.le_trans (F3 _ h1) h2⟩
      · exact ⟨v1, Int.le_of_eq v3⟩
    · intro x hx
      have hx0 := (S x).mp hx
      rw [wS x hx0]; exact R.le_cur x hx0
    · intro x hx hxs hp
      by_cases hxv : x = (v : Int)
      · exact ⟨w, Or.inr ⟨by rw [hxv]; simp, rfl⟩⟩
      · obtain ⟨n1, _, _, n4⟩ := ne x hxv
        obtain ⟨w', hw'⟩ := R.par_cur x (n1 ▸ hx) hxs (n4 ▸ hp)
        exact ⟨w', Or.inl hw'⟩

structure PathReady (Inv : Heap → Prop) (adj : Adj) (s : Nat) (q : Heap) : Prop extends Core Inv adj s q where
  pclosed : ∀ x : Int, inserted q x = true → x ≠ (s : Int) → ∀ p : Nat, data? q x = some (p : Int) → ClosedAt adj q p

theorem LInv.pathReady {adj : Adj} {s : Nat} {q : Heap} (I : LInv Inv adj s q) : PathReady Inv adj s q :=
  { toCore := I.toCore,
    pclosed := fun _ hx hxs p hp => I.closed p (I.parent_settled hx hxs hp) }

/-- right after the target was popped (nothing relaxed from it yet) -/
theorem RInv.pathReady {adj : Adj} {s u : Nat} {dist : Int} {q : Heap}
    (R : RInv Inv adj s u dist (fun _ _ => False) q) : PathReady Inv adj s q :=
  { toCore := R.toCore,
    pclosed := fun x hx hxs p hp =>
      R.closed p (R.parent_settled hx hxs hp) fun hpu => (R.par_cur x hx hxs (hpu ▸ hp)).elim fun _ => id }

end Tbx.Dijkstra
