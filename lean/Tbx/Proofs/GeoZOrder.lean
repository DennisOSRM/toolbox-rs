import Tbx.Model.ZOrder
import Mathlib.Data.Nat.Bitwise
/-
`zorder_cmp` is the comparison of the interleaved keys (`Tbx.Geo.zkey`).

Nat level: the most significant differing bit (`Nat.log2` of the xor) decides `compare`; the bits of
`interleave` are the bits of its arguments; hence the dimension with the higher differing bit
(latitude on ties) decides the comparison of the keys.  Int level: flipping the sign bit
(`off32`) does not change the xor and turns signed into unsigned comparison.
-/
namespace Tbx.Geo

theorem msb_spec {x y : Nat} (h : x ≠ y) :
    x.testBit (x ^^^ y).log2 ≠ y.testBit (x ^^^ y).log2 ∧
    ∀ j, (x ^^^ y).log2 < j → x.testBit j = y.testBit j := by
  have hne : x ^^^ y ≠ 0 := fun h0 => h (Nat.xor_eq_zero_iff.mp h0)
  constructor
  · have := Nat.testBit_log2 hne
    rw [Nat.testBit_xor] at this
    intro heq
    rw [heq] at this
    simp at this
  · intro j hj
    have hlt : x ^^^ y < 2 ^ j := (Nat.log2_lt hne).mp hj
    have := Nat.testBit_lt_two_pow hlt
    rw [Nat.testBit_xor] at this
    cases hx : x.testBit j <;> cases hy : y.testBit j <;> simp [hx, hy] at this ⊢

theorem cmp_of_diff {x y : Nat} (k : Nat) (hd : x.testBit k ≠ y.testBit k)
    (ha : ∀ j, k < j → x.testBit j = y.testBit j) :
    compare x y = if y.testBit k then Ordering.lt else Ordering.gt := by
  cases hy : y.testBit k
  · have hx : x.testBit k = true := by
      cases hx : x.testBit k
      · exact absurd (hx.trans hy.symm) hd
      · rfl
    have : y < x := Nat.lt_of_testBit k hy hx (fun j hj => (ha j hj).symm)
    simp [Nat.compare_eq_gt.mpr this]
  · have hx : x.testBit k = false := by
      cases hx : x.testBit k
      · rfl
      · exact absurd (hx.trans hy.symm) hd
    have : x < y := Nat.lt_of_testBit k hx hy ha
    simp [Nat.compare_eq_lt.mpr this]

/-- a step of `interleave` puts the lowest bit of `lo`, then that of `hi`, under the rest -/
theorem interleave_succ (n hi lo : Nat) :
    interleave (n + 1) hi lo = Nat.bit (lo.testBit 0) (Nat.bit (hi.testBit 0) (interleave n (hi / 2) (lo / 2))) := by
  simp only [interleave, Nat.bit_val, Nat.toNat_testBit, Nat.pow_zero, Nat.div_one]
  omega

theorem testBit_interleave (n : Nat) : ∀ (hi lo i : Nat),
    (interleave n hi lo).testBit (2 * i + 1) = (decide (i < n) && hi.testBit i) ∧
    (interleave n hi lo).testBit (2 * i) = (decide (i < n) && lo.testBit i) := by
  induction n with
  | zero => intro hi lo i; exact ⟨Nat.zero_testBit _, Nat.zero_testBit _⟩
  | succ n ih =>
    intro hi lo i
    rw [interleave_succ]
    cases i with
    | zero =>
      exact ⟨(Nat.testBit_bit_succ ..).trans ((Nat.testBit_bit_zero ..).trans (Bool.true_and _).symm),
        (Nat.testBit_bit_zero ..).trans (Bool.true_and _).symm⟩
    | succ i =>
      rw [Nat.mul_succ, Nat.testBit_bit_succ, Nat.testBit_bit_succ, Nat.testBit_bit_succ, Nat.testBit_bit_succ,
        Nat.testBit_add_one hi, Nat.testBit_add_one lo, decide_eq_decide.mpr Nat.add_lt_add_iff_right]
      exact ih (hi / 2) (lo / 2) i

theorem log2_xor_lt {x y : Nat} (hx : x < 2 ^ 32) (hy : y < 2 ^ 32) (h : x ≠ y) : (x ^^^ y).log2 < 32 := by
  have hne : x ^^^ y ≠ 0 := fun h0 => h (Nat.xor_eq_zero_iff.mp h0)
  exact (Nat.log2_lt hne).mpr (Nat.xor_lt_two_pow hx hy)

theorem testBit_eq_of_log2_lt {x y i : Nat} (h : x = y ∨ (x ^^^ y).log2 < i) : x.testBit i = y.testBit i := by
  rcases h with rfl | h
  · rfl
  · by_cases hne : x = y
    · rw [hne]
    · exact (msb_spec hne).2 i h

theorem compare_interleave {la na lb nb k : Nat} (hk : k < 32)
    (hl : ∀ i, k < i → la.testBit i = lb.testBit i) (hn : ∀ i, k < i → na.testBit i = nb.testBit i) :
    (la.testBit k ≠ lb.testBit k → compare (interleave 32 la na) (interleave 32 lb nb) = compare la lb) ∧
    (la.testBit k = lb.testBit k → na.testBit k ≠ nb.testBit k →
      compare (interleave 32 la na) (interleave 32 lb nb) = compare na nb) := by
  have hodd : ∀ hi lo : Nat, (interleave 32 hi lo).testBit (2 * k + 1) = hi.testBit k := fun hi lo => by
    rw [(testBit_interleave 32 hi lo k).1, decide_eq_true hk, Bool.true_and]
  have heven : ∀ hi lo : Nat, (interleave 32 hi lo).testBit (2 * k) = lo.testBit k := fun hi lo => by
    rw [(testBit_interleave 32 hi lo k).2, decide_eq_true hk, Bool.true_and]
  have above : ∀ j, 2 * k + 1 < j → (interleave 32 la na).testBit j = (interleave 32 lb nb).testBit j := by
    intro j hj
    obtain ⟨i, rfl | rfl⟩ : ∃ i, j = 2 * i ∨ j = 2 * i + 1 := ⟨j / 2, by omega⟩
    · rw [(testBit_interleave 32 la na i).2, (testBit_interleave 32 lb nb i).2, hn i (by omega)]
    · rw [(testBit_interleave 32 la na i).1, (testBit_interleave 32 lb nb i).1, hl i (by omega)]
  constructor
  · intro hd
    rw [cmp_of_diff k hd hl, cmp_of_diff (2 * k + 1) (by rw [hodd, hodd]; exact hd) above, hodd]
  · intro he hd
    rw [cmp_of_diff k hd hn, cmp_of_diff (2 * k) (by rw [heven, heven]; exact hd), heven]
    intro j hj
    rcases Nat.lt_or_eq_of_le (Nat.succ_le_of_lt hj) with h | rfl
    · exact above j h
    · rw [hodd, hodd, he]

theorem key_cmp_lat {la na lb nb : Nat} (hla : la < 2 ^ 32) (hlb : lb < 2 ^ 32) (hl : la ≠ lb)
    (hn : na = nb ∨ (na ^^^ nb).log2 ≤ (la ^^^ lb).log2) :
    compare (interleave 32 la na) (interleave 32 lb nb) = compare la lb :=
  (compare_interleave (log2_xor_lt hla hlb hl) (msb_spec hl).2
    (fun _ hi => testBit_eq_of_log2_lt (hn.imp id fun h => Nat.lt_of_le_of_lt h hi))).1 (msb_spec hl).1

theorem key_cmp_lon {la na lb nb : Nat} (hna : na < 2 ^ 32) (hnb : nb < 2 ^ 32) (hnn : na ≠ nb)
    (hl : la = lb ∨ (la ^^^ lb).log2 < (na ^^^ nb).log2) :
    compare (interleave 32 la na) (interleave 32 lb nb) = compare na nb :=
  (compare_interleave (log2_xor_lt hna hnb hnn)
    (fun _ hi => testBit_eq_of_log2_lt (hl.imp id fun h => Nat.lt_trans h hi)) (msb_spec hnn).2).2
    (testBit_eq_of_log2_lt hl) (msb_spec hnn).1

theorem interleave_inj {la na lb nb : Nat} (hla : la < 2 ^ 32) (hna : na < 2 ^ 32) (hlb : lb < 2 ^ 32) (hnb : nb < 2 ^ 32)
    (h : interleave 32 la na = interleave 32 lb nb) : la = lb ∧ na = nb := by
  have bits : ∀ i, la.testBit i = lb.testBit i ∧ na.testBit i = nb.testBit i := by
    intro i
    rcases Nat.lt_or_ge i 32 with hi | hi
    · have h1 := testBit_interleave 32 la na i
      have h2 := testBit_interleave 32 lb nb i
      rw [h, decide_eq_true hi, Bool.true_and, Bool.true_and] at h1
      rw [decide_eq_true hi, Bool.true_and, Bool.true_and] at h2
      exact ⟨h1.1.symm.trans h2.1, h1.2.symm.trans h2.2⟩
    · have hp : 2 ^ 32 ≤ 2 ^ i := Nat.pow_le_pow_right Nat.zero_lt_two hi
      rw [Nat.testBit_lt_two_pow (Nat.lt_of_lt_of_le hla hp), Nat.testBit_lt_two_pow (Nat.lt_of_lt_of_le hlb hp),
        Nat.testBit_lt_two_pow (Nat.lt_of_lt_of_le hna hp), Nat.testBit_lt_two_pow (Nat.lt_of_lt_of_le hnb hp)]
      exact ⟨rfl, rfl⟩
  exact ⟨Nat.eq_of_testBit_eq fun i => (bits i).1, Nat.eq_of_testBit_eq fun i => (bits i).2⟩

theorem add_two_pow_31_eq_xor {n : Nat} (hn : n < 2 ^ 31) : n + 2 ^ 31 = n ^^^ 2 ^ 31 := by
  apply Nat.eq_of_testBit_eq
  intro i
  rw [Nat.testBit_xor, Nat.testBit_two_pow, Nat.add_comm]
  rcases Nat.lt_trichotomy i 31 with hlt | heq | hgt
  · rw [Nat.testBit_two_pow_add_gt hlt]
    have : ¬ (31 = i) := by omega
    simp [this]
  · subst heq
    rw [Nat.testBit_two_pow_add_eq, Nat.testBit_lt_two_pow hn]
    simp
  · have h1 : 2 ^ 31 + n < 2 ^ i := by
      have : 2 ^ 32 ≤ 2 ^ i := Nat.pow_le_pow_right (by decide) (by omega)
      omega
    have h2 : n < 2 ^ i := by omega
    have : ¬ (31 = i) := by omega
    rw [Nat.testBit_lt_two_pow h1, Nat.testBit_lt_two_pow h2]
    simp [this]

theorem xor_xor_cancel (p q c : Nat) : (p ^^^ c) ^^^ (q ^^^ c) = p ^^^ q := by
  apply Nat.eq_of_testBit_eq
  intro i
  simp only [Nat.testBit_xor]
  cases p.testBit i <;> cases q.testBit i <;> cases c.testBit i <;> rfl

theorem off32_eq_pat32_xor {x : Int} (hx : InI32 x) : off32 x = pat32 x ^^^ 2 ^ 31 := by
  obtain ⟨h1, h2⟩ := hx
  have hoff : 0 ≤ x + 2147483648 := by omega
  unfold off32 pat32
  rcases Int.lt_or_le x 0 with h0 | h0
  · -- the pattern of a negative value is the value plus 2^32 = offset form plus 2^31
    have hp : x % 4294967296 = x + 2147483648 + 2147483648 := by
      rw [← Int.add_emod_right, Int.emod_eq_of_lt (by omega) (by omega)]; omega
    rw [hp, Int.toNat_add hoff (by decide), show (2147483648 : Int).toNat = 2 ^ 31 from rfl,
      add_two_pow_31_eq_xor (by omega), Nat.xor_assoc, Nat.xor_self, Nat.xor_zero]
  · rw [Int.emod_eq_of_lt h0 (by omega), Int.toNat_add h0 (by decide), show (2147483648 : Int).toNat = 2 ^ 31 from rfl]
    exact add_two_pow_31_eq_xor (by omega)

theorem pat32_xor {x y : Int} (hx : InI32 x) (hy : InI32 y) : pat32 x ^^^ pat32 y = off32 x ^^^ off32 y := by
  rw [off32_eq_pat32_xor hx, off32_eq_pat32_xor hy, xor_xor_cancel]

theorem off32_cast {x : Int} (hx : InI32 x) : (off32 x : Int) = x + 2147483648 :=
  Int.toNat_of_nonneg (by have := hx.1; omega)

theorem off32_lt {x : Int} (hx : InI32 x) : off32 x < 2 ^ 32 := by
  have := off32_cast hx
  have := hx.2
  omega

theorem off32_inj {x y : Int} (hx : InI32 x) (hy : InI32 y) (h : off32 x = off32 y) : x = y := by
  have := off32_cast hx
  have := off32_cast hy
  omega

theorem compare_of_cast_add {x y c : Int} {a b : Nat} (ha : (a : Int) = x + c) (hb : (b : Int) = y + c) :
    compare x y = compare a b := by
  rcases Int.lt_trichotomy x y with h | h | h
  · rw [Int.compare_eq_lt.mpr h, Nat.compare_eq_lt.mpr (by omega)]
  · rw [Int.compare_eq_eq.mpr h, Nat.compare_eq_eq.mpr (by omega)]
  · rw [Int.compare_eq_gt.mpr h, Nat.compare_eq_gt.mpr (by omega)]

theorem compare_off32 {x y : Int} (hx : InI32 x) (hy : InI32 y) : compare x y = compare (off32 x) (off32 y) :=
  compare_of_cast_add (off32_cast hx) (off32_cast hy)

theorem zorderCmp_eq_key (a b : Coord) (ha : CoordI32 a) (hb : CoordI32 b) :
    zorderCmp a b = compare (zkey a) (zkey b) := by
  obtain ⟨hal, han⟩ := ha
  obtain ⟨hbl, hbn⟩ := hb
  have xl := pat32_xor hal hbl
  have xn := pat32_xor han hbn
  have cl := compare_off32 hal hbl
  have cn := compare_off32 han hbn
  have bla := off32_lt hal
  have blb := off32_lt hbl
  have bna := off32_lt han
  have bnb := off32_lt hbn
  unfold zorderCmp zkey
  simp only
  rw [xl, xn, cl, cn]
  by_cases hl : off32 a.lat = off32 b.lat
  · by_cases hn : off32 a.lon = off32 b.lon
    · simp [hl, hn]
    · have hx : off32 a.lon ^^^ off32 b.lon ≠ 0 := fun h0 => hn (Nat.xor_eq_zero_iff.mp h0)
      have := key_cmp_lon (la := off32 a.lat) (lb := off32 b.lat) bna bnb hn (Or.inl hl)
      rw [this]
      simp [hl, hx]
  · have hxl : off32 a.lat ^^^ off32 b.lat ≠ 0 := fun h0 => hl (Nat.xor_eq_zero_iff.mp h0)
    by_cases hn : off32 a.lon = off32 b.lon
    · have := key_cmp_lat (na := off32 a.lon) (nb := off32 b.lon) bla blb hl (Or.inl hn)
      rw [this]
      simp [hn, hxl]
    · have hxn : off32 a.lon ^^^ off32 b.lon ≠ 0 := fun h0 => hn (Nat.xor_eq_zero_iff.mp h0)
      simp only [hxl, hxn, false_and, if_false]
      rcases Nat.lt_trichotomy (off32 a.lat ^^^ off32 b.lat).log2 (off32 a.lon ^^^ off32 b.lon).log2 with hlt | heq | hgt
      · rw [Nat.compare_eq_lt.mpr hlt]
        exact (key_cmp_lon (la := off32 a.lat) (lb := off32 b.lat) bna bnb hn (Or.inr hlt)).symm
      · rw [Nat.compare_eq_eq.mpr heq]
        -- the test of the tie case always succeeds: the xor of the latitude patterns has its top bit set
        have hcond : (pat32 a.lat ^^^ pat32 b.lat).testBit (off32 a.lat ^^^ off32 b.lat).log2 = true := by
          rw [xl]; exact Nat.testBit_log2 hxl
        rw [Nat.testBit_xor] at hcond
        rw [if_pos hcond]
        exact (key_cmp_lat (na := off32 a.lon) (nb := off32 b.lon) bla blb hl (Or.inr (by omega))).symm
      · rw [Nat.compare_eq_gt.mpr hgt]
        exact (key_cmp_lat (na := off32 a.lon) (nb := off32 b.lon) bla blb hl (Or.inr (by omega))).symm

theorem zkey_inj (a b : Coord) (ha : CoordI32 a) (hb : CoordI32 b) (h : zkey a = zkey b) : a = b := by
  obtain ⟨hal, han⟩ := ha
  obtain ⟨hbl, hbn⟩ := hb
  obtain ⟨h1, h2⟩ := interleave_inj (off32_lt hal) (off32_lt han) (off32_lt hbl) (off32_lt hbn) h
  have e1 := off32_inj hal hbl h1
  have e2 := off32_inj han hbn h2
  cases a; cases b; simp_all

theorem zorderCmp_strict_total (a b c : Coord) (ha : CoordI32 a) (hb : CoordI32 b) (hc : CoordI32 c) :
    zorderCmp a a = .eq ∧
    (zorderCmp a b = .eq ↔ a = b) ∧
    (zorderCmp a b = .lt ↔ zorderCmp b a = .gt) ∧
    (zorderCmp a b = .lt → zorderCmp b c = .lt → zorderCmp a c = .lt) ∧
    (zorderCmp a b = .lt ∨ a = b ∨ zorderCmp a b = .gt) := by
  rw [zorderCmp_eq_key a a ha ha, zorderCmp_eq_key a b ha hb, zorderCmp_eq_key b a hb ha, zorderCmp_eq_key b c hb hc, zorderCmp_eq_key a c ha hc]
  refine ⟨Nat.compare_eq_eq.mpr rfl, ?_, ?_, ?_, ?_⟩
  · rw [Nat.compare_eq_eq]
    exact ⟨fun h => zkey_inj a b ha hb h, fun h => by rw [h]⟩
  · rw [Nat.compare_eq_lt, Nat.compare_eq_gt]
  · rw [Nat.compare_eq_lt, Nat.compare_eq_lt, Nat.compare_eq_lt]
    exact Nat.lt_trans
  · rw [Nat.compare_eq_lt, Nat.compare_eq_gt]
    rcases Nat.lt_trichotomy (zkey a) (zkey b) with h | h | h
    · exact Or.inl h
    · exact Or.inr (Or.inl (zkey_inj a b ha hb h))
    · exact Or.inr (Or.inr h)

end Tbx.Geo
