import Tbx.Spec.Hierarchy
/-
Soundness of the two executable forms of the Spec that the judges run (nothing here is about the chipper model).
`disjointAll` (C06, on the logged job sets) accepts exactly the pairwise disjoint families (`disjointAll_iff`).
`specAll` (C05) evaluates `best` once per cell; every pair it lists for a node is that node's `specSides`, the per-node
definition the theorems speak about (`specAll_spec`); this needs only that the two sides `best` reports lie inside the
cell and are disjoint (`BestSides`).
-/
namespace Tbx.Hierarchy

theorem disjointFrom_iff (xs : List Nat) (rest : List (List Nat)) :
    disjointFrom xs rest = true ↔ ∀ ys ∈ rest, ∀ x ∈ xs, x ∉ ys := by
  induction rest with
  | nil => simp [disjointFrom]
  | cons ys rest ih =>
    simp only [disjointFrom, Bool.and_eq_true, ih, List.all_eq_true, List.mem_cons, forall_eq_or_imp]
    constructor
    · rintro ⟨h1, h2⟩
      refine ⟨?_, h2⟩
      intro x hx hy
      have := h1 x hx
      simp at this
      exact this hy
    · rintro ⟨h1, h2⟩
      refine ⟨?_, h2⟩
      intro x hx
      have := h1 x hx
      cases hc : ys.contains x with
      | false => rfl
      | true => exact absurd (List.contains_iff_mem.mp hc) this

theorem disjointAll_iff (ls : List (List Nat)) :
    disjointAll ls = true ↔ ls.Pairwise (fun xs ys => ∀ x ∈ xs, x ∉ ys) := by
  induction ls with
  | nil => simp [disjointAll]
  | cons xs rest ih =>
    simp only [disjointAll, Bool.and_eq_true, ih, disjointFrom_iff, List.pairwise_cons]

structure BestSides (best : Cell → Option (List Nat × List Nat)) : Prop where
  sub  : ∀ c L R, best c = some (L, R) → (∀ y ∈ L, y ∈ c.ids) ∧ (∀ y ∈ R, y ∈ c.ids)
  disj : ∀ c L R, best c = some (L, R) → ∀ y ∈ L, y ∉ R

theorem specAll_spec (best : Cell → Option (List Nat × List Nat)) (m : Nat) (hb : BestSides best) :
    ∀ (d : Nat) (c : Cell) (p : Nat × List Bool), p ∈ specAll best m d c →
      p.1 ∈ c.ids ∧ p.2 = specSides best m d c p.1 := by
  intro d
  induction d with
  | zero =>
    intro c p h
    obtain ⟨y, hy, rfl⟩ := List.mem_map.mp h
    exact ⟨hy, rfl⟩
  | succ d ih =>
    intro c p h
    unfold specAll at h
    unfold specSides
    cases hbc : best c with
    | none =>
      rw [hbc] at h
      obtain ⟨y, hy, rfl⟩ := List.mem_map.mp h
      exact ⟨hy, rfl⟩
    | some lr =>
      obtain ⟨L, R⟩ := lr
      rw [hbc] at h
      simp only [] at h ⊢
      obtain ⟨hL, hR⟩ := hb.sub c L R hbc
      have hnotL : ∀ y ∈ R, L.contains y = false := fun y hy =>
        Bool.eq_false_iff.mpr fun hc => hb.disj c L R hbc y (List.contains_iff_mem.mp hc) hy
      rcases List.mem_append.mp h with h | h
      · by_cases hl : L.length > m
        · simp only [hl, if_true] at h ⊢
          obtain ⟨q, hq, rfl⟩ := List.mem_map.mp h
          obtain ⟨hx, e⟩ := ih (restrict c L) q hq
          replace hx : q.1 ∈ L := hx
          exact ⟨hL _ hx, by simp only [List.contains_iff_mem.mpr hx, if_true, ← e]⟩
        · simp only [hl, if_false] at h ⊢
          obtain ⟨y, hy, rfl⟩ := List.mem_map.mp h
          exact ⟨hL y hy, by simp only [List.contains_iff_mem.mpr hy, if_true]⟩
      · rcases List.mem_append.mp h with h | h
        · by_cases hr : R.length > m
          · simp only [hr, if_true] at h ⊢
            obtain ⟨q, hq, rfl⟩ := List.mem_map.mp h
            obtain ⟨hx, e⟩ := ih (restrict c R) q hq
            replace hx : q.1 ∈ R := hx
            exact ⟨hR _ hx, by
              simp only [hnotL _ hx, List.contains_iff_mem.mpr hx, if_true, Bool.false_eq_true, if_false, ← e]⟩
          · simp only [hr, if_false] at h ⊢
            obtain ⟨y, hy, rfl⟩ := List.mem_map.mp h
            exact ⟨hR y hy, by
              simp only [hnotL y hy, List.contains_iff_mem.mpr hy, if_true, Bool.false_eq_true, if_false]⟩
        · simp only [List.mem_map, List.mem_filter, Bool.and_eq_true, Bool.not_eq_eq_eq_not, Bool.not_true] at h
          obtain ⟨y, ⟨hy, h1, h2⟩, rfl⟩ := h
          exact ⟨hy, by simp only [h1, h2, Bool.false_eq_true, if_false]⟩

end Tbx.Hierarchy
