import Tbx.Proofs.FlowPush
import Tbx.Model.FlowDinic
/-
What `dfs` does when it reaches the target, as statements about a parent chain: the bottleneck `chainMin`, the
augmentation `augChain` with the node `closest_tail` it computes, and `unwind`.
-/
namespace Tbx.Flow
open Tbx Tbx.FlowTheory

/-- the last conjunct (the minimum is attained) makes the pushed amount positive when the capacities are -/
theorem chainMin_spec (g : Graph) {n s : Nat} {ps : Array Nat} (hps : gt ps s = s) (fuel : Nat) :
    ∀ (w : Nat) (l : List Nat) (flow fl : ℤ), PChain n s ps w l → chainMin g ps fuel w flow = some fl →
    fl ≤ flow ∧ (∀ ab, ab ∈ windows l → ∃ e, g.findEdge ab.2 ab.1 = some e ∧ fl ≤ gt g.cap e) ∧
    (fl = flow ∨ ∃ ab, ab ∈ windows l ∧ ∃ e, g.findEdge ab.2 ab.1 = some e ∧ fl = gt g.cap e) := by
  induction fuel with
  | zero => intro w l flow fl _ h; simp [chainMin] at h
  | succ fuel ih =>
    intro w l flow fl hc h
    simp only [chainMin] at h
    cases hc with
    | base =>
      rw [hps] at h
      simp only [if_true, Option.some.injEq] at h
      exact ⟨le_of_eq h.symm, (fun _ hab => nomatch hab), Or.inl h.symm⟩
    | @step _ l' h1 h2 h3 h4 h5 =>
      obtain ⟨tl, rfl⟩ := pchain_head h4
      rw [if_neg (pchain_parent_ne h4 h5)] at h
      cases hf : g.findEdge (gt ps w) w with
      | none => simp [hf] at h
      | some e =>
        simp only [hf] at h
        obtain ⟨a, b, c⟩ := ih _ _ _ fl h4 h
        refine ⟨le_trans a (min_le_left _ _), ?_, ?_⟩
        · intro ab hab
          rcases mem_windows_cons.mp hab with rfl | hab
          · exact ⟨e, hf, le_trans a (min_le_right _ _)⟩
          · exact b ab hab
        · rcases c with c | ⟨ab, hab, c⟩
          · rcases Int.le_total flow (gt g.cap e) with hle | hle
            · exact Or.inl (c.trans (min_eq_left hle))
            · exact Or.inr ⟨(w, gt ps w), mem_windows_head _ _ _, e, hf, c.trans (min_eq_right hle)⟩
          · exact Or.inr ⟨ab, mem_windows_tail _ hab, c⟩

theorem chainMin_total (g : Graph) {n s : Nat} {ps : Array Nat} (hps : gt ps s = s) {w : Nat} {l : List Nat}
    (h : PChain n s ps w l) : (∀ ab, ab ∈ windows l → ∃ e, g.findEdge ab.2 ab.1 = some e) →
    ∀ fuel flow, l.length ≤ fuel → ∃ fl, chainMin g ps fuel w flow = some fl := by
  induction h with
  | base =>
    intro _ fuel flow hf
    cases fuel with
    | zero => simp at hf
    | succ f => exact ⟨flow, by simp [chainMin, hps]⟩
  | @step y l h1 h2 h3 h4 h5 ih =>
    intro hw fuel flow hf
    cases fuel with
    | zero => simp at hf
    | succ f =>
      obtain ⟨tl, rfl⟩ := pchain_head h4
      obtain ⟨e, he⟩ := hw (y, gt ps y) (mem_windows_head _ _ _)
      simp only at he
      simp only [chainMin, if_neg (pchain_parent_ne h4 h5), he]
      exact ih (fun ab hab => hw ab (mem_windows_tail _ hab)) f _
        (by simpa using hf)

/-- a window of a parent chain is (child, parent): the edge runs from `ab.2` to `ab.1` -/
def PosW (g : Graph) (ab : Nat × Nat) : Prop := ∃ e, g.findEdge ab.2 ab.1 = some e ∧ 0 < gt g.cap e

/-- `closest_tail` as a function of the ORIGINAL pair residuals `r`: walking the path from the target
    towards the source, the tail of every edge whose residual equals the pushed amount replaces it -/
def ctSpec (r : Nat → Nat → ℤ) (fl : ℤ) : Nat → List Nat → Nat
  | ct, v :: u :: rest => ctSpec r fl (if r u v = fl then u else ct) (u :: rest)
  | ct, _ => ct

theorem ctSpec_char (r : Nat → Nat → ℤ) (fl : ℤ) (l : List Nat) : ∀ ct,
    (ctSpec r fl ct l = ct ∧ ∀ ab, ab ∈ windows l → r ab.2 ab.1 ≠ fl) ∨
    (∃ l1 l2, l.tail = l1 ++ ctSpec r fl ct l :: l2 ∧
      ∀ ab, ab ∈ windows (ctSpec r fl ct l :: l2) → r ab.2 ab.1 ≠ fl) := by
  induction l with
  | nil => intro ct; left; exact ⟨rfl, fun _ h => nomatch h⟩
  | cons v tl ih =>
    cases tl with
    | nil => intro ct; left; exact ⟨rfl, fun _ h => nomatch h⟩
    | cons u rest =>
      intro ct
      simp only [ctSpec]
      by_cases hc : r u v = fl
      · rw [if_pos hc]
        rcases ih u with ⟨h1, h2⟩ | ⟨l1, l2, h1, h3⟩
        · right
          refine ⟨[], rest, by rw [h1]; rfl, ?_⟩
          rw [h1]; exact h2
        · right
          exact ⟨u :: l1, l2, by rw [List.cons_append, ← h1]; rfl, h3⟩
      · rw [if_neg hc]
        rcases ih ct with ⟨h1, h2⟩ | ⟨l1, l2, h1, h3⟩
        · left
          refine ⟨h1, ?_⟩
          intro ab hab
          rcases mem_windows_cons.mp hab with rfl | hab
          · exact hc
          · exact h2 ab hab
        · right
          exact ⟨u :: l1, l2, by rw [List.cons_append, ← h1]; rfl, h3⟩

theorem augChain_spec {n s : Nat} {ps : Array Nat} (hps : gt ps s = s) (r : Nat → Nat → ℤ) (fl : ℤ)
    (fuel : Nat) : ∀ (v : Nat) (l : List Nat) (ct : Nat) (g g' : Graph) (ct' : Nat),
    PChain n s ps v l → WF g → Uniq g →
    (∀ ab, ab ∈ windows l → rOf g ab.2 ab.1 = r ab.2 ab.1) →
    augChain ps fl fuel v ct g = some (g', ct') →
    pushPath g fl (windows l) = some g' ∧ ct' = ctSpec r fl ct l := by
  induction fuel with
  | zero => intro v l ct g g' ct' _ _ _ _ h; simp [augChain] at h
  | succ fuel ih =>
    intro v l ct g g' ct' hc hwf huq hq h
    simp only [augChain] at h
    cases hc with
    | base =>
      rw [hps] at h
      simp only [if_true, Option.some.injEq, Prod.mk.injEq] at h
      obtain ⟨rfl, rfl⟩ := h
      exact ⟨rfl, rfl⟩
    | @step _ l' h1 h2 h3 h4 h5 =>
      obtain ⟨tl, rfl⟩ := pchain_head h4
      rw [if_neg (pchain_parent_ne h4 h5)] at h
      cases hf1 : g.findEdge (gt ps v) v with
      | none => simp [hf1] at h
      | some fwd =>
        cases hf2 : g.findEdge v (gt ps v) with
        | none => simp [hf1, hf2] at h
        | some rev =>
          simp only [hf1, hf2] at h
          obtain ⟨hu, hru, htu⟩ := findEdge_spec g _ _ fwd hf1
          have hfsz : fwd < g.cap.size := by rw [hwf.capsz]; exact hwf.inRange_lt hru
          have hcapfwd : gt g.cap fwd = r (gt ps v) v := by
            rw [← rOf_eq_cap huq _ _ fwd hru htu]
            exact hq (v, gt ps v) (mem_windows_head _ _ _)
          -- the rest of the chain does not meet v: its residuals are untouched by this step
          have hq2 : ∀ ab, ab ∈ windows (gt ps v :: tl) →
              rOf { g with cap := st (st g.cap fwd (gt g.cap fwd - fl)) rev (gt (st g.cap fwd (gt g.cap fwd - fl)) rev + fl) } ab.2 ab.1 = r ab.2 ab.1 := by
            intro ab hab
            have hm := mem_windows hab
            have hv1 : ab.1 ≠ v := fun e => h5 (by have := hm.1; rwa [e] at this)
            have hv2 : ab.2 ≠ v := fun e => h5 (by have := hm.2; rwa [e] at this)
            refine ((pushStep hwf hf2 hf1 fl).2 ab.2 ab.1).trans ?_
            rw [if_neg (fun hh => hv2 hh.1), if_neg (fun hh => hv1 hh.2), Int.sub_zero, Int.add_zero]
            exact hq ab (mem_windows_tail _ hab)
          obtain ⟨hp, hct⟩ := ih _ _ _ _ g' ct' h4 (hwf.withCap _ (by simp))
            (huq.withCap _) hq2 h
          refine ⟨by simp only [windows, pushPath, hf1, hf2]; exact hp, ?_⟩
          rw [hct]
          simp only [ctSpec, gt_st_eq _ _ _ hfsz, hcapfwd]
          by_cases hc' : r (gt ps v) v = fl
          · rw [if_pos hc', if_pos (by rw [hc']; exact Int.sub_self fl)]
          · rw [if_neg hc', if_neg (fun h => hc' (Int.eq_of_sub_eq_zero h))]

theorem augChain_total {n s : Nat} {ps : Array Nat} (hps : gt ps s = s) (fl : ℤ) {v : Nat} {l : List Nat}
    (h : PChain n s ps v l) : ∀ (g : Graph),
    (∀ ab, ab ∈ windows l → (∃ e, g.findEdge ab.2 ab.1 = some e) ∧ ∃ e, g.findEdge ab.1 ab.2 = some e) →
    ∀ fuel ct, l.length ≤ fuel → ∃ r, augChain ps fl fuel v ct g = some r := by
  induction h with
  | base =>
    intro g _ fuel ct hf
    cases fuel with
    | zero => simp at hf
    | succ f => exact ⟨(g, ct), by simp [augChain, hps]⟩
  | @step y l h1 h2 h3 h4 h5 ih =>
    intro g hw fuel ct hf
    cases fuel with
    | zero => simp at hf
    | succ f =>
      obtain ⟨tl, rfl⟩ := pchain_head h4
      obtain ⟨⟨fwd, hfwd⟩, ⟨rev, hrev⟩⟩ := hw (y, gt ps y) (mem_windows_head _ _ _)
      simp only at hfwd hrev
      simp only [augChain, if_neg (pchain_parent_ne h4 h5), hfwd, hrev]
      apply ih _ _ f _ (by simpa using hf)
      intro ab hab
      simp only [findEdge_cap_irrel]
      exact hw ab (mem_windows_tail _ hab)

theorem unwind_sublist (ps : Array Nat) (ct : Nat) (stk : List (Nat × ℤ)) : (unwind ps ct stk).Sublist stk := by
  induction stk with
  | nil => exact List.Sublist.refl _
  | cons a rest ih =>
    simp only [unwind]
    split
    · exact List.sublist_cons_self _ _
    · exact ih.trans (List.sublist_cons_self _ _)

theorem unwind_char (ps : Array Nat) (ct : Nat) (stk : List (Nat × ℤ)) :
    unwind ps ct stk = [] ∨
    ∃ pre y0 post, stk = pre ++ y0 :: post ∧ gt ps y0.1 = ct ∧ unwind ps ct stk = post := by
  induction stk with
  | nil => left; rfl
  | cons a rest ih =>
    obtain ⟨node, fl⟩ := a
    simp only [unwind]
    split
    · rename_i hc
      right; exact ⟨[], (node, fl), rest, rfl, hc, rfl⟩
    · rcases ih with h | ⟨pre, y0, post, h1, h2, h3⟩
      · left; exact h
      · right; exact ⟨(node, fl) :: pre, y0, post, by rw [h1]; rfl, h2, h3⟩

end Tbx.Flow
