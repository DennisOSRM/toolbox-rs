import Tbx.Proofs.RTreeCover
/-
C12: the weight of a queue entry is the number of pops it will cause (`wE`); a weight function of a tree satisfies the
expansion equation of every search node (`IsWeight`, the counterpart of `IsCover`).  The iterator (RTreeIter.lean)
terminates within the root's weight, the bulk loader (RTreeBulk.lean) builds trees that have a weight function and says
what the root weighs.  Core Lean only.  Why `wE` is not defined beside `coverE`: see RTreeCover.lean.
-/
namespace Tbx.RTree

def sumRange (k : Nat) (f : Nat → Nat) : Nat := ((List.range k).map f).sum

theorem sumRange_succ_right (k : Nat) (f : Nat → Nat) : sumRange (k + 1) f = sumRange k f + f k := by
  unfold sumRange
  rw [List.range_succ, List.map_append, List.sum_append]
  simp

theorem sumRange_congr {k : Nat} {f g : Nat → Nat} (h : ∀ i, i < k → f i = g i) : sumRange k f = sumRange k g :=
  congrArg List.sum (List.map_congr_left fun i hi => h i (List.mem_range.mp hi))

theorem sumRange_const_add (k : Nat) (f : Nat → Nat) : sumRange k (fun i => 1 + f i) = k + sumRange k f := by
  induction k with
  | zero => rfl
  | succ k ih => rw [sumRange_succ_right, sumRange_succ_right, ih]; omega

section
variable {α : Type} (B : Nat) (t : Tree α) (W : Nat → Nat)

def wE (e : Entry) : Nat :=
  match e.kind with
  | .tree => 1 + sumRange (childrenCount B t.ends e.idx) (fun m => W (e.idx + m))
  | .leaf => 1 + (leafRange t e.idx (min (e.idx + B) t.leaves.length - e.idx)).length
  | .cand _ => 1

def IsWeight : Prop :=
  ∀ (i : Nat) (nd : SNode), t.nodes[i]? = some nd → W i = wE B t W ⟨0, nd.first, if nd.kind = 0 then .leaf else .tree⟩

def rootWeight : Nat :=
  match t.nodes.length with
  | 0 => 0
  | m + 1 => W m

end

section
variable {α : Type} {B : Nat} {t : Tree α} {W : Nat → Nat}

theorem wE_tree (k c : Nat) :
    wE B t W ⟨k, c, .tree⟩ = 1 + sumRange (childrenCount B t.ends c) (fun m => W (c + m)) := rfl

theorem wE_leaf (k c : Nat) :
    wE B t W ⟨k, c, .leaf⟩ = 1 + (leafRange t c (min (c + B) t.leaves.length - c)).length := rfl

end
end Tbx.RTree
