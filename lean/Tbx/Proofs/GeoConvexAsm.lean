import Tbx.Proofs.GeoConvex
import Tbx.Proofs.GeoEncloseAsm
/-
Assembly: the output of the monotone chain is globally strictly convex when the input is not collinear.
The lower stack and the reflected upper stack are `Good` chains of point sets that are each other's reflection
(`chains_good`).  Every edge of the output belongs to one of them; `Good.strict` puts every other vertex strictly
on its left, for the upper edges with the two chains exchanged.  The chains meet in their ends only (`Good.inter`),
which gives the absence of repetitions.
-/
namespace Tbx.Geo

theorem chains_good (pts : List Coord) (hn : 3 < pts.length)
    (hnd : ∃ o ∈ pts, ∃ a ∈ pts, ∃ p ∈ pts, cross o a p ≠ 0) :
    ∃ (c0 x : Coord) (r0 s0 : List Coord),
      monotoneChain pts = (c0 :: r0.reverse) ++ (x :: s0.reverse) ∧
      Good (sortLonLat pts).reverse x (r0 ++ [c0]) ∧
      Good ((sortLonLat pts).map neg) (neg c0) ((s0 ++ [x]).map neg) := by
  obtain ⟨c0, x, r0, s0, eH, invL, invU⟩ := chains_shape pts hn
  -- the ends differ: otherwise every point lies between c0 and c0
  have hxc : x ≠ c0 := by
    intro h
    obtain ⟨o, ho, a, ha, p, hp, hc⟩ := hnd
    have hall : ∀ q ∈ pts, q = c0 := fun q hq => by
      have hq' := List.mem_reverse.mpr (mem_sortLonLat.mpr hq)
      have hb := invL.bot q hq'
      rw [lastD_append_cons] at hb
      exact LexLe.antisymm (h ▸ invL.top q hq') hb
    exact hc (by rw [hall o ho, hall a ha, hall p hp, cross_self_left])
  refine ⟨c0, x, r0, s0, eH, invL.good ?_, invU.good ?_⟩
  · rw [lastD_append_cons]; exact hxc
  · rw [List.map_append, List.map_cons, List.map_nil, lastD_append_cons]
    exact fun h => hxc (neg_inj h).symm

theorem monotoneChain_strictlyConvex (pts : List Coord) (hn : 3 < pts.length)
    (hnd : ∃ o ∈ pts, ∃ a ∈ pts, ∃ p ∈ pts, cross o a p ≠ 0) :
    StrictlyConvex 1 (monotoneChain pts) := by
  obtain ⟨c0, x, r0, s0, eH, gL, gU⟩ := chains_good pts hn hnd
  have h1 : ∀ q ∈ (sortLonLat pts).reverse, neg q ∈ (sortLonLat pts).map neg := fun q hq =>
    mem_map_neg.mpr (List.mem_reverse.mp hq)
  have h2 : ∀ q' ∈ (sortLonLat pts).map neg, neg q' ∈ (sortLonLat pts).reverse := fun q' hq' =>
    List.mem_reverse.mpr (mem_map_neg.mp (by rwa [neg_neg]))
  have hc0x : x ≠ c0 := lastD_append_cons x r0 c0 ▸ gL.ne
  have hA : c0 :: r0.reverse = (r0 ++ [c0]).reverse := by simp
  have hB : x :: s0.reverse = (s0 ++ [x]).reverse := by simp
  have hmem : ∀ p ∈ (c0 :: r0.reverse) ++ (x :: s0.reverse),
      p ∈ x :: (r0 ++ [c0]) ∨ neg p ∈ neg c0 :: (s0 ++ [x]).map neg := by
    intro p hp
    rw [hA, hB, List.mem_append, List.mem_reverse, List.mem_reverse] at hp
    exact hp.imp (List.mem_cons_of_mem x) fun h => mem_map_neg.mpr (List.mem_cons_of_mem c0 h)
  rw [eH]
  refine ⟨?_, ?_, ?_⟩
  · by_contra hlt
    have hr0 : r0 = [] := List.eq_nil_of_length_eq_zero (by simp at hlt; omega)
    have hs0 : s0 = [] := List.eq_nil_of_length_eq_zero (by simp at hlt; omega)
    subst hr0; subst hs0
    -- both chains are the segment c0 — x: every point is on its line
    have hline : ∀ q ∈ pts, cross c0 x q = 0 := by
      intro q hq
      have hq' := mem_sortLonLat.mpr hq
      have s1 : 0 ≤ cross c0 x q := gL.sup (x, c0) List.mem_cons_self q (List.mem_reverse.mpr hq')
      have s2 : 0 ≤ cross x c0 q := Sup.of_map_neg (st := [c0, x]) gU.sup (c0, x) List.mem_cons_self q hq'
      rw [cross_flip] at s2
      omega
    obtain ⟨o, ho, a, ha, p, hp, hc⟩ := hnd
    exact hc (collinear_of_line (fun h => hc0x h.symm) (hline o ho) (hline a ha) (hline p hp))
  · have hL := List.nodup_cons.mp gL.nodup
    have hU := List.nodup_cons.mp ((List.pairwise_map (f := neg) (l := c0 :: (s0 ++ [x]))).mp gU.nodup |>.imp
      fun hne e => hne (congrArg neg e))
    rw [hA, hB, List.nodup_append]
    refine ⟨List.pairwise_reverse.mpr (hL.2.imp Ne.symm), List.pairwise_reverse.mpr (hU.2.imp Ne.symm), ?_⟩
    rintro p hpA _ hpB rfl
    rw [List.mem_reverse] at hpA hpB
    rcases gL.inter gU h1 h2 (List.mem_cons_of_mem x hpA)
      (mem_map_neg.mpr (List.mem_cons_of_mem c0 hpB) : neg p ∈ (c0 :: (s0 ++ [x])).map neg) with h | h
    · exact hL.1 (h ▸ hpA)
    · exact hU.1 (neg_inj h ▸ hpB)
  · intro e he p hp hpe1 hpe2
    rw [Int.one_mul]
    rcases mem_edges_output he with hpair | hpair
    · exact gL.strict gU h1 h2 hpair (hmem p hp) hpe2 hpe1
    · have := gU.strict gL h2 h1 (mem_pairs_map_neg hpair) ((hmem p hp).symm.imp_right fun h => (neg_neg p).symm ▸ h)
        (fun hh => hpe2 (neg_inj hh)) (fun hh => hpe1 (neg_inj hh))
      rwa [cross_neg] at this

end Tbx.Geo
