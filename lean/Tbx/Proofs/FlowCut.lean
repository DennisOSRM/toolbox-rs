import Tbx.Proofs.FlowPush
import Tbx.Proofs.FlowSweep
/-
What the loop invariant `FInv` gives through the max-flow/min-cut theory, for any of the three solvers.  In a state
without augmenting path the accumulated flow is the maximum flow value (`finv_unreachable_max`) and what
`assignment(s)` returns is the canonical minimum cut (C02, `assignment_canonical`); two such states of one network
therefore carry the same flow and the same assignment (`canonical_unique`).  In any state the value is at most the sum
of all capacities (`finv_flow_le_total`: the capacity of the cut ({s}, rest), `weak_duality`), the bound behind the
termination of the main loops.  The first two are read off one statement (`finv_canon`): in such a state any set that
holds exactly the nodes the source reaches in the CSR graph (`ReachG`) is closed under the residual function on `Fin n`,
and its members are reachable there (`Reach`, `reachG_reach`), which is what `canon_cut` asks.
-/
namespace Tbx.Flow
open Tbx Tbx.FlowTheory Tbx.FlowSpec

theorem reachG_reach {n : Nat} (g : Graph) (hn : g.numNodes = n) (hwf : WF g) (hnn : NonNeg g) (s : Fin n)
    (v : Nat) (h : ReachG g s.val v) : ∃ hv : v < n, Reach (rF g n) s ⟨v, hv⟩ := by
  induction h with
  | refl => exact ⟨s.isLt, Reach.refl⟩
  | @step u w _ he ih =>
    obtain ⟨hu, hr⟩ := ih
    have hw : w < n := by
      obtain ⟨e, _, _, h3, h4⟩ := he
      rw [← hn, ← h3]; exact hwf.targetsOK e h4
    refine ⟨hw, Reach.step hr ?_⟩
    show 0 < rOf g u w
    exact (rOf_pos_iff g hnn u w).mpr he

theorem finv_canon {n : Nat} {c : Fin n → Fin n → ℤ} {s t : Fin n} (g : Graph) (flow : ℤ)
    (hi : FInv c s t g flow) (hun : ¬ ReachG g s.val t.val) (A : Finset (Fin n))
    (hA : ∀ v : Fin n, v ∈ A ↔ ReachG g s.val v.val) :
    IsMaxFlowValue c s t flow ∧ CanonCut c s t A flow :=
  hi.val ▸ canon_cut hi.inv hi.cons A ((hA s).mpr .refl) (fun h => hun ((hA t).mp h))
    (fun u hu v hv => Int.not_lt.mp fun hpos =>
      hv ((hA v).mpr (.step ((hA u).mp hu) ((rOf_pos_iff g hi.nn u.val v.val).mp hpos))))
    fun v hv => (reachG_reach g hi.hn hi.wf hi.nn s v.val ((hA v).mp hv)).2

theorem finv_unreachable_max {n : Nat} {c : Fin n → Fin n → ℤ} {s t : Fin n} (g : Graph) (flow : ℤ)
    (hi : FInv c s t g flow) (hun : ¬ ReachG g s.val t.val) : IsMaxFlowValue c s t flow := by
  classical
  exact (finv_canon g flow hi hun (Finset.univ.filter fun v => ReachG g s.val v.val)
    fun v => Finset.mem_filter.trans (and_iff_right (Finset.mem_univ v))).1

theorem cutCapL_le_total (es : List E) (hnn : ∀ e, e ∈ es → 0 ≤ e.2.2) (inA : Nat → Bool) :
    cutCapL es inA ≤ (es.map fun e => e.2.2).sum := by
  induction es with
  | nil => simp [cutCapL]
  | cons a L ih =>
    have h1 := ih (fun e he => hnn e (List.mem_cons_of_mem _ he))
    have h2 := hnn a List.mem_cons_self
    simp only [cutCapL, List.map_cons, List.sum_cons] at h1 ⊢
    split <;> omega

theorem finv_flow_le_total (es : List E) (hnn : ∀ e, e ∈ es → 0 ≤ e.2.2) (s t : Fin (nNodes es)) (hst : s ≠ t)
    (g : Graph) (flow : ℤ) (hi : FInv (cF es (nNodes es)) s t g flow) :
    flow ≤ (es.map fun e => e.2.2).sum := by
  have hf := resFlow_isFlow hi.inv hi.cons
  have hw := weak_duality hf (FlowTheory.setOf (nNodes es) (fun v => v == s.val))
    (by rw [mem_setOf]; simp) (by rw [mem_setOf]; simp; exact fun e => hst (Fin.ext e.symm))
  rw [hi.val] at hw
  rw [← cutCapL_eq es (nNodes es) (fun e he => by
    have := FlowTheory.le_maxId es e he
    unfold nNodes; omega)] at hw
  exact le_trans hw (cutCapL_le_total es hnn _)

theorem assignment_canonical {n : Nat} {c : Fin n → Fin n → ℤ} {s t : Fin n} (g : Graph) (flow : ℤ)
    (hi : FInv c s t g flow) (hun : ¬ ReachG g s.val t.val) (bits : Array Bool)
    (hb : assignmentOut g true s.val = .ok bits) :
    bits.size = n ∧ CanonCut c s t (FlowTheory.setOf n (fun v => gt bits v)) flow := by
  obtain ⟨hsz, hcl⟩ := assignmentOut_closure g s.val hi.wf.targetsOK bits hb
  exact ⟨hsz.trans hi.hn, (finv_canon g flow hi hun _ fun v => (mem_setOf ..).trans (hcl v.val)).2⟩

theorem bits_eq_of_setOf_eq (n : Nat) (b1 b2 : Array Bool) (h1 : b1.size = n) (h2 : b2.size = n)
    (h : FlowTheory.setOf n (fun v => gt b1 v) = FlowTheory.setOf n (fun v => gt b2 v)) : b1 = b2 := by
  have e : ∀ b : Array Bool, (fun v => gt b v) = fun v => b.toList.getD v false := by
    intro b; funext v
    exact (congrArg (gt · v) b.toArray_toList.symm).trans (gt_toArray b.toList v)
  rw [e b1, e b2] at h
  exact Array.toList_inj.mp (list_eq_of_setOf_eq (by rw [Array.length_toList, h1])
    (by rw [Array.length_toList, h2]) h)

theorem canonical_unique {n : Nat} {c : Fin n → Fin n → ℤ} {s t : Fin n} (g1 g2 : Graph) (f1 f2 : ℤ)
    (h1 : FInv c s t g1 f1) (h2 : FInv c s t g2 f2) (u1 : ¬ ReachG g1 s.val t.val)
    (u2 : ¬ ReachG g2 s.val t.val) (b1 b2 : Array Bool) (hb1 : assignmentOut g1 true s.val = .ok b1)
    (hb2 : assignmentOut g2 true s.val = .ok b2) : f1 = f2 ∧ b1 = b2 := by
  obtain ⟨s1, k1⟩ := assignment_canonical g1 f1 h1 u1 b1 hb1
  obtain ⟨s2, k2⟩ := assignment_canonical g2 f2 h2 u2 b2 hb2
  exact (k1.unique k2).imp_right (bits_eq_of_setOf_eq n b1 b2 s1 s2)

end Tbx.Flow
