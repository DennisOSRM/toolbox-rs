import Tbx.Model.InertialFlow
import Tbx.Proofs.FlowDinicDfs
/-
The phase loop with the shared upper bound (`run_with_upper_bound`, `InertialFlow.boundedLoop`) and every history of
runs on one object.  The bounded loop is the unbounded one until it aborts: what it completes the unbounded loop
returns (`boundedLoop_ok`), and what the unbounded loop returns it completes under every bound ≥ the final flow
(`boundedLoop_follows`; the accumulated flow never falls).  Aborted or not it keeps `DL` for (stored counter + what it
pushed), so every run started from a `Carried` state (FlowDinicDfs.lean: the stored counter is the value of the flow
the residual graph carries) ends in one; an object that a later run completes therefore reports the maximum flow value.
-/
namespace Tbx.InertialFlow
open Tbx Tbx.Flow Tbx.FlowSpec Tbx.FlowTheory

theorem boundedLoop_fin (bound : Int) : ∀ (fuel : Nat) (d : Dinic) (flow : Int) (d' : Dinic) (F : Int) (ab : Bool),
    boundedLoop bound fuel d flow = some (d', F, ab) → d'.finished = d.finished := by
  intro fuel
  induction fuel with
  | zero => intro d flow d' F ab h; simp [boundedLoop] at h
  | succ f ih =>
    intro d flow d' F ab h
    unfold boundedLoop at h
    split at h
    · cases h
    · rename_i d1 hb
      cases h; exact bfs_fin _ _ _ hb
    · rename_i d1 hb
      split at h
      · cases h
      · rename_i d2 bf hd
        split at h
        · cases h
          rw [dfs_fin _ _ _ hd, bfs_fin _ _ _ hb]
        · rw [ih _ _ _ _ _ h, dfs_fin _ _ _ hd, bfs_fin _ _ _ hb]

theorem boundedLoop_ok (bound : Int) : ∀ (fuel : Nat) (d : Dinic) (flow : Int) (d' : Dinic) (F : Int),
    boundedLoop bound fuel d flow = some (d', F, false) →
    dinicLoop fuel d flow = some (d', F) ∧ (flow ≤ bound → F ≤ bound) := by
  intro fuel
  induction fuel with
  | zero => intro d flow d' F h; simp [boundedLoop] at h
  | succ f ih =>
    intro d flow d' F h
    unfold boundedLoop at h
    unfold dinicLoop
    split at h
    · cases h
    · rename_i d1 hb
      rw [hb]; cases h; exact ⟨rfl, id⟩
    · rename_i d1 hb
      rw [hb]
      simp only
      split at h
      · cases h
      · rename_i d2 bf hd
        rw [hd]
        simp only
        split at h
        · cases h
        · obtain ⟨h1, h2⟩ := ih _ _ _ _ h
          exact ⟨h1, fun _ => h2 (by omega)⟩

theorem boundedLoop_inv {n : Nat} {c : Fin n → Fin n → ℤ} {s t : Fin n} (hst : s ≠ t) (hN : n + 2 < INV)
    (bound : Int) (fuel : Nat) : ∀ (d : Dinic) (flow F : ℤ) (d' : Dinic) (flow' : ℤ) (ab : Bool), DL c s t d F →
    boundedLoop bound fuel d flow = some (d', flow', ab) →
    DL c s t d' (F + (flow' - flow)) ∧ (ab = false → ¬ ReachG d'.g s.val t.val) := by
  induction fuel with
  | zero => intro d flow F d' flow' ab _ h; simp [boundedLoop] at h
  | succ fuel ih =>
    intro d flow F d' flow' ab hi h
    obtain ⟨d1, b, hb, hi1, hg, _, hex, _⟩ := bfs_dl hst hN hi
    simp only [boundedLoop, hb] at h
    cases b with
    | false =>
      cases h
      exact ⟨by rw [Int.sub_self, Int.add_zero]; exact hi1, fun _ hr => Bool.noConfusion (hex.mpr (hg ▸ hr))⟩
    | true =>
      obtain ⟨d2, bf, hd, hi2, _⟩ := dfs_run hst (Nat.le_of_lt (Nat.lt_of_le_of_lt (Nat.le_add_right _ 2) hN)) d1 F hi1
      simp only [hd] at h
      split at h
      · cases h
        exact ⟨by rw [add_sub_cancel_left]; exact hi2, fun hab => by cases hab⟩
      · obtain ⟨e1, e2⟩ := ih d2 (flow + bf) (F + bf) d' flow' ab hi2 h
        -- `F + bf + (flow' - (flow + bf)) = F + (flow' - flow)`, as in `dinicLoop_run`
        exact ⟨by rw [← add_sub_cancel bf (flow' - flow), ← add_assoc, sub_sub]; exact e1, e2⟩

theorem boundedLoop_follows {n : Nat} {c : Fin n → Fin n → ℤ} {s t : Fin n} (hst : s ≠ t)
    (hN : n + 2 < INV) (bound : Int) (fuel : Nat) : ∀ (d : Dinic) (flow F : ℤ) (d' : Dinic) (flow' : ℤ),
    DL c s t d F → dinicLoop fuel d flow = some (d', flow') →
    flow ≤ flow' ∧ ∃ r, boundedLoop bound fuel d flow = some r ∧ (flow' ≤ bound → r = (d', flow', false)) := by
  induction fuel with
  | zero => intro d flow F d' flow' _ h; simp [dinicLoop] at h
  | succ fuel ih =>
    intro d flow F d' flow' hi h
    obtain ⟨d1, b, hb, hi1, _⟩ := bfs_dl hst hN hi
    simp only [dinicLoop, hb] at h
    simp only [boundedLoop, hb]
    cases b with
    | false => cases h; exact ⟨Int.le_refl _, _, rfl, fun _ => rfl⟩
    | true =>
      obtain ⟨d2, bf, hd, hi2, hbf, _⟩ := dfs_run hst (by omega) d1 F hi1
      simp only [hd] at h ⊢
      obtain ⟨e1, r, e2, e3⟩ := ih d2 (flow + bf) (F + bf) d' flow' hi2 h
      refine ⟨by omega, ?_⟩
      by_cases hgt : flow + bf > bound
      · exact ⟨_, if_pos hgt, fun hle => by omega⟩
      · exact ⟨r, (if_neg hgt).trans e2, e3⟩

theorem boundedLoop_quiet {n : Nat} {c : Fin n → Fin n → ℤ} {s t : Fin n} (hst : s ≠ t) (hN : n + 2 < INV)
    {d : Dinic} {F : ℤ} (hi : DL c s t d F) (hnr : ¬ ReachG d.g s.val t.val) (bound : Int) (k : Nat) (flow : ℤ) :
    ∃ d1, boundedLoop bound (k + 1) d flow = some (d1, flow, false) ∧ d1.g = d.g := by
  obtain ⟨d1, b, hb, _, hg, _, hex, _⟩ := bfs_dl hst hN hi
  cases b with
  | true => exact absurd (hex.mp rfl) hnr
  | false => exact ⟨d1, by simp only [boundedLoop, hb], hg⟩

theorem fromEdgeList_fin (es : List Edge) (s t : Nat) (d : Dinic) (h : Dinic.fromEdgeList es s t = some d) :
    d.finished = false := by
  cases fromEdgeList_eq h; rfl

theorem runBounded_spec (d : Dinic) (hf : d.finished = false) (fuel : Nat) (bound : Int) (d' : Dinic)
    (b' : Int) (h : runBounded d fuel bound = some (d', b')) :
    (d'.finished = false ∧ b' = bound) ∨
    (d'.finished = true ∧ d.run fuel = some d' ∧ b' = min bound d'.maxFlow ∧
      (0 ≤ bound → d'.maxFlow ≤ bound)) := by
  unfold runBounded at h
  simp only at h
  split at h
  · cases h
  · rename_i hg
    split at h
    · cases h
    · rename_i dl flow hl
      simp only [Option.some.injEq, Prod.mk.injEq] at h
      obtain ⟨rfl, rfl⟩ := h
      left
      have := boundedLoop_fin _ _ _ _ _ _ _ hl
      exact ⟨by show dl.finished = false; rw [this]; exact hf, rfl⟩
    · rename_i dl flow hl
      simp only [Option.some.injEq, Prod.mk.injEq] at h
      obtain ⟨rfl, rfl⟩ := h
      right
      refine ⟨rfl, ?_, rfl, ?_⟩
      · unfold Dinic.run
        simp only
        rw [if_neg hg, (boundedLoop_ok _ _ _ _ _ _ hl).1]
      · exact (boundedLoop_ok _ _ _ _ _ _ hl).2

theorem runBounded_of_run (es : List Edge) (s t : Nat) (hnn : ∀ e, e ∈ es → 0 ≤ e.cap) (hst : s ≠ t)
    (hN : nNodes (es.map toE) + 2 < INV) (d : Dinic) (hd : Dinic.fromEdgeList es s t = some d)
    (fuel : Nat) (d' : Dinic) (h : d.run fuel = some d') (bound : Int) :
    ∃ r, runBounded d fuel bound = some r ∧ (d'.maxFlow ≤ bound → r = (d', min bound d'.maxFlow)) := by
  obtain ⟨hs, ht, _⟩ := run_spec es s t hnn hst hN d hd fuel d' h
  have hdl := (fresh_carried es s t hnn hs ht d hd).1.dl
  unfold Dinic.run at h
  unfold runBounded
  simp only at h ⊢
  split at h
  · cases h
  · rename_i hg
    rw [if_neg hg]
    split at h
    · cases h
    · rename_i d1 flow hloop
      cases h
      obtain ⟨_, ⟨d2, f2, ab⟩, hr, heq⟩ :=
        boundedLoop_follows (fun e => hst (Fin.mk.inj e)) hN bound fuel _ 0 d.maxFlow d1 flow hdl hloop
      rw [hr]
      cases ab with
      | true => exact ⟨_, rfl, fun hle => by cases heq hle⟩
      | false => exact ⟨_, rfl, fun hle => by cases heq hle; rfl⟩

theorem runBoundedAgain_dl {n : Nat} {c : Fin n → Fin n → ℤ} {s t : Fin n} (hst : s ≠ t) (hN : n + 2 < INV)
    (d : Dinic) (fuel : Nat) (bound : Int) (d' : Dinic) (b' : Int) (hc : Carried c s t d)
    (h : runBoundedAgain d fuel bound = some (d', b')) :
    Carried c s t d' ∧ (d.finished = false → d'.finished = true →
      IsMaxFlowValue c s t d'.maxFlow ∧ ¬ ReachG d'.g s.val t.val ∧ b' = min bound d'.maxFlow) := by
  unfold runBoundedAgain at h
  simp only at h
  split at h
  · cases h
  · have hd0 := hc.dl
    split at h
    · cases h
    · rename_i dl fl hloop
      cases h
      obtain ⟨a, _⟩ := boundedLoop_inv hst hN bound fuel _ d.maxFlow d.maxFlow dl fl true hd0 hloop
      rw [add_sub_cancel] at a
      refine ⟨⟨a.fi, a.uq, a.rc, a.src, a.tgt⟩, fun hf hf' => ?_⟩
      -- an aborted run leaves `finished` as it was
      have hf2 : dl.finished = true := hf'
      rw [boundedLoop_fin bound fuel _ d.maxFlow dl fl true hloop] at hf2
      exact absurd (hf.symm.trans hf2) (by decide)
    · rename_i dl fl hloop
      cases h
      obtain ⟨a, b⟩ := boundedLoop_inv hst hN bound fuel _ d.maxFlow d.maxFlow dl fl false hd0 hloop
      rw [add_sub_cancel] at a
      exact ⟨⟨a.fi, a.uq, a.rc, a.src, a.tgt⟩,
        fun _ _ => ⟨finv_unreachable_max dl.g fl a.fi (b rfl), b rfl, rfl⟩⟩

/-- any history of `run()` / `run_with_upper_bound(b)` calls on one object, given by the values the consulted
    bound has at each call -/
def runsBounded (fuel : Nat) : List Int → Dinic → Option Dinic
  | [], d => some d
  | b :: bs, d => match runBoundedAgain d fuel b with
    | none => none
    | some (d', _) => runsBounded fuel bs d'

theorem runsBounded_spec {n : Nat} {c : Fin n → Fin n → ℤ} {s t : Fin n} (hst : s ≠ t) (hN : n + 2 < INV)
    (fuel : Nat) (bs : List Int) : ∀ (d d' : Dinic), Carried c s t d →
    (d.finished = true → ¬ ReachG d.g s.val t.val) → runsBounded fuel bs d = some d' →
    Carried c s t d' ∧ (d'.finished = true → IsMaxFlowValue c s t d'.maxFlow ∧ ¬ ReachG d'.g s.val t.val) := by
  induction bs with
  | nil =>
    intro d d' hc hq h
    simp only [runsBounded, Option.some.injEq] at h
    subst h
    exact ⟨hc, fun hf => ⟨finv_unreachable_max d.g d.maxFlow hc.fi (hq hf), hq hf⟩⟩
  | cons b bs ih =>
    intro d d' hc hq h
    simp only [runsBounded] at h
    cases hr : runBoundedAgain d fuel b with
    | none => simp [hr] at h
    | some r =>
      obtain ⟨d1, b1⟩ := r
      simp only [hr] at h
      obtain ⟨c1, hdone⟩ := runBoundedAgain_dl hst hN d fuel b d1 b1 hc hr
      refine ih d1 d' c1 (fun hf1 => ?_) h
      cases hfd : d.finished with
      | false => exact (hdone hfd hf1).2.1
      | true =>
        -- a finished object: one more run performs a single BFS that answers false and touches nothing
        have hnr := hq hfd
        unfold runBoundedAgain at hr
        simp only at hr
        split at hr
        · cases hr
        · cases fuel with
          | zero => simp [boundedLoop] at hr
          | succ k =>
            obtain ⟨dl, hl, hg⟩ := boundedLoop_quiet hst hN hc.dl hnr b k d.maxFlow
            simp only [hl] at hr
            cases hr
            exact fun hreach => hnr (by rw [← show dl.g = d.g from hg]; exact hreach)

theorem rerunHistory_runsBounded (fuel : Nat) (k : Nat) : ∀ (i : Nat) (d : Dinic) (b : Int) (r : Dinic × Int),
    rerunHistory fuel k i d b = some r → ∃ bs, bs.length = k ∧ runsBounded fuel bs d = some r.1 := by
  induction k with
  | zero =>
    intro i d b r h
    simp only [rerunHistory, Option.some.injEq] at h
    subst h
    exact ⟨[], rfl, rfl⟩
  | succ k ih =>
    intro i d b r h
    simp only [rerunHistory] at h
    cases hr : runBoundedAgain d fuel (if i % 2 = 0 then b else I32MAX) with
    | none => simp [hr] at h
    | some r1 =>
      obtain ⟨d1, b1⟩ := r1
      simp [hr] at h
      obtain ⟨bs, hl, hbs⟩ := ih (i + 1) d1 b1 r h
      refine ⟨(if i % 2 = 0 then b else I32MAX) :: bs, by simp [hl], ?_⟩
      simp only [runsBounded, hr]
      exact hbs

end Tbx.InertialFlow
