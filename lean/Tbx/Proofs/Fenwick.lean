import Tbx.Proofs.FenwickBits
import Tbx.Spec.PrefixSum
/-
The Fenwick invariant  tree[p] = Σ values (p − lsb p, p]  and what the two reading walks compute under it:
`rank` and `range` equal the plain array's sums.
-/
namespace Tbx.Fenwick
open Tbx
open Tbx.PrefixSum (pre)

theorem pre_zero (v : List Int) : pre v 0 = 0 := by simp [pre]

theorem pre_succ (v : List Int) (p : Nat) : pre v (p + 1) = pre v p + v.getD p 0 := by
  unfold pre
  rw [List.take_add_one, List.sum_append, List.getD_eq_getElem?_getD]
  cases v[p]? <;> simp

theorem pre_pred (v : List Int) (p : Nat) (hp : 1 ≤ p) : pre v p = pre v (p - 1) + v.getD (p - 1) 0 := by
  have := pre_succ v (p - 1)
  rwa [Nat.sub_add_cancel hp] at this

theorem pre_add (v : List Int) (a b : Nat) : pre v (a + b) = pre v a + ((v.drop a).take b).sum := by
  unfold pre
  rw [List.take_add, List.sum_append]

theorem range_eq (v : List Int) (i j : Nat) (h : i ≤ j) :
    PrefixSum.range v i j = pre v (j + 1) - pre v (i + 1) := by
  have h1 := pre_add v (i + 1) (j - i)
  have e : i + 1 + (j - i) = j + 1 := by omega
  rw [e] at h1
  unfold PrefixSum.range
  omega

theorem pre_update (v : List Int) (i : Nat) (x : Int) (p : Nat) (hi : i < v.length) :
    pre (PrefixSum.update v i x) p = pre v p + (if i < p then x else 0) := by
  induction p with
  | zero => simp [pre_zero]
  | succ p ih =>
    rw [pre_succ, pre_succ, ih]
    have hg : (PrefixSum.update v i x).getD p 0 = v.getD p 0 + (if i = p then x else 0) := by
      unfold PrefixSum.update
      simp only [List.getD_eq_getElem?_getD, List.getElem?_set]
      by_cases hip : i = p
      · subst hip; simp [hi]
      · simp [hip]
    rw [hg]
    by_cases h1 : i < p
    · have h2 : ¬ (i = p) := by omega
      have h3 : i < p + 1 := by omega
      rw [if_pos h1, if_neg h2, if_pos h3]; omega
    · by_cases h2 : i = p
      · have h3 : i < p + 1 := by omega
        rw [if_neg h1, if_pos h2, if_pos h3]; omega
      · have h3 : ¬ (i < p + 1) := by omega
        rw [if_neg h1, if_neg h2, if_neg h3]; omega

theorem length_update (v : List Int) (i : Nat) (x : Int) : (PrefixSum.update v i x).length = v.length := by
  simp [PrefixSum.update]

structure FwInv (t : Array Int) (v : List Int) : Prop where
  size : t.size = v.length + 1
  node : ∀ p, 1 ≤ p → p ≤ v.length → gt t p = pre v p - pre v (p - lsb p)

theorem downLoop_spec (t : Array Int) (v : List Int) (hI : FwInv t v) (stop fuel p : Nat) (sum : Int)
    (hp : p ≤ v.length) (hf : p ≤ fuel) :
    (downLoop t stop fuel p sum).2 = sum + pre v p - pre v (downLoop t stop fuel p sum).1 ∧
    (p ≤ stop → (downLoop t stop fuel p sum).1 = p) ∧
    (stop < p → (downLoop t stop fuel p sum).1 ≤ stop ∧
      ∃ y, stop < y ∧ y ≤ p ∧ y - lsb y = (downLoop t stop fuel p sum).1) := by
  induction fuel generalizing p sum with
  | zero =>
    have : p = 0 := by omega
    subst this
    simp [downLoop]
  | succ fuel ih =>
    unfold downLoop
    by_cases hgt : p > stop
    · rw [if_pos hgt]
      have hpos : 0 < p := Nat.lt_of_le_of_lt (Nat.zero_le _) hgt
      have hl := lsb_pos p hpos
      obtain ⟨h1, h3, h4⟩ := ih (p - lsb p) (sum + gt t p) (Nat.le_trans (Nat.sub_le _ _) hp)
        (Nat.le_of_lt_succ (Nat.lt_of_lt_of_le (Nat.sub_lt hpos hl) hf))
      have hnode := hI.node p hpos hp
      have e1 : (downLoop t stop fuel (p - lsb p) (sum + gt t p)).2 =
          sum + pre v p - pre v (downLoop t stop fuel (p - lsb p) (sum + gt t p)).1 := by
        rw [h1, hnode]; clear h4; omega
      refine ⟨e1, (fun h => absurd h (Nat.not_le_of_gt hgt)), fun _ => ?_⟩
      by_cases hle : p - lsb p ≤ stop
      · have := h3 hle
        exact ⟨(by rw [this]; exact hle), p, hgt, Nat.le_refl _, this.symm⟩
      · obtain ⟨h5, y, hy1, hy2, hy3⟩ := h4 (Nat.lt_of_not_le hle)
        exact ⟨h5, y, hy1, Nat.le_trans hy2 (Nat.sub_le _ _), hy3⟩
    · rw [if_neg hgt]
      refine ⟨?_, fun _ => rfl, fun h => absurd h hgt⟩
      show sum = sum + pre v p - pre v p
      omega

theorem rank_spec (t : Array Int) (v : List Int) (hI : FwInv t v) (index : Nat) :
    Fenwick.rank ⟨t⟩ index = PrefixSum.rank v index := by
  unfold Fenwick.rank PrefixSum.rank len
  simp only [hI.size, Nat.add_sub_cancel]
  by_cases h : index < v.length
  · have : ¬ (index ≥ v.length) := by omega
    rw [if_neg this, if_pos h]
    obtain ⟨h1, _, h4⟩ := downLoop_spec t v hI 0 (index + 1) (index + 1) 0 (by omega) (Nat.le_refl _)
    rw [h1, Nat.le_zero.mp (h4 (Nat.succ_pos _)).1, pre_zero, Int.zero_add, Int.sub_zero]
  · have : index ≥ v.length := by omega
    rw [if_pos this, if_neg h]

/-- a walk that starts inside the interval of node y, (y − lsb y, y], stops exactly at its left end: below y the
    intervals are nested in that of y (`cover_nest`), so no step jumps over y − lsb y -/
theorem downLoop_hits (t : Array Int) (y : Nat) (fuel a : Nat) (sum : Int) (h1 : y - lsb y < a) (h2 : a ≤ y)
    (hf : a ≤ fuel) : (downLoop t (y - lsb y) fuel a sum).1 = y - lsb y := by
  induction fuel generalizing a sum with
  | zero => omega
  | succ f ih =>
    have ha : 0 < a := by omega
    have hl := lsb_pos a ha
    rw [downLoop, if_pos h1]
    by_cases hlt : y - lsb y < a - lsb a
    · exact ih _ _ hlt (by omega) (by omega)
    · have hle : y - lsb y ≤ a - lsb a := by
        by_cases hay : a = y
        · rw [hay]; exact Nat.le_refl _
        · exact cover_nest y a ha h1 (by omega)
      rw [show a - lsb a = y - lsb y by omega]
      cases f <;> simp [downLoop]

/-- the two-pointer walk of `range`: the overshoot of the first walk is cancelled by the second -/
theorem range_spec (t : Array Int) (v : List Int) (hI : FwInv t v) (i j : Nat) (hij : i < j) (hj : j < v.length) :
    Fenwick.range ⟨t⟩ i j = some (PrefixSum.range v i j) := by
  unfold Fenwick.range
  rw [if_neg (Nat.not_le.mpr hij), if_neg (by rw [hI.size]; exact Nat.not_le.mpr (Nat.succ_lt_succ hj))]
  dsimp only
  obtain ⟨a1, _, a4⟩ := downLoop_spec t v hI i (j + 1) (j + 1) 0 hj (Nat.le_refl _)
  obtain ⟨hq, y, hy1, hy2, hy3⟩ := a4 (Nat.lt_succ_of_lt hij)
  generalize (downLoop t i (j + 1) (j + 1) 0) = A at a1 hq hy3 ⊢
  have hhit := downLoop_hits t y (i + 1) (i + 1) 0 (by omega) hy1 (Nat.le_refl _)
  rw [hy3] at hhit
  obtain ⟨b1, _, _⟩ := downLoop_spec t v hI A.1 (i + 1) (i + 1) 0
    (Nat.le_trans (Nat.succ_le_of_lt hij) (Nat.le_of_lt hj)) (Nat.le_refl _)
  rw [hhit] at b1
  rw [a1, b1, range_eq v i j (Nat.le_of_lt hij)]
  congr 1
  omega

end Tbx.Fenwick
