import Tbx.Proofs.GeoPlane
/-
Enclosure: after a pass of the monotone chain over points sorted by (lon, lat), every processed
point lies on the left of (or on) the line through every two consecutive stack entries.

Loop invariant K of the inner `while` (`popWhile_K`): every processed point q with top ≼ q lies left of
top → p.  Step (`step_inv`): the new edge o → p has every processed point on its left (points after o by
the loop invariant, points before o by the strict turn o' → o → p), and p lies left of every older edge
(backward propagation along the strictly convex, lexicographically increasing chain).
Result of a pass (`lowerStack_inv`): the loop is read through its closed form, the stack after the points `done`
(listed last first, so descending) is `lowerStack done.reverse`, and it satisfies the pass invariant `Inv done`.
The stack is a list with the top at the head; its edges are the consecutive `pairs`, that is its infixes of
length two (`mem_pairs_iff`).
-/
namespace Tbx.Geo

def pairs : List Coord → List (Coord × Coord)
  | x :: y :: r => (x, y) :: pairs (y :: r)
  | _ => []

theorem pairs_cons2 (x y : Coord) (r : List Coord) : pairs (x :: y :: r) = (x, y) :: pairs (y :: r) := rfl
theorem pairs_single (x : Coord) : pairs [x] = [] := rfl

theorem mem_pairs_iff {l : List Coord} {e : Coord × Coord} : e ∈ pairs l ↔ [e.1, e.2] <:+: l := by
  induction l with
  | nil => simp [pairs]
  | cons x t ih =>
    cases t with
    | nil => simp [pairs, List.infix_cons_iff, List.cons_prefix_cons]
    | cons y r =>
      rw [pairs_cons2, List.mem_cons, ih, @List.infix_cons_iff _ _ x (y :: r)]
      simp [List.cons_prefix_cons, Prod.ext_iff]

theorem pairs_suffix {l₁ l₂ : List Coord} (h : l₁ <:+ l₂) : ∀ e ∈ pairs l₁, e ∈ pairs l₂ :=
  fun _ he => mem_pairs_iff.mpr ((mem_pairs_iff.mp he).trans h.isInfix)

/-- every point of `done` is on the left of (or on) every stack edge; the stack is top first, so the pair
(a, o) of the list is the directed edge o → a -/
def Sup (done st : List Coord) : Prop := ∀ e ∈ pairs st, ∀ q ∈ done, 0 ≤ cross e.2 e.1 q

def Desc (st : List Coord) : Prop := List.Pairwise (fun a b => LexLe b a) st

/-- `lastD x r` is the bottom entry of the stack `x :: r` -/
def lastD : Coord → List Coord → Coord
  | d, [] => d
  | _, x :: xs => lastD x xs

theorem lastD_mem_cons (x : Coord) (r : List Coord) : lastD x r ∈ x :: r := by
  induction r generalizing x with
  | nil => exact List.mem_cons_self
  | cons y ys ih => exact List.mem_cons_of_mem _ (ih y)

theorem lastD_append_cons (x : Coord) (pre : List Coord) (o : Coord) : lastD x (pre ++ [o]) = o := by
  induction pre generalizing x with
  | nil => rfl
  | cons y ys ih => exact ih y

/-- the inner loop keeps K(top) = "every processed q with top ≼ q is left of top → p" (fourth hypothesis, last
conjunct); that the result is a suffix and ends in a strict turn is `popWhile_suffix`, `push_turns` -/
theorem popWhile_K (done : List Coord) (p : Coord) (hp : ∀ q ∈ done, LexLe q p) :
    ∀ (r : List Coord) (x : Coord), (∀ v ∈ x :: r, v ∈ done) → Desc (x :: r) → Sup done (x :: r) →
      (∀ q ∈ done, LexLe x q → 0 ≤ cross x p q) →
      ∃ x' r', popWhile 2 p (x :: r) = x' :: r' ∧ lastD x' r' = lastD x r ∧
        ∀ q ∈ done, LexLe x' q → 0 ≤ cross x' p q := by
  intro r
  induction r with
  | nil => exact fun x _ _ _ hK => ⟨x, [], rfl, rfl, hK⟩
  | cons o r2 ih =>
    intro x hsub hdesc hsup hK
    rw [popWhile_cons2]
    by_cases hcw : isCW o x p = true
    · rw [if_neg (by simp [hcw])]
      exact ⟨x, o :: r2, rfl, rfl, hK⟩
    · rw [if_pos ⟨by simp, by simpa using hcw⟩]
      have hle : cross o x p ≤ 0 := Int.not_lt.mp fun h => hcw ((isCW_iff o x p).mpr h)
      have hox : LexLe o x := (List.pairwise_cons.mp hdesc).1 o List.mem_cons_self
      have hxp : LexLe x p := hp x (hsub x List.mem_cons_self)
      refine ih o (fun v hv => hsub v (List.mem_cons_of_mem _ hv)) (List.pairwise_cons.mp hdesc).2
        (fun e he => hsup e (pairs_suffix (List.suffix_cons _ _) e he)) fun q hq hoq => ?_
      rcases LexLe.total x q with hxq | hqx
      · exact crossX2 hox hxq (hp q hq) hle (hK q hq hxq)
      · exact crossX1 hoq hqx hxp (hsup (x, o) (by rw [pairs_cons2]; exact List.mem_cons_self) q hq) hle

/-- the incoming point lies left of every older edge once it lies left of the top edge -/
theorem sup_point (p : Coord) : ∀ (r : List Coord) (a o : Coord), Turns (a :: o :: r) → Desc (a :: o :: r) →
    LexLe a p → 0 ≤ cross o a p → ∀ e ∈ pairs (a :: o :: r), 0 ≤ cross e.2 e.1 p := by
  intro r
  induction r with
  | nil =>
    intro a o _ _ _ h e he
    simp only [pairs, List.mem_cons, List.not_mem_nil, or_false] at he
    subst he; exact h
  | cons o2 r2 ih =>
    intro a o ht hd hap h e he
    rw [pairs_cons2] at he
    rcases List.mem_cons.mp he with rfl | he
    · exact h
    · have hd1 := List.pairwise_cons.mp hd
      have hd2 := List.pairwise_cons.mp hd1.2
      have hoa : LexLe o a := hd1.1 o List.mem_cons_self
      have ho2o : LexLe o2 o := hd2.1 o2 List.mem_cons_self
      have hturn : 0 < cross o2 o a := (isCW_iff o2 o a).mp ht.1
      have hnext : 0 ≤ cross o2 o p := crossP' ho2o hoa (LexLe.trans hoa hap) h hturn
      exact ih o o2 ht.2 hd1.2 (LexLe.trans hoa hap) hnext e he

/-- invariant of a pass: `done` = the points processed so far -/
structure Inv (done : List Coord) (x : Coord) (r : List Coord) : Prop where
  sub : ∀ v ∈ x :: r, v ∈ done
  desc : Desc (x :: r)
  turns : Turns (x :: r)
  sup : Sup done (x :: r)
  top : ∀ q ∈ done, LexLe q x
  bot : ∀ q ∈ done, LexLe (lastD x r) q

theorem step_inv {done : List Coord} {x : Coord} {r : List Coord} (h : Inv done x r) (p : Coord)
    (hp : ∀ q ∈ done, LexLe q p) :
    ∃ x' r', popWhile 2 p (x :: r) = x' :: r' ∧ Inv (p :: done) p (x' :: r') := by
  have hK0 : ∀ q ∈ done, LexLe x q → 0 ≤ cross x p q := by
    intro q hq hxq
    have : q = x := LexLe.antisymm (h.top q hq) hxq
    rw [this, cross_self_base]
  obtain ⟨x', r', e, hl, hk⟩ := popWhile_K done p hp r x h.sub h.desc h.sup hK0
  refine ⟨x', r', e, ?_⟩
  have hs : (x' :: r') <:+ (x :: r) := e ▸ popWhile_suffix 2 p (x :: r)
  have hsub' : ∀ v ∈ x' :: r', v ∈ done := fun v hv => h.sub v (List.IsSuffix.mem hv hs)
  have hdesc' : Desc (x' :: r') := List.Pairwise.sublist hs.sublist h.desc
  have hturns : Turns (p :: x' :: r') := e ▸ push_turns p (x :: r) h.turns
  have hx'p : LexLe x' p := hp x' (hsub' x' List.mem_cons_self)
  constructor
  · intro v hv
    rcases List.mem_cons.mp hv with rfl | hv
    · exact List.mem_cons_self
    · exact List.mem_cons_of_mem _ (hsub' v hv)
  · exact List.pairwise_cons.mpr ⟨fun v hv => hp v (hsub' v hv), hdesc'⟩
  · exact hturns
  · intro e' he' q hq
    rw [pairs_cons2] at he'
    rcases List.mem_cons.mp he' with rfl | he2
    · -- the new edge x' → p
      show 0 ≤ cross x' p q
      rcases List.mem_cons.mp hq with rfl | hq
      · rw [cross_self_right]
      · rcases LexLe.total x' q with hxq | hqx
        · exact hk q hq hxq
        · cases r' with
          | nil =>
            -- x' is the bottom entry: it precedes every processed point
            have : LexLe x' q := by
              have := h.bot q hq
              rw [← hl] at this; exact this
            exact hk q hq this
          | cons o r'' =>
            have hox : LexLe o x' := (List.pairwise_cons.mp hdesc').1 o List.mem_cons_self
            have h1 : 0 ≤ cross o x' q :=
              h.sup (x', o) (pairs_suffix hs _ (by rw [pairs_cons2]; exact List.mem_cons_self)) q hq
            exact crossP hox hx'p hqx h1 ((isCW_iff o x' p).mp hturns.1)
    · rcases List.mem_cons.mp hq with rfl | hq
      · clear he'
        cases r' with
        | nil => rw [pairs_single] at he2; cases he2
        | cons o r'' =>
          have h0 : 0 ≤ cross o x' q := le_of_lt ((isCW_iff o x' q).mp hturns.1)
          exact sup_point q r'' x' o hturns.2 hdesc' hx'p h0 e' he2
      · exact h.sup e' (pairs_suffix hs e' he2) q hq
  · intro q hq
    rcases List.mem_cons.mp hq with rfl | hq
    · exact LexLe.refl _
    · exact hp q hq
  · intro q hq
    show LexLe (lastD x' r') q
    rw [hl]
    rcases List.mem_cons.mp hq with rfl | hq
    · exact hp _ (h.sub _ (lastD_mem_cons x r))
    · exact h.bot q hq

/-- a pass read through its closed form: `done` lists the processed points, last first, and the stack after them
is `lowerStack done.reverse` -/
theorem lowerStack_inv : ∀ {done : List Coord}, Desc done → ∀ {x : Coord} {r : List Coord},
    lowerStack done.reverse = x :: r → Inv done x r
  | [], _, _, _, h => nomatch h
  | [a], _, _, _, h => by
    cases h
    have hone : ∀ q ∈ [a], q = a := fun q hq => List.mem_singleton.mp hq
    exact ⟨fun _ hv => hv, List.pairwise_singleton _ _, trivial, fun e he => absurd he List.not_mem_nil,
      fun q hq => hone q hq ▸ LexLe.refl _, fun q hq => hone q hq ▸ LexLe.refl _⟩
  | p :: x :: d, hd, _, _, h => by
    have hd' := List.pairwise_cons.mp hd
    obtain ⟨x', r', e, hinv⟩ := step_inv (lowerStack_inv hd'.2 (lowerStack_cons_reverse x d)) p hd'.1
    rw [lowerStack_cons_reverse, lowerStack_cons_reverse, e] at h
    cases h
    exact hinv

end Tbx.Geo
