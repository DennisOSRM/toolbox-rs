import Tbx.Model.Choose
import Tbx.Model.Enumerative
import Tbx.Spec.Codes
import Mathlib.Data.Nat.Choose.Basic
import Mathlib.Data.Nat.Choose.Bounds

/-
C20: `math::choose` computes binomial coefficients without overflow for n ≤ 64, `decode_u64` is the
pure unranking function, `unrank`/`rank` are mutually inverse order isomorphisms between
`[0, binom n w)` and the n-bit words of weight w, the bit-weight iterator enumerates them in order;
the rows of the judge's Pascal table are the binomial coefficients (`pascalRow_eq`), and its table-driven rank is
`Spec.rank` on any table whose entries are (`rankT_eq`).
-/
namespace Tbx.Proofs.ChooseUnrank
open Tbx Tbx.Spec Tbx.Choose Tbx.Enumerative

theorem binom_eq_choose (n k : Nat) : Spec.binom n k = Nat.choose n k := by
  induction n generalizing k with
  | zero => cases k <;> simp [Spec.binom]
  | succ n ih =>
    cases k with
    | zero => simp [Spec.binom]
    | succ k => simp [Spec.binom, ih, Nat.choose_succ_succ]

theorem nat_choose_lt (n k : Nat) (hn : n ≤ 64) : Nat.choose n k < 2 ^ 64 := by
  rcases Nat.eq_zero_or_pos n with h0 | hpos
  · subst h0
    cases k <;> simp
  · calc Nat.choose n k < 2 ^ n := Nat.choose_lt_two_pow n k hpos
      _ ≤ 2 ^ 64 := Nat.pow_le_pow_right (by decide) hn

theorem prod_choose (n j : Nat) (hj : j < n) :
    prod n (j + 1) (Nat.choose n j) = Nat.choose n (j + 1) * (j + 1) := by
  unfold prod
  rw [Nat.choose_succ_right_eq]
  congr 1
  omega

theorem prod_choose_div (n j : Nat) (hj : j < n) :
    prod n (j + 1) (Nat.choose n j) / (j + 1) = Nat.choose n (j + 1) := by
  rw [prod_choose n j hj]
  exact Nat.mul_div_cancel _ (Nat.succ_pos j)

theorem prod_choose_lt (n j : Nat) (hn : n ≤ 64) :
    prod n (j + 1) (Nat.choose n j) < 2 ^ 128 := by
  unfold prod
  have h1 : Nat.choose n j < 2 ^ 64 := nat_choose_lt n j hn
  have h2 : n - (j + 1) + 1 ≤ 64 := by omega
  calc Nat.choose n j * (n - (j + 1) + 1) ≤ 2 ^ 64 * 64 := Nat.mul_le_mul h1.le h2
    _ < 2 ^ 128 := by decide

theorem loop_eq (n : Nat) (hn : n ≤ 64) (cnt j : Nat) (h : j + cnt ≤ n) :
    loop U128 n cnt (j + 1) (Nat.choose n j) = some (Nat.choose n (j + cnt)) := by
  induction cnt generalizing j with
  | zero => simp [loop]
  | succ cnt ih =>
    have hj : j < n := by omega
    have hlt : prod n (j + 1) (Nat.choose n j) < U128 := prod_choose_lt n j hn
    rw [loop, if_pos hlt, prod_choose_div n j hj, ih (j + 1) (by omega)]
    congr 2
    omega

theorem trace_inv (n : Nat) (hn : n ≤ 64) (cnt j : Nat) (h : j + cnt ≤ n) :
    ∀ ip ∈ trace n cnt (j + 1) (Nat.choose n j),
      ip.2 < 2 ^ 128 ∧ ip.2 = Nat.choose n (ip.1 - 1) * (n - ip.1 + 1) ∧ ip.1 ∣ ip.2 ∧
        j + 1 ≤ ip.1 ∧ ip.1 ≤ j + cnt := by
  induction cnt generalizing j with
  | zero => intro ip hip; simp [trace] at hip
  | succ cnt ih =>
    have hj : j < n := by omega
    intro ip hip
    rw [trace, prod_choose_div n j hj] at hip
    rcases List.mem_cons.mp hip with rfl | hip
    · refine ⟨prod_choose_lt n j hn, rfl, ?_, Nat.le_refl _, ?_⟩
      · show j + 1 ∣ prod n (j + 1) (Nat.choose n j)
        rw [prod_choose n j hj]
        exact Nat.dvd_mul_left _ _
      · show j + 1 ≤ j + (cnt + 1)
        omega
    · obtain ⟨h1, h2, h3, h4, h5⟩ := ih (j + 1) (by omega) ip hip
      exact ⟨h1, h2, h3, by omega, by omega⟩

theorem reduceK_le (n k : Nat) (hk : k ≤ n) : reduceK n k ≤ n := by
  unfold reduceK; split <;> omega

theorem choose_reduceK (n k : Nat) (hk : k ≤ n) : Nat.choose n (reduceK n k) = Nat.choose n k := by
  unfold reduceK; split
  · exact Nat.choose_symm hk
  · rfl

theorem choose_eq (n k : Nat) (hn : n ≤ 64) : Choose.choose n k = some (Spec.binom n k) := by
  rw [binom_eq_choose]
  unfold Choose.choose
  split
  · rename_i h
    rw [Nat.choose_eq_zero_of_lt h]
  · rename_i h
    have hk : k ≤ n := by omega
    split
    · rename_i h2
      have : k = 0 ∨ k = n := by simpa using h2
      rcases this with rfl | rfl <;> simp
    · have := loop_eq n hn (reduceK n k) 0 (by rw [Nat.zero_add]; exact reduceK_le n k hk)
      simp only [Nat.zero_add, Nat.choose_zero_right] at this
      rw [this, choose_reduceK n k hk]
      simp only [Option.map_some, U64]
      rw [Nat.mod_eq_of_lt (nat_choose_lt n k hn)]

example : Choose.choose 64 32 = some 1832624140942590534 := by decide +kernel

theorem binom_zero_right (n : Nat) : Spec.binom n 0 = 1 := by cases n <;> rfl

theorem binom_succ_succ (n k : Nat) : Spec.binom (n + 1) (k + 1) = Spec.binom n k + Spec.binom n (k + 1) := rfl

theorem binom_zero_lt {w ord : Nat} (h : ord < Spec.binom 0 w) : w = 0 ∧ ord = 0 := by
  cases w with
  | zero => exact ⟨rfl, Nat.lt_one_iff.mp h⟩
  | succ w => exact absurd h (Nat.not_lt_zero _)

theorem binom_le_succ (n k : Nat) : Spec.binom n k ≤ Spec.binom (n + 1) k := by
  cases k with
  | zero => rw [binom_zero_right, binom_zero_right]
  | succ k => exact Nat.le_add_left _ _

/-- the "bit set" branch: the weight is positive and the remaining ordinal fits -/
theorem upper_case (n w ord : Nat) (h : ord < Spec.binom (n + 1) w) (hge : ord ≥ Spec.binom n w) :
    1 ≤ w ∧ ord - Spec.binom n w < Spec.binom n (w - 1) := by
  cases w with
  | zero => rw [binom_zero_right] at h hge; omega
  | succ w =>
    rw [binom_succ_succ] at h
    simp only [Nat.add_sub_cancel]
    omega

theorem unrank_succ_upper (n w ord : Nat) (hge : ord ≥ Spec.binom n w) :
    Spec.unrank (n + 1) w ord = 2 ^ n + Spec.unrank n (w - 1) (ord - Spec.binom n w) := by
  rw [Spec.unrank, if_pos hge]

theorem unrank_succ_lower (n w ord : Nat) (hlt : ord < Spec.binom n w) :
    Spec.unrank (n + 1) w ord = Spec.unrank n w ord := by
  rw [Spec.unrank, if_neg (by omega)]

theorem popcount_congr (n x y : Nat) (h : ∀ i, i < n → x.testBit i = y.testBit i) :
    Spec.popcount n x = Spec.popcount n y := by
  induction n with
  | zero => rfl
  | succ n ih =>
    rw [Spec.popcount, Spec.popcount, h n (by omega), ih (fun i hi => h i (by omega))]

theorem popcount_two_pow_add (n y : Nat) : Spec.popcount n (2 ^ n + y) = Spec.popcount n y :=
  popcount_congr n _ _ fun _ hi => Nat.testBit_two_pow_add_gt hi y

theorem testBit_two_pow_add_lt (n y : Nat) (hy : y < 2 ^ n) : (2 ^ n + y).testBit n = true := by
  rw [Nat.testBit_two_pow_add_eq, Nat.testBit_lt_two_pow hy]; rfl

theorem popcount_succ_upper (n y : Nat) (hy : y < 2 ^ n) :
    Spec.popcount (n + 1) (2 ^ n + y) = 1 + Spec.popcount n y := by
  rw [Spec.popcount, testBit_two_pow_add_lt n y hy, popcount_two_pow_add]; rfl

theorem popcount_succ_lower (n y : Nat) (hy : y < 2 ^ n) :
    Spec.popcount (n + 1) y = Spec.popcount n y := by
  rw [Spec.popcount, Nat.testBit_lt_two_pow hy, if_neg Bool.false_ne_true, Nat.zero_add]

theorem rank_congr (n x y : Nat) (h : ∀ i, i < n → x.testBit i = y.testBit i) :
    Spec.rank n x = Spec.rank n y := by
  induction n with
  | zero => rfl
  | succ n ih =>
    rw [Spec.rank, Spec.rank, h n (by omega), ih (fun i hi => h i (by omega)),
      popcount_congr (n + 1) x y h]

theorem rank_two_pow_add (n y : Nat) : Spec.rank n (2 ^ n + y) = Spec.rank n y :=
  rank_congr n _ _ fun _ hi => Nat.testBit_two_pow_add_gt hi y

theorem rank_succ_upper (n y : Nat) (hy : y < 2 ^ n) :
    Spec.rank (n + 1) (2 ^ n + y) = Spec.binom n (Spec.popcount n y + 1) + Spec.rank n y := by
  rw [Spec.rank, if_pos (testBit_two_pow_add_lt n y hy), popcount_succ_upper n y hy,
    rank_two_pow_add, Nat.add_comm 1]

theorem rank_succ_lower (n y : Nat) (hy : y < 2 ^ n) :
    Spec.rank (n + 1) y = Spec.rank n y := by
  rw [Spec.rank, Nat.testBit_lt_two_pow hy, if_neg Bool.false_ne_true]

theorem unrank_spec (n w ord : Nat) (h : ord < Spec.binom n w) :
    Spec.unrank n w ord < 2 ^ n ∧ Spec.popcount n (Spec.unrank n w ord) = w ∧
      Spec.rank n (Spec.unrank n w ord) = ord := by
  induction n generalizing w ord with
  | zero =>
    obtain ⟨rfl, rfl⟩ := binom_zero_lt h
    exact ⟨Nat.one_pos, rfl, rfl⟩
  | succ n ih =>
    rw [Nat.pow_succ]
    by_cases hge : ord ≥ Spec.binom n w
    · obtain ⟨hw, hlt⟩ := upper_case n w ord h hge
      obtain ⟨h1, h2, h3⟩ := ih _ _ hlt
      rw [unrank_succ_upper n w ord hge, popcount_succ_upper n _ h1, rank_succ_upper n _ h1, h2, h3,
        Nat.sub_add_cancel hw]
      omega
    · have hlt : ord < Spec.binom n w := by omega
      obtain ⟨h1, h2, h3⟩ := ih _ _ hlt
      rw [unrank_succ_lower n w ord hlt, popcount_succ_lower n _ h1, rank_succ_lower n _ h1]
      exact ⟨by omega, h2, h3⟩

theorem unrank_strictMono (n w o1 o2 : Nat) (h12 : o1 < o2) (h2 : o2 < Spec.binom n w) :
    Spec.unrank n w o1 < Spec.unrank n w o2 := by
  induction n generalizing w o1 o2 with
  | zero =>
    obtain ⟨_, rfl⟩ := binom_zero_lt h2
    exact absurd h12 (Nat.not_lt_zero _)
  | succ n ih =>
    by_cases hge2 : o2 ≥ Spec.binom n w
    · obtain ⟨hw, hlt2⟩ := upper_case n w o2 h2 hge2
      rw [unrank_succ_upper n w o2 hge2]
      by_cases hge1 : o1 ≥ Spec.binom n w
      · rw [unrank_succ_upper n w o1 hge1]
        have := ih (w - 1) (o1 - Spec.binom n w) (o2 - Spec.binom n w) (by omega) hlt2
        omega
      · have hlt1 : o1 < Spec.binom n w := by omega
        have := (unrank_spec n w o1 hlt1).1
        rw [unrank_succ_lower n w o1 hlt1]
        omega
    · have hlt2 : o2 < Spec.binom n w := by omega
      rw [unrank_succ_lower n w o2 hlt2, unrank_succ_lower n w o1 (by omega)]
      exact ih w o1 o2 h12 hlt2

example : Spec.unrank 64 3 20 < Spec.unrank 64 3 21 :=
  unrank_strictMono 64 3 20 21 (by decide) (by decide +kernel)

/-- surjectivity onto the weight-w words, through the rank function the judge uses -/
theorem unrank_rank (n x : Nat) (hx : x < 2 ^ n) :
    Spec.rank n x < Spec.binom n (Spec.popcount n x) ∧ Spec.unrank n (Spec.popcount n x) (Spec.rank n x) = x := by
  induction n generalizing x with
  | zero =>
    obtain rfl : x = 0 := Nat.lt_one_iff.mp hx
    exact ⟨Nat.one_pos, rfl⟩
  | succ n ih =>
    rw [Nat.pow_succ] at hx
    by_cases hge : 2 ^ n ≤ x
    · obtain ⟨y, rfl⟩ : ∃ y, x = 2 ^ n + y := ⟨x - 2 ^ n, by omega⟩
      have hy : y < 2 ^ n := by omega
      obtain ⟨ih1, ih2⟩ := ih y hy
      rw [rank_succ_upper n y hy, popcount_succ_upper n y hy, Nat.add_comm 1, binom_succ_succ]
      refine ⟨by omega, ?_⟩
      rw [unrank_succ_upper _ _ _ (by omega)]
      simp only [Nat.add_sub_cancel, Nat.add_sub_cancel_left]
      rw [ih2]
    · have hy : x < 2 ^ n := by omega
      obtain ⟨ih1, ih2⟩ := ih x hy
      rw [rank_succ_lower n x hy, popcount_succ_lower n x hy]
      have := binom_le_succ n (Spec.popcount n x)
      refine ⟨by omega, ?_⟩
      rw [unrank_succ_lower _ _ _ ih1, ih2]

theorem or_two_pow (b result : Nat) (hdvd : 2 ^ (b + 1) ∣ result) :
    result ||| (1 <<< b) = result + 2 ^ b := by
  obtain ⟨q, rfl⟩ := hdvd
  rw [Nat.one_shiftLeft]
  exact (Nat.two_pow_add_eq_or_of_lt (Nat.pow_lt_pow_right (by decide) (Nat.lt_succ_self b)) q).symm

theorem decodeLoop_eq (b ones ord result : Nat) (hb : b ≤ 64) (h : ord < Spec.binom b ones)
    (hdvd : 2 ^ b ∣ result) :
    Enumerative.decodeLoop b ones ord result = some (result + Spec.unrank b ones ord) := by
  induction b generalizing ones ord result with
  | zero => simp [decodeLoop, Spec.unrank]
  | succ b ih =>
    rw [decodeLoop, choose_eq b ones (by omega)]
    simp only
    have hdvd' : 2 ^ b ∣ result := Nat.dvd_trans (Nat.pow_dvd_pow 2 (Nat.le_succ b)) hdvd
    by_cases hge : ord ≥ Spec.binom b ones
    · obtain ⟨hw, hlt⟩ := upper_case b ones ord h hge
      rw [if_pos hge, if_neg (by omega), or_two_pow b result hdvd,
        ih _ _ _ (by omega) hlt ((Nat.dvd_add_right hdvd').mpr (Nat.dvd_refl _)),
        unrank_succ_upper b ones ord hge, Nat.add_assoc]
    · rw [if_neg hge, ih _ _ _ (by omega) (by omega) hdvd', unrank_succ_lower b ones ord (by omega)]

theorem decodeU64_eq (w ord : Nat) (h : ord < Spec.binom 64 w) :
    Enumerative.decodeU64 w ord = some (Spec.unrank 64 w ord) := by
  rw [decodeU64, choose_eq 64 w (by omega)]
  simp only
  rw [if_pos h, decodeLoop_eq 64 w ord 0 (by omega) h (Nat.dvd_zero _), Nat.zero_add]

example : Enumerative.decodeU64 3 21 = some 69 := by decide +kernel
example : Spec.unrank 64 3 21 = 69 ∧ 21 < Spec.binom 64 3 := by decide +kernel

theorem take_eq (w cnt o : Nat) :
    Enumerative.take cnt { weight := w, ordinal := o, max := Spec.binom 64 w } =
      some ((List.range' o (min cnt (Spec.binom 64 w - o))).map (Spec.unrank 64 w)) := by
  induction cnt generalizing o with
  | zero => simp [Enumerative.take]
  | succ cnt ih =>
    rw [Enumerative.take, Enumerative.next]
    simp only
    by_cases hlt : o < Spec.binom 64 w
    · rw [if_pos hlt, decodeU64_eq w o hlt]
      simp only [Option.map_some]
      rw [ih (o + 1)]
      rw [show Spec.binom 64 w - o = Spec.binom 64 w - (o + 1) + 1 by omega, Nat.succ_min_succ, List.range'_succ]
      rfl
    · rw [if_neg hlt]
      have : min (cnt + 1) (Spec.binom 64 w - o) = 0 := by omega
      rw [this]
      rfl

example : (Enumerative.withWeight 2).bind (Enumerative.take 4) = some [3, 5, 6, 9] := by decide +kernel

theorem binom_self_succ (n : Nat) : Spec.binom n (n + 1) = 0 := by
  rw [binom_eq_choose]; exact Nat.choose_eq_zero_of_lt (Nat.lt_succ_self n)

theorem pascalRow_eq (n : Nat) : Spec.pascalRow n = (List.range (n + 1)).map (Spec.binom n) := by
  induction n with
  | zero => rfl
  | succ n ih =>
    -- the row shifted left is `k ↦ binom n (k + 1)`, so the sum is Pascal's rule position by position
    have h0 : (List.range (n + 1)).map (Spec.binom n) ++ [0] = (List.range (n + 2)).map (Spec.binom n) := by
      rw [List.range_succ (n := n + 1), List.map_append, List.map_singleton, binom_self_succ]
    rw [Spec.pascalRow, ih, Spec.nextRow, h0, List.range_succ_eq_map (n := n + 1), List.map_cons, List.map_map,
      List.map_cons, List.map_map, List.zipWith_cons_cons, List.zipWith_map, List.zipWith_self, binom_zero_right,
      binom_zero_right]
    rfl

theorem rankT_eq (t : Array (Array Nat)) (n x : Nat) (ht : ∀ m k, m < n → Spec.binomT t m k = Spec.binom m k) :
    Spec.rankT t n x = Spec.rank n x := by
  induction n with
  | zero => rfl
  | succ n ih =>
    rw [Spec.rankT, Spec.rank, ht n _ (Nat.lt_succ_self n), ih (fun m k hm => ht m k (by omega))]

example : Spec.rankT (Spec.pascalTable 8) 8 0b10110 = Spec.rank 8 0b10110 := by decide +kernel

end Tbx.Proofs.ChooseUnrank
