import Tbx.Model.Hull
import Tbx.Proofs.GeoCross
import Tbx.Proofs.InsertSort
/-
Monotone chain: the sort, the stack invariant (every three consecutive stack entries make a strict turn), the
upper pass is the lower pass run on the reversed order on top of an untouched base, outputs are
input points, degenerate inputs (no strict turn among the input points: `monotoneChain_flat`).
The stack is a list with the top at the head (see Tbx/Model/Hull.lean).
-/
namespace Tbx.Geo

theorem insertLonLat_perm (x : Coord) (l : List Coord) : (insertLonLat x l).Perm (x :: l) :=
  InsertSort.perm_ins insertLonLat (fun _ => rfl) (fun _ _ _ => rfl) x l

theorem sortLonLat_perm (l : List Coord) : (sortLonLat l).Perm l :=
  InsertSort.perm_sort sortLonLat insertLonLat_perm rfl (fun _ _ => rfl) l

theorem mem_sortLonLat {v : Coord} {l : List Coord} : v ∈ sortLonLat l ↔ v ∈ l := (sortLonLat_perm l).mem_iff

theorem length_sortLonLat (l : List Coord) : (sortLonLat l).length = l.length := (sortLonLat_perm l).length_eq

theorem lonLatLe_trans (a b c : Coord) (h1 : lonLatLe a b = true) (h2 : lonLatLe b c = true) : lonLatLe a c = true := by
  simp only [lonLatLe, Bool.or_eq_true, Bool.and_eq_true, decide_eq_true_eq] at *
  omega

theorem lonLatLe_total (a b : Coord) : (lonLatLe a b || lonLatLe b a) = true := by
  simp only [lonLatLe, Bool.or_eq_true, Bool.and_eq_true, decide_eq_true_eq]
  omega

theorem lonLatLe_refl (a : Coord) : lonLatLe a a = true := by
  simp [lonLatLe]

theorem insertLonLat_sorted (x : Coord) (l : List Coord)
    (h : List.Pairwise (fun a b => lonLatLe a b = true) l) :
    List.Pairwise (fun a b => lonLatLe a b = true) (insertLonLat x l) :=
  InsertSort.pairwise_ins insertLonLat (fun _ => rfl) (fun _ _ _ => rfl) x l h (lonLatLe_trans _ _ _)
    fun y _ => ⟨id, (Bool.or_eq_true _ _ ▸ lonLatLe_total x y).resolve_left⟩

theorem sortLonLat_sorted (l : List Coord) : List.Pairwise (fun a b => lonLatLe a b = true) (sortLonLat l) :=
  InsertSort.pairwise_sort sortLonLat insertLonLat_sorted rfl (fun _ _ => rfl) l

theorem popWhile_suffix (m : Nat) (p : Coord) (st : List Coord) : popWhile m p st <:+ st := by
  induction st with
  | nil => exact List.suffix_refl _
  | cons a rest ih =>
    unfold popWhile
    cases rest with
    | nil => exact List.suffix_refl _
    | cons o r =>
      simp only
      split
      · exact List.IsSuffix.trans ih (List.suffix_cons _ _)
      · exact List.suffix_refl _

theorem popWhile_cons2 (m : Nat) (p a o : Coord) (r : List Coord) :
    popWhile m p (a :: o :: r) =
      if m ≤ (o :: r).length + 1 ∧ (!isCW o a p) = true then popWhile m p (o :: r) else a :: o :: r := rfl

/-- stack invariant, top first: for consecutive entries a, o, o' (o' deepest) the turn o' -> o -> a is strict -/
def Turns : List Coord → Prop
  | a :: o :: o' :: rest => isCW o' o a = true ∧ Turns (o :: o' :: rest)
  | _ => True

theorem Turns_tail {a : Coord} {l : List Coord} (h : Turns (a :: l)) : Turns l := by
  match l, h with
  | [], _ => trivial
  | [_], _ => trivial
  | _ :: _ :: _, h => exact h.2

theorem Turns_suffix {l₁ l₂ : List Coord} (hs : l₁ <:+ l₂) (h : Turns l₂) : Turns l₁ := by
  induction l₂ with
  | nil =>
    have : l₁ = [] := List.suffix_nil.mp hs
    subst this; trivial
  | cons a l ih =>
    rcases List.suffix_cons_iff.mp hs with rfl | hs'
    · exact h
    · exact ih hs' (Turns_tail h)

theorem push_turns (p : Coord) : ∀ st : List Coord, Turns st → Turns (p :: popWhile 2 p st)
  | [], _ | [_], _ => trivial
  | a :: o :: r, h => by
    rw [popWhile_cons2]
    split
    · exact push_turns p (o :: r) (Turns_tail h)
    · rename_i hc
      exact ⟨by simpa using hc, h⟩

theorem chain_turns (pts st : List Coord) (h : Turns st) : Turns (chain 2 st pts) := by
  induction pts generalizing st with
  | nil => exact h
  | cons p ps ih =>
    simp only [chain, List.foldl_cons]
    exact ih _ (push_turns p st h)

theorem popWhile_of_length_lt (m : Nat) (p : Coord) : ∀ st : List Coord, st.length < m → popWhile m p st = st
  | [], _ => rfl
  | [_], _ => rfl
  | a :: o :: r, h => by
    rw [popWhile_cons2, if_neg fun hc => Nat.not_le.mpr h hc.1]

theorem popWhile_base (p : Coord) (base u : List Coord) :
    popWhile (2 + base.length) p (u ++ base) = popWhile 2 p u ++ base := by
  induction u with
  | nil => exact popWhile_of_length_lt _ p base (Nat.lt_add_of_pos_left Nat.zero_lt_two)
  | cons a u' ih =>
    cases u' with
    | nil => exact popWhile_of_length_lt _ p (a :: base) (by simp only [List.length_cons]; omega)
    | cons o u'' =>
      show popWhile (2 + base.length) p (a :: o :: (u'' ++ base)) = popWhile 2 p (a :: o :: u'') ++ base
      rw [popWhile_cons2, popWhile_cons2]
      have h1 : 2 + base.length ≤ (o :: (u'' ++ base)).length + 1 := by
        simp only [List.length_cons, List.length_append]; omega
      have h2 : 2 ≤ (o :: u'').length + 1 := Nat.succ_le_succ (Nat.succ_le_succ (Nat.zero_le _))
      simp only [h1, h2, true_and]
      split
      · exact ih
      · rfl

theorem chain_base (base pts u : List Coord) :
    chain (2 + base.length) (u ++ base) pts = chain 2 u pts ++ base := by
  induction pts generalizing u with
  | nil => rfl
  | cons p ps ih =>
    simp only [chain, List.foldl_cons]
    rw [popWhile_base]
    exact ih (p :: popWhile 2 p u)

theorem chain_ne_nil (m : Nat) (st : List Coord) {pts : List Coord} (h : pts ≠ []) : chain m st pts ≠ [] := by
  induction pts generalizing st with
  | nil => exact absurd rfl h
  | cons p ps ih =>
    cases ps with
    | nil => exact List.cons_ne_nil _ _
    | cons q qs => exact ih (p :: popWhile m p st) (List.cons_ne_nil _ _)

theorem popWhile_getLast? (m : Nat) (p : Coord) (st : List Coord) : (popWhile m p st).getLast? = st.getLast? := by
  induction st with
  | nil => rfl
  | cons a rest ih =>
    cases rest with
    | nil => rfl
    | cons o r =>
      rw [popWhile_cons2]
      split
      · rw [ih, List.getLast?_cons_cons]
      · rfl

theorem chain_getLast? (m : Nat) {a : Coord} (pts st : List Coord) (h : st.getLast? = some a) :
    (chain m st pts).getLast? = some a := by
  induction pts generalizing st with
  | nil => exact h
  | cons p ps ih => exact ih _ (by rw [List.getLast?_cons, popWhile_getLast?, h]; rfl)

theorem lowerStack_cons_reverse (p : Coord) (done : List Coord) :
    lowerStack (p :: done).reverse = p :: popWhile 2 p (lowerStack done.reverse) := by
  simp [lowerStack, chain]

theorem lowerStack_ends (a b : Coord) (mid : List Coord) : ∃ r, lowerStack (a :: (mid ++ [b])) = b :: (r ++ [a]) := by
  have h : (popWhile 2 b (chain 2 [a] mid)).getLast? = some a :=
    (popWhile_getLast? _ _ _).trans (chain_getLast? 2 mid [a] rfl)
  obtain ⟨r, hr⟩ := List.getLast?_eq_some_iff.mp h
  exact ⟨r, by rw [← hr]; simp [lowerStack, chain, popWhile]⟩

theorem exists_ends : ∀ {l : List Coord}, 2 ≤ l.length → ∃ a mid b, l = a :: (mid ++ [b])
  | a :: c :: cs, _ => ⟨a, _, _, by rw [List.dropLast_concat_getLast (List.cons_ne_nil c cs)]⟩

theorem pairwise_ends {R : Coord → Coord → Prop} (hr : ∀ a, R a a) {a b : Coord} {mid : List Coord}
    (h : List.Pairwise R (a :: (mid ++ [b]))) {q : Coord} (hq : q ∈ a :: (mid ++ [b])) : R a q ∧ R q b := by
  constructor
  · rcases List.mem_cons.mp hq with rfl | hq
    · exact hr _
    · exact (List.pairwise_cons.mp h).1 q hq
  · rw [← List.cons_append] at h hq
    rcases List.mem_append.mp hq with hq | hq
    · exact (List.pairwise_append.mp h).2.2 q hq b (List.mem_singleton_self b)
    · exact List.mem_singleton.mp hq ▸ hr _

theorem monotoneChain_eq (pts : List Coord) (h : 3 < pts.length) :
    monotoneChain pts =
      (lowerStack (sortLonLat pts)).reverse.dropLast ++ (lowerStack (sortLonLat pts).reverse).reverse.dropLast := by
  unfold monotoneChain
  have hn : ¬ pts.length ≤ 3 := by omega
  simp only [hn, if_false]
  have := chain_base (lowerStack (sortLonLat pts)).tail (sortLonLat pts).reverse []
  rw [List.nil_append] at this
  rw [this]
  have hne : chain 2 [] (sortLonLat pts).reverse ≠ [] :=
    chain_ne_nil 2 [] fun h0 => by
      have h1 := congrArg List.length h0
      rw [List.length_reverse, length_sortLonLat] at h1
      exact absurd (h1 ▸ h) (Nat.not_lt_zero _)
  rw [List.tail_append_of_ne_nil hne, List.reverse_append, List.dropLast_reverse, List.dropLast_reverse]
  rfl

theorem chain_mem (m : Nat) (pts st : List Coord) : ∀ v ∈ chain m st pts, v ∈ st ∨ v ∈ pts := by
  induction pts generalizing st with
  | nil => intro v hv; exact Or.inl hv
  | cons p ps ih =>
    intro v hv
    simp only [chain, List.foldl_cons] at hv
    rcases ih (p :: popWhile m p st) v hv with h | h
    · rcases List.mem_cons.mp h with rfl | h
      · exact Or.inr List.mem_cons_self
      · exact Or.inl (List.IsSuffix.mem h (popWhile_suffix m p st))
    · exact Or.inr (List.mem_cons_of_mem _ h)

theorem monotoneChain_subset (pts : List Coord) : ∀ v ∈ monotoneChain pts, v ∈ pts := by
  intro v hv
  unfold monotoneChain at hv
  split at hv
  · exact hv
  · simp only [List.mem_reverse] at hv
    have hv := List.mem_of_mem_tail hv
    rcases chain_mem _ _ _ v hv with h | h
    · have h := List.mem_of_mem_tail h
      rcases chain_mem _ _ _ v h with h | h
      · cases h
      · exact mem_sortLonLat.mp h
    · exact mem_sortLonLat.mp (List.mem_reverse.mp h)

def ConsecTurns (l : List Coord) : Prop := ∀ x y z, [x, y, z] <:+: l → 0 < cross x y z

theorem Turns_infix {st : List Coord} (h : Turns st) {a o o' : Coord} (hi : [a, o, o'] <:+: st) :
    isCW o' o a = true := by
  obtain ⟨_, ⟨_, rfl⟩, hs⟩ := List.infix_iff_prefix_suffix.mp hi
  exact (Turns_suffix hs h).1

theorem consecTurns_of_Turns {st : List Coord} (h : Turns st) : ConsecTurns st.reverse := by
  intro x y z hi
  have : [z, y, x] <:+: st := by
    have := List.reverse_infix.mpr hi
    simpa using this
  exact (isCW_iff x y z).mp (Turns_infix h this)

theorem lowerStack_consecTurns (cs : List Coord) : ConsecTurns (lowerStack cs).reverse :=
  consecTurns_of_Turns (chain_turns cs [] trivial)

theorem Turns.length_le_two {pts : List Coord} (hflat : ∀ o ∈ pts, ∀ a ∈ pts, ∀ p ∈ pts, cross o a p = 0) :
    ∀ {st : List Coord}, Turns st → (∀ v ∈ st, v ∈ pts) → st.length ≤ 2
  | [], _, _ | [_], _, _ | [_, _], _, _ => by simp
  | a :: o :: o' :: _, h, hm => by
    have := (isCW_iff o' o a).mp h.1
    rw [hflat o' (hm _ (by simp)) o (hm _ (by simp)) a (hm _ (by simp))] at this
    exact absurd this (Int.lt_irrefl 0)

theorem lowerStack_flat {pts : List Coord} (hflat : ∀ o ∈ pts, ∀ a ∈ pts, ∀ p ∈ pts, cross o a p = 0)
    (a b : Coord) (mid : List Coord) (hm : ∀ v ∈ a :: (mid ++ [b]), v ∈ pts) : lowerStack (a :: (mid ++ [b])) = [b, a] := by
  obtain ⟨r, hr⟩ := lowerStack_ends a b mid
  have : (lowerStack (a :: (mid ++ [b]))).length ≤ 2 :=
    Turns.length_le_two hflat (chain_turns _ [] trivial) fun v hv =>
      hm v ((chain_mem 2 _ [] v hv).resolve_left List.not_mem_nil)
  rw [hr] at this ⊢
  cases r with
  | nil => rfl
  | cons _ _ => simp at this

theorem monotoneChain_flat (pts : List Coord) (hn : 3 < pts.length)
    (hflat : ∀ o ∈ pts, ∀ a ∈ pts, ∀ p ∈ pts, cross o a p = 0) :
    ∃ lo hi, monotoneChain pts = [lo, hi] ∧ lo ∈ pts ∧ hi ∈ pts ∧
      (sortLonLat pts).head? = some lo ∧ (sortLonLat pts).getLast? = some hi ∧
      (∀ q ∈ pts, lonLatLe lo q = true ∧ lonLatLe q hi = true) ∧
      ((∀ q ∈ pts, ∀ q' ∈ pts, q = q') → lo = hi) := by
  obtain ⟨lo, mid, hi, hS⟩ := exists_ends (l := sortLonLat pts) (by rw [length_sortLonLat]; omega)
  have hm : ∀ v ∈ lo :: (mid ++ [hi]), v ∈ pts := fun v hv => mem_sortLonLat.mp (hS ▸ hv)
  have hlo := hm lo List.mem_cons_self
  have hhi := hm hi (by simp)
  have hrev : (lo :: (mid ++ [hi])).reverse = hi :: (mid.reverse ++ [lo]) := by simp
  refine ⟨lo, hi, ?_, hlo, hhi, by rw [hS]; rfl, by rw [hS, ← List.cons_append, List.getLast?_concat],
    fun q hq => pairwise_ends lonLatLe_refl (hS ▸ sortLonLat_sorted pts) (hS ▸ mem_sortLonLat.mpr hq),
    fun h => h lo hlo hi hhi⟩
  -- both passes end with the two extreme points only
  rw [monotoneChain_eq pts hn, hS, lowerStack_flat hflat lo hi mid hm, hrev,
    lowerStack_flat hflat hi lo mid.reverse fun v hv => hm v (List.mem_reverse.mp (hrev ▸ hv))]
  rfl

end Tbx.Geo
