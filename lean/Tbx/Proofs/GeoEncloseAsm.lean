import Tbx.Proofs.GeoEnclose
/-
Assembly of the enclosure theorem.  The point reflection `neg` (GeoPlane) keeps every orientation test and turns
the (lon, lat) order round, and the loop commutes with it (`chain_neg`), so the upper pass is the lower pass of the
reflected input and satisfies the pass invariant there (`upperStack_inv`, one application of `lowerStack_inv`).
`chains_shape` puts the two stacks, with their ends (`lowerStack_ends`), and the output side by side; the output
polygon's cyclic edges are the consecutive pairs of the two stacks, reversed (`mem_edges_output`).
-/
namespace Tbx.Geo

theorem popWhile_neg (m : Nat) (p : Coord) (st : List Coord) :
    popWhile m (neg p) (st.map neg) = (popWhile m p st).map neg := by
  induction st with
  | nil => rfl
  | cons a rest ih =>
    cases rest with
    | nil => rfl
    | cons o r =>
      simp only [List.map_cons] at ih ⊢
      rw [popWhile_cons2, popWhile_cons2, isCW_neg]
      simp only [List.length_cons, List.length_map]
      split
      · exact ih
      · rfl

theorem chain_neg (m : Nat) (pts st : List Coord) :
    chain m (st.map neg) (pts.map neg) = (chain m st pts).map neg := by
  induction pts generalizing st with
  | nil => rfl
  | cons p ps ih =>
    simp only [chain, List.map_cons, List.foldl_cons]
    rw [popWhile_neg]
    exact ih (p :: popWhile m p st)

theorem lowerStack_neg (l : List Coord) : lowerStack (l.map neg) = (lowerStack l).map neg := by
  have := chain_neg 2 l []
  simpa [lowerStack] using this

theorem mem_pairs_map_neg {l : List Coord} {e : Coord × Coord} (h : e ∈ pairs l) :
    (neg e.1, neg e.2) ∈ pairs (l.map neg) :=
  mem_pairs_iff.mpr ((mem_pairs_iff.mp h).map neg)

theorem mem_map_neg {q : Coord} {l : List Coord} : neg q ∈ l.map neg ↔ q ∈ l := by
  constructor
  · intro h
    obtain ⟨z, hz, e⟩ := List.mem_map.mp h
    rw [← neg_neg q, ← e, neg_neg]; exact hz
  · exact fun h => List.mem_map.mpr ⟨q, h, rfl⟩

theorem Sup.of_map_neg {P st : List Coord} (h : Sup (P.map neg) (st.map neg)) : Sup P st := by
  intro e he q hq
  have := h _ (mem_pairs_map_neg he) (neg q) (mem_map_neg.mpr hq)
  rwa [cross_neg] at this

theorem pairs_append_cons (xs : List Coord) (y : Coord) (ys : List Coord) :
    pairs (xs ++ y :: ys) = pairs (xs ++ [y]) ++ pairs (y :: ys) := by
  induction xs with
  | nil => rfl
  | cons a t ih =>
    cases t with
    | nil => rfl
    | cons b t' => exact congrArg ((a, b) :: ·) ih

theorem edges_eq_pairs (a : Coord) (t : List Coord) : edges (a :: t) = pairs (a :: t ++ [a]) := by
  -- the first element varies along the list, the closing one stays
  suffices h : ∀ (t : List Coord) (x : Coord), (x :: t).zip (t ++ [a]) = pairs (x :: t ++ [a]) from h t a
  intro t
  induction t with
  | nil => intro x; rfl
  | cons c t' ih =>
    intro x
    simp only [List.cons_append, List.zip_cons_cons]
    rw [pairs_cons2, ih c]
    rfl

theorem mem_pairs_reverse {l : List Coord} {e : Coord × Coord} (h : e ∈ pairs l.reverse) : (e.2, e.1) ∈ pairs l :=
  mem_pairs_iff.mpr (List.reverse_infix.mp (by simpa using mem_pairs_iff.mp h))

theorem dropLast_cons_concat (a : Coord) (l : List Coord) (b : Coord) : (a :: (l ++ [b])).dropLast = a :: l := by
  rw [← List.cons_append, List.dropLast_concat]

theorem upperStack_inv {l : List Coord} (hsorted : List.Pairwise LexLe l) {x : Coord} {r : List Coord}
    (h : lowerStack l.reverse = x :: r) : Inv (l.map neg) (neg x) (r.map neg) :=
  lowerStack_inv (List.pairwise_map.mpr (hsorted.imp LexLe_neg.mpr))
    (by rw [← List.map_reverse, lowerStack_neg, h]; rfl)

/-- `x :: r0 ++ [c0]` is the lower stack (top first: maximum … minimum), `c0 :: s0 ++ [x]` the upper one -/
theorem chains_shape (pts : List Coord) (hn : 3 < pts.length) :
    ∃ (c0 x : Coord) (r0 s0 : List Coord),
      monotoneChain pts = (c0 :: r0.reverse) ++ (x :: s0.reverse) ∧
      Inv (sortLonLat pts).reverse x (r0 ++ [c0]) ∧
      Inv ((sortLonLat pts).map neg) (neg c0) ((s0 ++ [x]).map neg) := by
  obtain ⟨c0, mid, x, hS⟩ := exists_ends (l := sortLonLat pts) (by rw [length_sortLonLat]; omega)
  have hsorted : List.Pairwise LexLe (sortLonLat pts) := (sortLonLat_sorted pts).imp fun h => (lexLe_iff _ _).mp h
  have hrev : (sortLonLat pts).reverse = x :: (mid.reverse ++ [c0]) := by rw [hS]; simp
  obtain ⟨r0, eL⟩ := lowerStack_ends c0 x mid
  obtain ⟨s0, eU⟩ := lowerStack_ends x c0 mid.reverse
  rw [← hS] at eL
  rw [← hrev] at eU
  refine ⟨c0, x, r0, s0, ?_, lowerStack_inv (List.pairwise_reverse.mpr hsorted) (by rwa [List.reverse_reverse]),
    upperStack_inv hsorted eU⟩
  rw [monotoneChain_eq pts hn, eL, eU]
  simp [dropLast_cons_concat]

theorem mem_edges_output {c0 x : Coord} {r0 s0 : List Coord} {e : Coord × Coord}
    (he : e ∈ edges ((c0 :: r0.reverse) ++ (x :: s0.reverse))) :
    (e.2, e.1) ∈ pairs (x :: (r0 ++ [c0])) ∨ (e.2, e.1) ∈ pairs (c0 :: (s0 ++ [x])) := by
  rw [List.cons_append, edges_eq_pairs] at he
  have hsplit : c0 :: (r0.reverse ++ x :: s0.reverse) ++ [c0] =
      (c0 :: r0.reverse) ++ x :: (s0.reverse ++ [c0]) := by simp
  have hL : (c0 :: r0.reverse) ++ [x] = (x :: (r0 ++ [c0])).reverse := by simp
  have hU : x :: (s0.reverse ++ [c0]) = (c0 :: (s0 ++ [x])).reverse := by simp
  rw [hsplit, pairs_append_cons, hL, hU] at he
  exact (List.mem_append.mp he).imp mem_pairs_reverse mem_pairs_reverse

theorem monotoneChain_encloses (pts : List Coord) (hn : 3 < pts.length) :
    Encloses 1 (monotoneChain pts) pts := by
  obtain ⟨c0, x, r0, s0, eH, invL, invU⟩ := chains_shape pts hn
  intro e he p hp
  have hp' : p ∈ sortLonLat pts := mem_sortLonLat.mpr hp
  rw [Int.one_mul]
  rcases mem_edges_output (eH ▸ he) with h | h
  · exact invL.sup _ h p (List.mem_reverse.mpr hp')
  · exact Sup.of_map_neg (st := c0 :: (s0 ++ [x])) invU.sup _ h p hp'

end Tbx.Geo
