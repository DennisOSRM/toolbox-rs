import Tbx.Proofs.RTreeLevels
import Tbx.Proofs.RTreeWeight
/-
C12: the tree `bulkLoad` builds has a cover function whose value at the root is the whole sorted element list
and a weight function whose value at the root is (number of search nodes) + (number of elements).  Both are
read off the finished level structure `Levels`: a table filled bottom-up satisfies the node equations of any
array whose children precede their parents (`exists_attr`), and along the levels the covers concatenate to the
element list, the weights add up to the nodes so far plus the elements (induction on the level).  Core Lean only.
-/
namespace Tbx.RTree

theorem flatMap_chunks {β : Type} {B : Nat} (hB : 0 < B) (f : Nat → List β) (w : Nat) :
    (List.range (ceilDiv w B)).flatMap (fun j => (List.range (min B (w - B * j))).flatMap fun m => f (B * j + m)) =
      (List.range w).flatMap f := by
  have h := congrArg (List.flatMap f) (flatMap_chunk (List.range w) B (ceilDiv w B))
  rw [List.take_of_length_le (List.length_range ▸ le_mul_ceilDiv hB w), List.flatMap_assoc] at h
  rw [← h]
  exact flatMap_congr' fun j _ => by rw [chunk_range, List.flatMap_map]

theorem flatMap_getD_range {β : Type} (l : List (List β)) :
    (List.range l.length).flatMap (fun m => l[m]?.getD []) = l.flatten := by
  induction l with
  | nil => rfl
  | cons a l ih =>
    rw [List.length_cons, List.range_succ_eq_map, List.flatMap_cons, List.flatMap_map]
    simp only [List.getElem?_cons_zero, Option.getD_some, List.getElem?_cons_succ, List.flatten_cons]
    rw [ih]

/-- `flatMap_chunks` for lists of units -/
theorem sum_chunks {B : Nat} (hB : 0 < B) (f : Nat → Nat) (w : Nat) :
    sumRange (ceilDiv w B) (fun j => sumRange (min B (w - B * j)) fun m => f (B * j + m)) = sumRange w f := by
  have := congrArg List.length (flatMap_chunks hB (fun i => List.replicate (f i) ()) w)
  simp only [List.length_flatMap, List.length_replicate] at this
  exact this

/-- a table filled bottom-up: entry `i` is computed by `E` from the entries before it -/
def tab {β : Type} (E : (Nat → β) → Nat → β) (d : β) : Nat → Nat → β
  | 0, _ => d
  | n + 1, i => if i < n then tab E d n i else E (tab E d n) i

theorem tab_eq {β : Type} {E : (Nat → β) → Nat → β} (d : β)
    (hE : ∀ i f g, (∀ m, m < i → f m = g m) → E f i = E g i) :
    ∀ n i, i < n → tab E d n i = E (tab E d n) i
  | n + 1, i, hi => by
    have h1 : tab E d (n + 1) i = E (tab E d n) i := by
      rcases Nat.lt_or_eq_of_le (Nat.le_of_lt_succ hi) with h | h
      · exact (if_pos h).trans (tab_eq d hE n i h)
      · exact if_neg (by omega)
    exact h1.trans (hE i _ _ fun m hm => (if_pos (show m < n by omega)).symm)

section
variable {α : Type} {B : Nat} {t : Tree α}

/-- `IsCover.eq` and `IsWeight` are node equations `f i = v f (entry of node i)`; they can be solved when `v f e`
looks at `f` on the children of `e` only -/
theorem exists_attr {β : Type} (v : (Nat → β) → Entry → β) (d : β)
    (hl : ∀ f g c, v f ⟨0, c, .leaf⟩ = v g ⟨0, c, .leaf⟩)
    (ht : ∀ f g c, (∀ m, m < childrenCount B t.ends c → f (c + m) = g (c + m)) →
      v f ⟨0, c, .tree⟩ = v g ⟨0, c, .tree⟩)
    (hb : ∀ (i : Nat) (nd : SNode), t.nodes[i]? = some nd → nd.kind ≠ 0 →
      nd.first + childrenCount B t.ends nd.first ≤ i) :
    ∃ f : Nat → β, ∀ (i : Nat) (nd : SNode), t.nodes[i]? = some nd →
      f i = v f ⟨0, nd.first, if nd.kind = 0 then .leaf else .tree⟩ := by
  let E : (Nat → β) → Nat → β := fun f i =>
    match t.nodes[i]? with
    | some nd => v f ⟨0, nd.first, if nd.kind = 0 then .leaf else .tree⟩
    | none => d
  refine ⟨tab E d t.nodes.length, fun i nd h => ?_⟩
  have := tab_eq d (E := E) (fun i f g hfg => ?_) t.nodes.length i (List.getElem?_eq_some_iff.mp h).1
  · rw [this]; simp only [E, h]
  · simp only [E]
    cases h : t.nodes[i]? with
    | none => rfl
    | some nd =>
      by_cases h0 : nd.kind = 0
      · simp only [if_pos h0]; exact hl f g _
      · simp only [if_neg h0]
        exact ht f g nd.first fun m hm => hfg _ (by have := hb i nd h h0; omega)

theorem exists_cover (hb : ∀ (i : Nat) (nd : SNode), t.nodes[i]? = some nd → nd.kind ≠ 0 →
      nd.first + childrenCount B t.ends nd.first ≤ i) : ∃ cov, IsCover B t cov :=
  have ⟨cov, h⟩ := exists_attr (coverE B t) [] (fun _ _ _ => rfl)
    (fun _ _ _ h => flatMap_congr' fun m hm => h m (List.mem_range.mp hm)) hb
  ⟨cov, h, hb⟩

theorem exists_weight (hb : ∀ (i : Nat) (nd : SNode), t.nodes[i]? = some nd → nd.kind ≠ 0 →
      nd.first + childrenCount B t.ends nd.first ≤ i) : ∃ W, IsWeight B t W :=
  exists_attr (wE B t) 0 (fun _ _ _ => rfl) (fun _ _ _ h => congrArg (1 + ·) (sumRange_congr h)) hb

end

section
variable {α : Type} {B : Nat} {leaves : List (List α)} {nodes : List SNode} {ends : List Nat}

theorem level_of_lt {i : Nat} : ∀ K, i < lend ends K →
    i < lend ends 0 ∨ ∃ k, k < K ∧ lend ends k ≤ i ∧ i < lend ends (k + 1)
  | 0, h => Or.inl h
  | K + 1, h => by
    rcases Nat.lt_or_ge i (lend ends K) with h' | h'
    · rcases level_of_lt K h' with h0 | ⟨k, hk, h1⟩
      · exact Or.inl h0
      · exact Or.inr ⟨k, Nat.lt_succ_of_lt hk, h1⟩
    · exact Or.inr ⟨K, Nat.lt_succ_self K, h', h⟩

theorem Levels.node_cases {nl : Nat} (h : Levels B nl nodes ends) {i : Nat} {nd : SNode} (hi : nodes[i]? = some nd) :
    (i < lend ends 0 ∧ nd = ⟨0, B * i⟩) ∨ ∃ k j, k + 1 < ends.length ∧ j < lwidth ends (k + 1) ∧
      i = lend ends k + j ∧ nd = ⟨1, lstart ends k + B * j⟩ := by
  have hlt := (List.getElem?_eq_some_iff.mp hi).1
  rw [h.size] at hlt
  rcases level_of_lt _ hlt with h0 | ⟨k, hk, h1, h2⟩
  · exact Or.inl ⟨h0, Option.some.inj (hi.symm.trans (h.groups i h0))⟩
  · have hk' : k + 1 < ends.length := by omega
    have hj : i - lend ends k < lwidth ends (k + 1) := Nat.sub_lt_sub_right h1 h2
    refine Or.inr ⟨k, i - lend ends k, hk', hj, (Nat.add_sub_cancel' h1).symm, ?_⟩
    have := h.inner k hk' _ hj
    rw [Nat.add_sub_cancel' h1] at this
    exact Option.some.inj (hi.symm.trans this)

theorem Levels.bound {nl : Nat} (hB : 0 < B) (h : Levels B nl nodes ends) (i : Nat) (nd : SNode)
    (hi : nodes[i]? = some nd) (h0 : nd.kind ≠ 0) : nd.first + childrenCount B ends nd.first ≤ i := by
  rcases h.node_cases hi with ⟨_, rfl⟩ | ⟨k, j, hk, hj, rfl, rfl⟩
  · exact absurd rfl h0
  · exact Nat.le_trans (childrenCount_levels hB h k hk j hj).2 (Nat.le_add_right _ _)

theorem groups_flatten (hB : 0 < B) (t : Tree α) : (List.range (ceilDiv t.leaves.length B)).flatMap
    (fun j => leafRange t (B * j) (min (B * j + B) t.leaves.length - B * j)) = t.leaves.flatten := by
  rw [← flatMap_getD_range, ← flatMap_chunks hB (fun m => t.leaves[m]?.getD [])]
  exact flatMap_congr' fun j _ => by rw [← min_sub_left]; rfl

theorem Levels.cover_level {cov : Nat → List α} (hB : 0 < B) (h : Levels B leaves.length nodes ends)
    (hc : IsCover B ⟨leaves, nodes, ends⟩ cov) : ∀ k, k < ends.length →
    (List.range (lwidth ends k)).flatMap (fun j => cov (lstart ends k + j)) = leaves.flatten
  | 0, _ => by
    rw [← groups_flatten hB ⟨leaves, nodes, ends⟩, ← h.lvl0]
    refine flatMap_congr' fun j hj => ?_
    show cov (0 + j) = _
    rw [Nat.zero_add, hc.eq j _ (h.groups j (List.mem_range.mp hj))]; rfl
  | k + 1, hk => by
    rw [← cover_level hB h hc k (Nat.lt_of_succ_lt hk), ← flatMap_chunks hB (fun i => cov (lstart ends k + i)),
      ← h.width_succ k hk]
    refine flatMap_congr' fun j hj => ?_
    have hj := List.mem_range.mp hj
    show cov (lend ends k + j) = _
    rw [hc.eq _ _ (h.inner k hk j hj)]
    show (List.range (childrenCount B ends (lstart ends k + B * j))).flatMap _ = _
    rw [(childrenCount_levels hB h k hk j hj).1, Nat.mul_succ, ← min_sub_left]
    exact flatMap_congr' fun m _ => by rw [Nat.add_assoc]

theorem Levels.weight_level {W : Nat → Nat} (hB : 0 < B) (h : Levels B leaves.length nodes ends)
    (hw : IsWeight B ⟨leaves, nodes, ends⟩ W) : ∀ k, k < ends.length →
    sumRange (lwidth ends k) (fun j => W (lstart ends k + j)) = lend ends k + leaves.flatten.length
  | 0, _ => by
    rw [← groups_flatten hB ⟨leaves, nodes, ends⟩, List.length_flatMap, ← h.lvl0]
    show _ = lwidth ends 0 + sumRange (lwidth ends 0) _
    rw [← sumRange_const_add]
    refine sumRange_congr fun j hj => ?_
    show W (0 + j) = _
    rw [Nat.zero_add, hw j _ (h.groups j hj)]; rfl
  | k + 1, hk => by
    have hk' := Nat.lt_of_succ_lt hk
    have : lend ends (k + 1) = lwidth ends (k + 1) + lend ends k := (Nat.sub_add_cancel (h.mono (k + 1) hk)).symm
    rw [this, Nat.add_assoc, ← weight_level hB h hw k hk', ← sum_chunks hB (fun i => W (lstart ends k + i)),
      ← h.width_succ k hk, ← sumRange_const_add]
    refine sumRange_congr fun j hj => ?_
    show W (lend ends k + j) = _
    rw [hw _ _ (h.inner k hk j hj)]
    show 1 + sumRange (childrenCount B ends (lstart ends k + B * j)) _ = _
    rw [(childrenCount_levels hB h k hk j hj).1, Nat.mul_succ, ← min_sub_left]
    exact congrArg (1 + ·) (sumRange_congr fun m _ => by rw [Nat.add_assoc])

theorem Levels.top_cases {nl : Nat} (hB : 0 < B) (h : Levels B nl nodes ends)
    (htop : lwidth ends (ends.length - 1) ≤ 1) :
    nodes.length = 0 ∨ (lwidth ends (ends.length - 1) = 1 ∧ nodes.length = lstart ends (ends.length - 1) + 1) := by
  have hK : ends.length - 1 < ends.length := Nat.sub_lt h.nonempty Nat.one_pos
  have hs := h.size
  rcases Nat.eq_zero_or_pos (lwidth ends (ends.length - 1)) with hp | hp
  · left
    cases hlen : ends.length - 1 with
    | zero => rw [hlen] at hp hs; exact hs.trans hp
    | succ k =>
      rw [hlen] at hp hK
      have := ceilDiv_pos hB (Nat.lt_of_lt_of_le Nat.zero_lt_two (h.step k hK).1)
      rw [← h.width_succ k hK, hp] at this
      exact absurd this (Nat.lt_irrefl 0)
  · have h1 := Nat.le_antisymm htop hp
    refine Or.inr ⟨h1, ?_⟩
    exact hs.trans ((Nat.add_sub_cancel' (h.mono _ hK)).symm.trans (congrArg (lstart ends (ends.length - 1) + ·) h1))

end

section
variable {α : Type}

/-- what `bulkLoad_spec` says of the weight function `W` of the finished tree, `[start, end_)` being its top level -/
structure WeightInv (B : Nat) (leaves : List (List α)) (start end_ : Nat) (nodes : List SNode) (ends : List Nat)
    (W : Nat → Nat) : Prop where
  weight : IsWeight B ⟨leaves, nodes, ends⟩ W
  top : sumRange (end_ - start) (fun i => W (start + i)) = nodes.length + leaves.flatten.length

theorem bulkLoad_spec {B L : Nat} (hB : 2 ≤ B) (hL : 1 ≤ L) (es : List α) :
    ∃ t cov W, bulkLoad B L es = some t ∧ IsCover B t cov ∧ rootCover t cov = es ∧
      WeightInv B t.leaves (lstart t.ends (t.ends.length - 1)) (lend t.ends (t.ends.length - 1)) t.nodes t.ends W ∧
      rootWeight t W ≤ t.nodes.length + es.length := by
  have hB0 : 0 < B := Nat.lt_of_lt_of_le Nat.zero_lt_two hB
  obtain ⟨s, hs, hnl, hlev, htop⟩ := bulkShape_spec hB hL es.length
  rw [hnl, ← leaves_length L es] at hlev
  obtain ⟨cov, hc⟩ := exists_cover (t := ⟨leavesOf L es, s.nodes, s.ends⟩) (hlev.bound hB0)
  obtain ⟨W, hw⟩ := exists_weight (t := ⟨leavesOf L es, s.nodes, s.ends⟩) (hlev.bound hB0)
  have hK : s.ends.length - 1 < s.ends.length := Nat.sub_lt hlev.nonempty Nat.one_pos
  have hcl := hlev.cover_level hB0 hc _ hK
  have hwl := hlev.weight_level hB0 hw _ hK
  rw [leaves_flatten hL es] at hcl hwl
  rw [← hlev.size] at hwl
  have hz : lwidth s.ends (s.ends.length - 1) ≤ s.nodes.length := hlev.size ▸ Nat.sub_le _ _
  refine ⟨_, cov, W, by rw [bulkLoad, hs]; rfl, hc, ?_, ⟨hw, by rw [leaves_flatten hL es]; exact hwl⟩, ?_⟩
  · show (match s.nodes.length with | 0 => [] | m + 1 => cov m) = es
    rcases hlev.top_cases hB0 htop with h0 | ⟨h1, h2⟩
    · rw [h0] at hz ⊢; rw [← hcl, Nat.le_zero.mp hz]; rfl
    · rw [h2, ← hcl, h1]; exact (List.append_nil _).symm
  · show (match s.nodes.length with | 0 => 0 | m + 1 => W m) ≤ _
    rcases hlev.top_cases hB0 htop with h0 | ⟨h1, h2⟩
    · rw [h0]; exact Nat.zero_le _
    · rw [← hwl, h1, h2]; exact Nat.le_refl _

end
end Tbx.RTree
