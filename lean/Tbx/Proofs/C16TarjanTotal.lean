import Tbx.Proofs.C16TarjanExact
/-
Tarjan (`Model/Tarjan.lean`): the loops.  `step_inv` is the one case analysis of an iteration of a root's `loop`:
it keeps `TX`, lowers `mu`, and reaches a panic branch only if the graph is not well-formed, so that on a
well-formed graph the fuel passed to each root's `loop` suffices.  It is stated for `dfsLoop g (f + 1)` and any
property of the result, given that property of what the loop returns with fuel `f` from the next state; the
induction over the fuel (`dfsLoop_spec`) only has to supply that.
-/
namespace Tbx.Tarjan
open Tbx Tbx.Csr Tbx.Comp
open Tbx.Scc (Looked)

/-- One iteration of a root's `loop`, as a rule for any property `Q` of what the loop returns: a panic branch is
    reached only if the graph is not well-formed, the loop goes on from a state that satisfies `TX` with a smaller
    `mu`, or it ends (`break`) between two roots; visited nodes stay visited. -/
theorem step_inv {g : Graph} (hn : numNodes g < maxU) {r : Run} {last : Nat} {tl : List Nat}
    (hx : TX g (view r) (nb r) last tl) (f : Nat) {Q : Option Run → Prop} (hpanic : ¬ WF g → Q none)
    (hnext : ∀ r' l' tl', (∀ v, (view r).I v ≠ maxU → (view r').I v ≠ maxU) → TX g (view r') (nb r') l' tl' →
      mu g r' tl' < mu g r tl → Q (dfsLoop g f r' l'))
    (hbreak : ∀ r', (∀ v, (view r).I v ≠ maxU → (view r').I v ≠ maxU) → Between g (view r') → Q (some r')) :
    Q (dfsLoop g (f + 1) r last) := by
  have hs := hx.ts
  have hlin : InStack r.stack last := hx.last_in
  obtain ⟨hl1, hl2, _⟩ := hs.stk hlin
  have hsz : r.dfs.size = numNodes g := hs.sz
  have hidx : r.index ≤ numNodes g := hs.index_le
  have hls : last < r.dfs.size := Nat.lt_of_lt_of_eq hl1 hsz.symm
  rw [dfsLoop, if_neg (Nat.not_le_of_lt hls)]
  by_cases hedge : (gt r.dfs last).neighbor < outDegree g last
  · rw [if_pos hedge]
    have hv1 := view_incNeighbor r last
    have hmu1 := mu_incNeighbor g r last tl hl1 hls hl2 hedge
    have hsz1 : (incNeighbor r last).dfs.size = numNodes g := (size_upd _ _ _).trans hsz
    generalize hwe : target g (beginEdges g last + (gt r.dfs last).neighbor) = w
    have hl : Looked g (· ∈ last :: tl) (view r).I (nb r) last w (nb (incNeighbor r last)) :=
      ⟨hx.top, hedge, hwe.symm, by rw [nb_incNeighbor r last hls, if_pos rfl], fun u hu => by rw [nb_incNeighbor r last hls, if_neg hu]⟩
    dsimp only
    by_cases hw : w ≥ (incNeighbor r last).dfs.size
    · rw [if_pos hw]
      refine hpanic fun hwf => ?_
      have := hwf.target_lt last _ hl1 (Nat.add_lt_of_lt_sub' hedge)
      rw [hwe, ← hsz1] at this
      exact absurd this (Nat.not_lt_of_le hw)
    have hws : w < (incNeighbor r last).dfs.size := Nat.lt_of_not_le hw
    have hwn : w < numNodes g := Nat.lt_of_lt_of_eq hws hsz1
    have hIw : (gt (incNeighbor r last).dfs w).index = (view r).I w := congrArg (fun V => V.I w) hv1
    have hOw : (gt (incNeighbor r last).dfs w).onStack = (view r).O w := congrArg (fun V => V.O w) hv1
    rw [if_neg hw, hIw, hOw]
    by_cases hunv : (view r).I w = maxU
    · rw [if_pos hunv]
      have hv2 : view (stackPush (incNeighbor r last) w last) = (view r).push w last := by
        rw [view_stackPush _ _ _ hws, hv1]
      have hNw := nb_stackPush (incNeighbor r last) w last hws
      have hx2 : TX g (view (stackPush (incNeighbor r last) w last)) (nb (stackPush (incNeighbor r last) w last)) w (last :: tl) := by
        rw [hv2]
        exact tx_push hn hx hl hwn hunv (by rw [hNw, if_pos rfl]) (fun u huw => by rw [hNw, if_neg huw])
      have hidx2 : r.index + 1 ≤ numNodes g := hx2.ts.index_le
      refine hnext _ _ (last :: tl) (fun v hv => ?_) hx2 ?_
      · rw [hv2]
        show (if v = w then _ else _) ≠ maxU
        split
        · exact Nat.ne_of_lt (Nat.lt_of_le_of_lt hidx hn)
        · exact hv
      · rw [mu_stackPush g (incNeighbor r last) w last last tl hws (hIw.trans hunv) hidx2]
        exact Nat.lt_of_lt_of_eq (Nat.lt_succ_self _) hmu1
    rw [if_neg hunv]
    by_cases hon : (view r).O w = true
    · rw [if_pos hon]
      have hv2 : view (minLow (incNeighbor r last) last ((view r).I w)) = (view r).setL last ((view r).I w) := by
        rw [view_minLow _ _ _ (Nat.lt_of_lt_of_eq hl1 hsz1.symm), hv1]
      refine hnext _ _ tl (fun v hv => by rw [hv2]; exact hv) ?_ ?_
      · rw [hv2, nb_minLow]
        exact tx_back hx hl hwn hon
      rw [mu_minLow]
      exact Nat.lt_of_lt_of_eq (Nat.lt_succ_self _) hmu1
    · rw [if_neg hon]
      exact hnext _ _ tl (fun v hv => by rw [hv1]; exact hv) (by rw [hv1]; exact tx_cross hx hl hwn hunv hon)
        (Nat.lt_of_lt_of_eq (Nat.lt_succ_self _) hmu1)
  · rw [if_neg hedge]
    have hfin : outDegree g last ≤ nb r last := Nat.le_of_not_lt hedge
    -- `last` returns to its caller `q` with `lowlink[q] = min(lowlink[q], lowlink[last])`; `r2` is the state
    -- after the optional SCC pop
    have hret : ∀ {q : Nat} {tl' : List Nat} {r2 : Run}, tl = q :: tl' → (view r2).I = (view r).I →
        (∀ l, mu g r2 l = mu g r l) → q < numNodes g →
        TX g ((view r2).setL q ((view r).L last)) (nb r2) q tl' →
        Q (dfsLoop g f (minLow r2 q ((view r).L last)) q) := by
      intro q tl' r2 htl hI2 hmu2 n1 hx2
      have hv3 := view_minLow r2 q ((view r).L last) (Nat.lt_of_lt_of_eq n1 (Eq.symm hx2.ts.sz))
      refine hnext _ _ tl' (fun v hv => ?_) (by rw [hv3, nb_minLow]; exact hx2) ?_
      · rw [hv3]; show (view r2).I v ≠ maxU; rw [hI2]; exact hv
      · rw [mu_minLow, hmu2, htl]; exact Nat.lt_succ_self _
    by_cases hLI : (gt r.dfs last).lowlink = (gt r.dfs last).index
    · rw [if_pos hLI]
      obtain ⟨pre, post, hsp⟩ := List.append_of_mem hlin
      have hpw := List.pairwise_append.mp (hsp ▸ hs.stk_mono)
      obtain ⟨r2, e, hnb2, hv2⟩ := popLoop_spec last pre (r.stack.size + 1) r post hsp
        (fun h => Nat.lt_irrefl _ ((List.pairwise_cons.mp hpw.2.1).1 last h))
        (fun v hv => Nat.lt_of_lt_of_eq (hs.stk (show v ∈ r.stack.toList from hsp ▸ List.mem_append_right _ hv)).1 hs.sz.symm)
        (by rw [← Array.length_toList, hsp, List.length_append, List.length_cons]; omega)
      have hax : AXT g (view r2) (nb r2) tl := by rw [hv2, hnb2]; exact ax_pop hx hfin hLI hsp
      have hs2 : TS (numNodes g) (view r2) := hv2 ▸ TS_pop hs hsp
      have hI2 : (view r2).I = (view r).I := by rw [hv2]; rfl
      rw [e]
      dsimp only
      rw [show (gt r2.dfs last).caller = (view r).C last from congrArg (·.C last) hv2,
        show (gt r2.dfs last).lowlink = (view r).L last from congrArg (·.L last) hv2]
      cases tl with
      | nil =>
        -- `last` is the root: the caller chain is empty now, and every stack node sits above a node of the chain
        rw [if_neg (fun hne => hne hx.path_ok)]
        refine hbreak _ (fun v hv => by rw [hI2]; exact hv) ⟨hs2, ?_, hax.final⟩
        apply Decidable.byContradiction
        intro hp0
        obtain ⟨_, hq, _⟩ := hax.base _ (Array.getElem_mem_toList (Nat.pos_of_ne_zero hp0))
        exact List.not_mem_nil hq
      | cons q tl' =>
        obtain ⟨hq, hqlt, hrest⟩ := hx.path_ok
        obtain ⟨n1, n2, _⟩ := hs.stk (hx.ax.PS q (List.mem_cons_of_mem _ List.mem_cons_self))
        have hqs : q < r2.dfs.size := Nat.lt_of_lt_of_eq n1 (Eq.symm hs2.sz)
        rw [hq, if_pos (Nat.ne_of_lt (Nat.lt_trans n1 hn)), if_neg (Nat.not_le_of_lt hqs)]
        refine hret rfl hI2 (fun l => mu_congr g l hI2 (congrFun hnb2) (congrArg View.index hv2)) n1 ?_
        rw [View.setL_of_le _ (show (view r2).L q ≤ (view r).L last from by
          rw [show (view r2).L q = (view r).L q from congrArg (·.L q) hv2]
          exact Nat.le_trans (hs.L1 q n1 n2) (Nat.le_of_lt (Nat.lt_of_lt_of_eq hqlt (Eq.symm hLI))))]
        exact ⟨hs2, hax, by
          rw [hv2]; exact hrest⟩
    · rw [if_neg hLI]
      dsimp only
      cases tl with
      | nil =>
        -- the root always closes its component: left open it would reach an earlier stack node, and there is none
        have hnc : ¬ CandT (view r).I (view r).L [last] last := fun hc =>
          hc.elim (fun h => hLI (Nat.le_antisymm (hs.L1 last hl1 hl2) h.2)) fun h => h.1
        obtain ⟨_, hq, _⟩ := (hx.ax.ret hx.top hfin hnc).base last hlin
        exact absurd (List.mem_singleton.mp hq.1) hq.2
      | cons q tl' =>
        obtain ⟨n1, _, _⟩ := hs.stk (hx.ax.PS q (List.mem_cons_of_mem _ List.mem_cons_self))
        rw [show (gt r.dfs last).caller = q from hx.path_ok.1, if_pos (Nat.ne_of_lt (Nat.lt_trans n1 hn)),
          if_neg (Nat.not_le_of_lt (Nat.lt_of_lt_of_eq n1 hsz.symm))]
        exact hret rfl rfl (fun _ => rfl) n1 (tx_ret_nopop hx hfin hLI)

theorem dfsLoop_spec {g : Graph} (hn : numNodes g < maxU) :
    ∀ (f : Nat) (r : Run) (last : Nat) (tl : List Nat), TX g (view r) (nb r) last tl →
      (∀ r', dfsLoop g f r last = some r' →
        Between g (view r') ∧ ∀ v, (view r).I v ≠ maxU → (view r').I v ≠ maxU) ∧
      (WF g → mu g r tl < f → ∃ r', dfsLoop g f r last = some r') := by
  intro f
  induction f with
  | zero => intro r last tl _; exact ⟨fun r' h => (by cases h), fun _ h => absurd h (Nat.not_lt_zero _)⟩
  | succ f ih =>
    intro r last tl hi
    refine step_inv hn hi f (Q := fun x => (∀ r', x = some r' → Between g (view r') ∧ ∀ v, (view r).I v ≠ maxU → (view r').I v ≠ maxU) ∧
        (WF g → mu g r tl < f + 1 → ∃ r', x = some r'))
      (fun hnwf => ⟨fun _ h => (nomatch h), fun hwf _ => absurd hwf hnwf⟩) (fun r1 l' tl' hmono hi' hlt => ?_)
      (fun r1 hmono hb => ⟨fun r' h => by cases h; exact ⟨hb, hmono⟩, fun _ _ => ⟨r1, rfl⟩⟩)
    obtain ⟨k1, k2⟩ := ih r1 l' tl' hi'
    exact ⟨fun r' h => ⟨(k1 r' h).1, fun v hv => (k1 r' h).2 v (hmono v hv)⟩,
      fun hwf hm => k2 hwf (Nat.lt_of_lt_of_le hlt (Nat.le_of_lt_succ hm))⟩

theorem outer_spec {g : Graph} (hn : numNodes g < maxU) :
    ∀ (k v : Nat) (r : Run), Between g (view r) → v + k = numNodes g →
      (∀ r', (∀ u, u < v → (view r).I u ≠ maxU) → outer g k v r = some r' →
        Between g (view r') ∧ ∀ u, u < numNodes g → (view r').I u ≠ maxU) ∧
      (WF g → ∃ r', outer g k v r = some r') := by
  intro k
  induction k with
  | zero =>
    intro v r hb hv
    exact ⟨fun r' hall h => by cases h; exact ⟨hb, fun u hu => hall u (Nat.lt_of_lt_of_eq hu hv.symm)⟩, fun _ => ⟨r, rfl⟩⟩
  | succ k ih =>
    intro v r hb hv
    have hv' : v + 1 + k = numNodes g := (Nat.add_right_comm v 1 k).trans hv
    have hvn : v < numNodes g := hv ▸ Nat.lt_add_of_pos_right (Nat.succ_pos k)
    have hlt : ∀ u, u < v + 1 → u ≠ v → u < v := fun u hu huv => Nat.lt_of_le_of_ne (Nat.le_of_lt_succ hu) huv
    rw [outer]
    by_cases hvis : (gt r.dfs v).index ≠ maxU
    · rw [if_pos hvis]
      obtain ⟨k1, k2⟩ := ih (v + 1) r hb hv'
      refine ⟨fun r' hall h => k1 r' (fun u hu => ?_) h, k2⟩
      by_cases huv : u = v
      · subst huv; exact hvis
      · exact hall u (hlt u hu huv)
    · rw [if_neg hvis]
      -- the start of a root's DFS: `stack_push(v, MAX, index)` on an empty Tarjan stack
      have hsz : v < r.dfs.size := Nat.lt_of_lt_of_eq hvn (Eq.symm hb.ts.sz)
      have hv1 := view_stackPush r v maxU hsz
      obtain ⟨d1, d2⟩ := dfsLoop_spec hn (dfsFuel g) _ v [] (by
        rw [hv1]
        exact tx_root hn hvn (Decidable.not_not.mp hvis) hb (by rw [nb_stackPush r v maxU hsz, if_pos rfl]))
      cases hd : dfsLoop g (dfsFuel g) (stackPush r v maxU) v with
      | none =>
        refine ⟨fun r' _ h => (by cases h), fun hwf => ?_⟩
        -- at most one slot per edge is left
        have hrem : remSum g (stackPush r v maxU) ≤ numEdges g :=
          Nat.le_trans (sumTo_le _ _ _ (fun _ _ => Nat.sub_le _ _)) hwf.sum_outDegree
        obtain ⟨r1, hr1⟩ := d2 hwf (by
          show remSum g _ + (numNodes g - (r.index + 1)) + 0 < numEdges g + numNodes g + 1
          omega)
        rw [hd] at hr1
        cases hr1
      | some r1 =>
        obtain ⟨b1, m1⟩ := d1 r1 hd
        obtain ⟨k1, k2⟩ := ih (v + 1) r1 b1 hv'
        refine ⟨fun r' hall h => k1 r' (fun u hu => m1 u ?_) h, k2⟩
        rw [hv1]
        show (if u = v then r.index else _) ≠ maxU
        by_cases huv : u = v
        · rw [if_pos huv]; exact Nat.ne_of_lt (Nat.lt_of_le_of_lt hb.ts.index_le hn)
        · rw [if_neg huv]; exact hall u (hlt u hu huv)

theorem between_prepare (s : State) (g : Graph) : Between g (view (prepare true s g)) := by
  have hI : ∀ v, (view (prepare true s g)).I v = maxU := by
    intro v
    simp only [view, prepare, if_true, clear, resize_empty]
    by_cases hv : v < numNodes g
    · rw [gt_replicate _ _ _ hv]; rfl
    · rw [gt_of_ge _ _ (by simpa using Nat.le_of_not_lt hv)]; rfl
  have hS : (view (prepare true s g)).stack.size = 0 := rfl
  refine ⟨?_, hS, fun v x hv _ => absurd (hI v) hv.1.2, fun v v' hv _ => absurd (hI v) hv.1.2⟩
  constructor
  · simp [view, prepare, clear, resize_empty]
  · simp [view, prepare, resize_empty]
  · have : (List.range (numNodes g)).countP (fun v => (view (prepare true s g)).I v != maxU) = 0 :=
      List.countP_eq_zero.mpr (by intro v _; simp [hI v])
    rw [this]; rfl
  · exact Nat.le_refl 0
  · intro v _ hv; exact absurd (hI v) hv
  · intro v hv
    refine ⟨fun hO => ?_, fun h => absurd h (not_inStack_of_empty hS v)⟩
    simp only [view, prepare, if_true, clear, resize_empty] at hO
    rw [gt_replicate _ _ _ hv] at hO
    cases hO
  · intro v h; exact absurd h (not_inStack_of_empty hS v)
  · exact List.Pairwise.nil
  · intro v _ hv; exact absurd (hI v) hv

theorem run_sound (s : State) (g : Graph) (hn : numNodes g < maxU) (s' : State) (a : Array Nat)
    (h : run s g = some (s', a)) :
    a.size = numNodes g ∧ (∀ v, v < numNodes g → 1 ≤ gt a v ∧ gt a v ≤ numNodes g) ∧
      ∀ u v, u < numNodes g → v < numNodes g → (gt a u = gt a v ↔ SameSCC (edgesOf g) u v) := by
  simp only [run, runWith] at h
  split at h
  · cases h
  rename_i r1 ho
  cases h
  obtain ⟨hb, hall⟩ := (outer_spec hn _ 0 _ (between_prepare s g) (Nat.zero_add _)).1 r1 (fun u hu => by omega) ho
  have hnone := not_inStack_of_empty (show r1.stack.size = 0 from hb.emp)
  refine ⟨hb.ts.asz, fun v hv => ?_, fun u v hu hv => hb.final.exact u v ⟨⟨hu, hall u hu⟩, hnone u⟩ ⟨⟨hv, hall v hv⟩, hnone v⟩⟩
  rcases hb.ts.K v hv (hall v hv) with hk | hk
  · exact absurd hk (hnone v)
  · have h1 : r1.numScc + r1.stack.size ≤ r1.index := hb.ts.scc_le
    have h2 : r1.index ≤ numNodes g := hb.ts.index_le
    exact ⟨hk.1, Nat.le_trans hk.2 (show r1.numScc ≤ numNodes g by omega)⟩

theorem run_returns (s : State) (g : Graph) (hwf : WF g) (hn : numNodes g < maxU) : ∃ s' a, run s g = some (s', a) := by
  obtain ⟨r1, h1⟩ := (outer_spec hn (numNodes g) 0 _ (between_prepare s g) (Nat.zero_add _)).2 hwf
  exact ⟨⟨r1.dfs, r1.stack⟩, r1.asg, by simp only [run, runWith, h1]⟩

end Tbx.Tarjan
