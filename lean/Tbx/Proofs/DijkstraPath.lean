import Tbx.Proofs.DijkstraInv
/-
C09: path retrieval.  In a search state whose parent pointers all point to closed nodes
(`PathReady`: every final state of both searches), `retrieve_node_path(v)` of an inserted node
terminates within `inserted_len + 1` iterations and returns a node-simple path from the source to
`v` over existing edges whose cheapest-edge weights add up to the label of `v` (`retrievePath_valid`,
from `pathLoop_valid`: one induction along the loop, the nodes visited so far being a valid path).
-/
namespace Tbx.Dijkstra
open Tbx Tbx.AHeap
variable {Inv : Heap → Prop}

theorem PathReady.parent {adj : Adj} {s : Nat} {q : Heap} (P : PathReady Inv adj s q) {v : Nat}
    (hv : inserted q (v : Int) = true) (hvs : v ≠ s) :
    ∃ p w : Nat, data? q (v : Int) = some (p : Int) ∧ Settled q (p : Int) ∧ ClosedAt adj q p ∧
      SP.IsCheapest adj p v w ∧ weight q (v : Int) = weight q (p : Int) + (w : Int) := by
  have hvs' : (v : Int) ≠ (s : Int) := by omega
  obtain ⟨p, w, h1, h2, h3, h4⟩ := P.par v hv hvs'
  rw [Int.toNat_natCast] at h3
  have hcl := P.pclosed v hv hvs' p h1
  refine ⟨p, w, h1, h2, hcl, ⟨h3, fun w' hw' => ?_⟩, h4⟩
  have := (hcl v w' hw').2
  omega

/-- The loop of `retrieve_node_path` climbs from `node` towards the source.  `node :: l` are the nodes
visited so far, nearest to the source first: a valid path from `node` to the target `v` that accounts
for the difference of their labels.  Every step puts a parent of lower rank in front, so the nodes stay
distinct, and there are at most `inserted_len` of them: the fuel cannot run out. -/
theorem pathLoop_valid (L : HeapLaws Inv) {adj : Adj} {s : Nat} {q : Heap} (P : PathReady Inv adj s q)
    {rank : Int → Nat} (hr : ∀ x, inserted q x = true → x ≠ (s : Int) → ∀ p, data? q x = some p → rank p < rank x)
    (v : Nat) (fuel : Nat) (node : Nat) (l : List Nat) (d : Nat) (acc : Array Int)
    (hacc : acc.toList = ((node :: l).map Int.ofNat).reverse)
    (hw : SP.PathW adj (node :: l) d) (hlast : (node :: l).getLast? = some v)
    (hd : weight q (v : Int) = weight q (node : Int) + (d : Int))
    (hnd : (node :: l).Nodup) (hins : ∀ y ∈ node :: l, inserted q (y : Int) = true)
    (hrk : ∀ y ∈ l, rank (node : Int) < rank (y : Int)) (hf : insertedLen q + 1 ≤ fuel + l.length) :
    ∃ (path : Array Int) (nodes : List Nat) (d' : Nat), pathLoop q fuel (node : Int) acc = .ok path ∧
      path.toList = nodes.map Int.ofNat ∧ weight q (v : Int) = (d' : Int) ∧ SP.ValidPath adj s v nodes d' := by
  induction fuel generalizing node l d acc with
  | zero =>
    have := L.inserted_bound q ((node :: l).map Int.ofNat) P.inv
      (hnd.map Int.ofNat fun _ _ hab e => hab (Int.ofNat.inj e)) (by
        intro x hx
        obtain ⟨y, hy, rfl⟩ := List.mem_map.mp hx
        exact hins y hy)
    simp only [List.length_map, List.length_cons] at this
    omega
  | succ fuel ih =>
    by_cases hns : node = s
    · subst hns
      refine ⟨acc.reverse, node :: l, d, by simp [pathLoop, P.src.2.2], by simp [hacc],
        by rw [hd, P.src.2.1]; omega, rfl, hlast, hnd, hw⟩
    · have hi := hins node List.mem_cons_self
      obtain ⟨p, w, h1, h2, _, hcheap, h4⟩ := P.parent hi hns
      have hrp := hr node hi (by omega) p h1
      have hpn : ((p : Int) == (node : Int)) = false := by
        simp only [beq_eq_false_iff_ne, ne_eq, Int.natCast_inj]; rintro rfl; omega
      simp only [pathLoop, h1, hpn, Bool.false_eq_true, if_false]
      refine ih p (node :: l) (w + d) _ (by simp [hacc]) (.cons hcheap hw) (by rw [List.getLast?_cons_cons]; exact hlast)
        (by rw [hd, h4]; omega) (List.nodup_cons.mpr ⟨fun hm => ?_, hnd⟩) (fun y hy => ?_) (fun y hy => ?_)
        (by simp only [List.length_cons]; omega)
      · rcases List.mem_cons.mp hm with rfl | hm
        · omega
        · have := hrk p hm; omega
      · rcases List.mem_cons.mp hy with rfl | hy
        · exact h2.1
        · exact hins y hy
      · rcases List.mem_cons.mp hy with rfl | hy
        · exact hrp
        · exact Nat.lt_trans hrp (hrk y hy)

theorem retrievePath_valid (L : HeapLaws Inv) {adj : Adj} {s : Nat} {q : Heap} (P : PathReady Inv adj s q)
    (v : Nat) (hv : inserted q (v : Int) = true) :
    ∃ (path : Array Int) (nodes : List Nat) (d : Nat),
      retrievePath q v = .ok (some path) ∧ path.toList = nodes.map Int.ofNat ∧
      weight q (v : Int) = (d : Int) ∧ SP.ValidPath adj s v nodes d := by
  obtain ⟨rank, hr⟩ := P.rank
  obtain ⟨path, nodes, d, h1, h2⟩ := pathLoop_valid L P hr v (insertedLen q + 1) v [] 0 #[(v : Int)] rfl (.single v) rfl
    (by omega) (by simp) (fun y hy => by rw [List.mem_singleton.mp hy]; exact hv) (fun _ h => nomatch h) (Nat.le_refl _)
  exact ⟨path, nodes, d, by unfold retrievePath; rw [h1], h2⟩

end Tbx.Dijkstra
