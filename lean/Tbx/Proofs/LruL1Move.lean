import Tbx.Proofs.LruL1List
/-
`move_to_front` on a well-formed list: the node is unlinked (also when it is the back, in which
case `back` moves to its `next`), relinked at the front, no error branch is reached, and the
abstract chain changes as the L0 model says.
-/
namespace Tbx.LruL1
open Tbx

variable {T : Type}

theorem lastOr_mem (l : List (Nat × T)) (h : l ≠ []) (nx : Option Nat) :
    ∃ a, a ∈ addrs l ∧ lastOr l nx = some a := by
  rcases eq_nil_or_snoc l with e | ⟨l', ⟨a, t⟩, e⟩
  · exact absurd e h
  · exact ⟨a, by rw [e]; simp [addrs], by rw [e, lastOr_concat]⟩

/-- `move_to_front(b)` after `(*a).prev = (*b).prev` has been written: the neighbour `c` of `b` towards the back gets
    `(*c).next = (*b).next`, and `back` moves to `a` if `b` was the back.  Hypotheses and conclusions are about the
    memory `c1` after the first write and `c2` after this one. -/
theorem mtf_relink_back (c1 : Array (Option (Node T))) (fr : List Nat) (A : List Nat)
    (l1 l2 : List (Nat × T)) (b a' : Nat) (tb : T) (sback : Option Nat)
    (hs1 : Seg c1 none l1 (headOr l2 none)) (hs2 : Seg c1 (some b) l2 none)
    (hgb : gt c1 b = some ⟨some a', headOr l2 none, tb⟩)
    (hbl2 : b ∉ addrs l2) (hnd2 : (addrs l2).Nodup) (hdisj : ∀ a ∈ addrs l1, a ∉ addrs l2)
    (hback : sback = lastOr l2 (some b)) (hm : MemOK c1 fr A) :
    ∃ c2 bk, LL.mtfRelinkC ({ cells := c1, freed := fr } : Mem T) ⟨some a', headOr l2 none, tb⟩
        = .ok { cells := c2, freed := fr } ∧
      sback = some bk ∧
      LL.mtfFixBack ({ cells := c2, freed := fr } : Mem T) (some bk) bk b (some a') = .ok (lastOr l2 (some a')) ∧
      Seg c2 none l1 (headOr l2 none) ∧ Seg c2 (some a') l2 none ∧
      gt c2 b = some ⟨some a', headOr l2 none, tb⟩ ∧ MemOK c2 fr A ∧ c2.size = c1.size := by
  cases l2 with
  | nil =>
    refine ⟨c1, b, rfl, hback, ?_, hs1, trivial, hgb, hm, rfl⟩
    simp only [LL.mtfFixBack, if_true, rd_ok _ _ _ hgb]; rfl
  | cons p l2' =>
    obtain ⟨c, tc⟩ := p
    obtain ⟨hcl2', hnd2'⟩ := List.nodup_cons.1 hnd2
    have hcb : b ≠ c := fun e => hbl2 (e ▸ List.mem_cons_self)
    obtain ⟨bk, hbkm, hbk⟩ := lastOr_mem ((c, tc) :: l2') (List.cons_ne_nil _ _) (some b)
    have hbkb : ¬ bk = b := fun e => hbl2 (e ▸ hbkm)
    -- (*c).next = (*b).next
    obtain ⟨c2, e, u⟩ := setNext_ok c1 fr c (some a') hs2.1
    refine ⟨c2, bk, e, hback.trans hbk, ?_, u.seg_frame (fun hc => hdisj c hc List.mem_cons_self) hs1,
      u.seg_head hcl2' hs2, (u.other b hcb).trans hgb, u.memOK hm, u.size⟩
    simp only [LL.mtfFixBack, if_neg hbkb]
    rw [← hbk]; rfl

theorem moveToFront_wf_ne (s : LL T) (l1 l2 : List (Nat × T)) (b : Nat) (tb : T) (hl1ne : l1 ≠ [])
    (h : WF s (l1 ++ (b, tb) :: l2)) :
    ∃ s', LL.moveToFront s b = .ok s' ∧ WF s' ((b, tb) :: (l1 ++ l2)) ∧ s'.mem.cells.size = s.mem.cells.size := by
  have hlen : ¬ s.len = 0 := by rw [h.len]; simp
  -- the chain before `b`, once as a cons (its head `x'` is the old front) and once as a snoc (its last
  -- node `a'` is the neighbour of `b` towards the front); `x'` and `a'` may be the same node
  obtain ⟨⟨x', tx⟩, l1'', hl1⟩ : ∃ p r, l1 = p :: r := List.exists_cons_of_ne_nil hl1ne
  obtain ⟨l1', ⟨a', ta⟩, hl1s⟩ : ∃ l1' y, l1 = l1' ++ [y] := (eq_nil_or_snoc l1).resolve_left hl1ne
  have hnd := h.nodup
  rw [addrs_append, List.nodup_append] at hnd
  obtain ⟨hnd1, hnd2b, hdisj⟩ := hnd
  have hbl2 : b ∉ addrs l2 := (List.nodup_cons.1 hnd2b).1
  have hnd2 : (addrs l2).Nodup := (List.nodup_cons.1 hnd2b).2
  have hbl1 : b ∉ addrs l1 := fun hm => hdisj b hm b List.mem_cons_self rfl
  have hdisj12 : ∀ a ∈ addrs l1, a ∉ addrs l2 := fun a ha ha2 => hdisj a ha a (List.mem_cons_of_mem _ ha2) rfl
  have hx'l1 : x' ∈ addrs l1 := hl1 ▸ List.mem_cons_self
  have ha'l1 : a' ∈ addrs l1 := by rw [hl1s, addrs_append]; exact List.mem_append_right _ List.mem_cons_self
  have hbx' : b ≠ x' := fun e => hbl1 (e ▸ hx'l1)
  have hba' : b ≠ a' := fun e => hbl1 (e ▸ ha'l1)
  have hx'l1'' : x' ∉ addrs l1'' := by rw [hl1] at hnd1; exact (List.nodup_cons.1 hnd1).1
  have ha'l1' : a' ∉ addrs l1' := (nodup_addrs_concat (hl1s ▸ hnd1)).2
  have hfx : s.front = some x' := by rw [h.front, headOr_append, hl1]; rfl
  have hfr : ¬ s.front = some b := by rw [hfx]; exact fun e => hbx' (Option.some.inj e).symm
  have hlast1 : ∀ nx, lastOr l1 nx = some a' := fun nx => by rw [hl1s, lastOr_concat]
  obtain ⟨hs1, hgb, hs2⟩ := (seg_append _ _ _ _ _).1 h.seg
  rw [hlast1] at hgb
  change Seg _ none l1 (some b) at hs1
  change gt _ b = some (Node.mk (some a') (headOr l2 none) tb) at hgb
  have hga' : gt s.mem.cells a' = some ⟨lastOr l1' none, some b, ta⟩ :=
    ((seg_concat _ _ _ _ _ _).1 (hl1s ▸ hs1)).2
  -- let a = (*b).next; (*a).prev = (*b).prev
  have e1 : s.mem.rd b = .ok ⟨some a', headOr l2 none, tb⟩ := rd_ok _ _ _ hgb
  obtain ⟨c1, e2, u1⟩ := setPrev_ok s.mem.cells s.mem.freed a' (headOr l2 none) hga'
  have e2' : s.mem.setPrev a' (headOr l2 none) = .ok ⟨c1, s.mem.freed⟩ := e2
  have hs1_1 : Seg c1 none l1 (headOr l2 none) := by
    rw [hl1s] at hs1 ⊢; exact u1.seg_last ha'l1' hs1
  have hgb1 : gt c1 b = some ⟨some a', headOr l2 none, tb⟩ := (u1.other b hba').trans hgb
  have hback0 : s.back = lastOr l2 (some b) := by rw [h.back, lastOr_append]; rfl
  -- (*c).next = (*b).next for the neighbour `c` towards the back, and the back pointer
  obtain ⟨c2, bk, e4, hbk, e5, hs1_2, hs2_2, hgb2, hm2, hsz2⟩ :=
    mtf_relink_back c1 s.mem.freed _ l1 l2 b a' tb s.back hs1_1 (u1.seg_frame (hdisj12 a' ha'l1) hs2) hgb1
      hbl2 hnd2 hdisj12 hback0 (u1.memOK h.mem)
  -- (*b).prev = front; (*b).next = None
  obtain ⟨c3, e6, u3⟩ := setPrev_ok c2 s.mem.freed b (some x') hgb2
  obtain ⟨c4, e7, u4⟩ := setNext_ok c3 s.mem.freed b none u3.same
  have hs1_4 : Seg c4 none l1 (headOr l2 none) := u4.seg_frame hbl1 (u3.seg_frame hbl1 hs1_2)
  -- (*front).next = Some(b)
  have hgx4 : gt c4 x' = some ⟨none, headOr l1'' (headOr l2 none), tx⟩ := (hl1 ▸ hs1_4 :).1
  obtain ⟨c5, e8, u5⟩ := setNext_ok c4 s.mem.freed x' (some b) hgx4
  have hs1_5 : Seg c5 (some b) l1 (headOr l2 none) := by
    rw [hl1] at hs1_4 ⊢; exact u5.seg_head hx'l1'' hs1_4
  have hs2_5 : Seg c5 (some a') l2 none :=
    u5.seg_frame (hdisj12 x' hx'l1) (u4.seg_frame hbl2 (u3.seg_frame hbl2 hs2_2))
  have hgb5 : gt c5 b = some ⟨none, some x', tb⟩ := (u5.other b hbx').trans u4.same
  -- the new chain is the old one permuted: same addresses, same number
  have hperm : (l1 ++ (b, tb) :: l2).Perm ((b, tb) :: (l1 ++ l2)) := List.perm_middle
  refine ⟨⟨⟨c5, s.mem.freed⟩, some b, lastOr l2 (some a'), s.len⟩, ?_, ⟨⟨?_, ?_⟩, ?_, rfl, ?_, ?_, h.freedNodup, ?_⟩,
    by rw [u5.size, u4.size, u3.size, hsz2, u1.size]⟩
  · simp only [LL.moveToFront, if_neg hlen, if_neg hfr]
    rw [e1]; simp only []
    rw [e2']; simp only []
    rw [rd_ok _ _ _ hgb1]; simp only []
    rw [e4]; simp only []
    rw [hbk]; simp only []
    rw [e5]; simp only []
    rw [hfx, e6]; simp only []
    rw [e7]; simp only []
    rw [e8]
  · rw [hgb5, headOr_append, hl1]; rfl
  · rw [seg_append, hlast1]; exact ⟨hs1_5, hs2_5⟩
  · exact (hperm.map _).nodup_iff.1 h.nodup
  · show lastOr l2 (some a') = lastOr (l1 ++ l2) (some b)
    rw [lastOr_append, hlast1]
  · exact h.len.trans hperm.length_eq
  · have hm5 := u5.memOK (u4.memOK (u3.memOK hm2))
    exact ⟨fun a n hn => (hperm.map _).mem_iff.1 (hm5.1 a n hn), hm5.2⟩

theorem moveToFront_wf (s : LL T) (l1 l2 : List (Nat × T)) (b : Nat) (tb : T)
    (h : WF s (l1 ++ (b, tb) :: l2)) :
    ∃ s', LL.moveToFront s b = .ok s' ∧ WF s' ((b, tb) :: (l1 ++ l2)) ∧ s'.mem.cells.size = s.mem.cells.size := by
  cases l1 with
  | nil =>
    have hlen : ¬ s.len = 0 := by rw [h.len]; simp
    have hf : s.front = some b := h.front
    exact ⟨s, by simp [LL.moveToFront, hlen, hf], h, rfl⟩
  | cons px l1'' => exact moveToFront_wf_ne s (px :: l1'') l2 b tb (by simp) h

end Tbx.LruL1
