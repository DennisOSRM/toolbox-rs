import Tbx.Model.Tarjan
import Tbx.Proofs.C16Arr
import Tbx.Spec.Components
/-
What the two SCC proofs (Tarjan, path-based) have in common: the invariant `AX` of a depth-first search that keeps the
visited nodes whose component is not yet complete in order of discovery, with one lemma for each step such a search
takes.  Each algorithm shows that its updates are these steps.
-/
/-- both `run`s start with `resize` of a cleared vector -/
theorem Tbx.Tarjan.resize_empty {α : Type} (n : Nat) (v : α) : Tarjan.resize #[] n v = Array.replicate n v := by
  unfold Tarjan.resize
  split
  · rename_i h
    have : n = 0 := by simpa using h
    subst this
    simp
  · simp

namespace Tbx.Scc
open Tbx Tbx.Csr Tbx.Comp
open Tbx.CycleCheck (E)

abbrev R (g : Graph) := Reach (edgesOf g)

theorem E_iff (g : Graph) (u x : Nat) :
    E g u x ↔ u < numNodes g ∧ ∃ k, k < outDegree g u ∧ target g (beginEdges g u + k) = x := by
  rw [mem_edgesOf, mem_succs]
  constructor
  · rintro ⟨h1, e, h2, h3, h4⟩
    obtain ⟨k, rfl⟩ := Nat.exists_eq_add_of_le h2
    exact ⟨h1, k, Nat.lt_of_add_lt_add_left h3, h4⟩
  · rintro ⟨h1, k, h2, h3⟩
    exact ⟨h1, beginEdges g u + k, Nat.le_add_right _ _, Nat.add_lt_add_left h2 _, h3⟩

/-- `nb u` counts the edge slots of `u` the DFS has looked at: `u → x` sits in one of them -/
def Explored (g : Graph) (nb : Nat → Nat) (u x : Nat) : Prop :=
  ∃ k, k < nb u ∧ k < outDegree g u ∧ target g (beginEdges g u + k) = x

theorem explored_of_full {g : Graph} {nb : Nat → Nat} {u x : Nat} (h : outDegree g u ≤ nb u) (he : E g u x) :
    Explored g nb u x := by
  obtain ⟨_, k, hk, ht⟩ := (E_iff g u x).mp he
  exact ⟨k, by omega, hk, ht⟩

theorem explored_inc {g : Graph} {nb nb' : Nat → Nat} {v u x : Nat} (hv : nb' v = nb v + 1)
    (hne : ∀ u, u ≠ v → nb' u = nb u) (h : Explored g nb' u x) :
    Explored g nb u x ∨ (u = v ∧ nb v < outDegree g v ∧ x = target g (beginEdges g v + nb v)) := by
  obtain ⟨k, hk, hd, ht⟩ := h
  by_cases hu : u = v
  · subst hu
    rw [hv] at hk
    by_cases hke : k = nb u
    · subst hke; exact Or.inr ⟨rfl, hd, ht.symm⟩
    · exact Or.inl ⟨k, by omega, hd, ht⟩
  · rw [hne u hu] at hk
    exact Or.inl ⟨k, hk, hd, ht⟩

/-- nothing in `A` reaches `P` (`hclosed`, `hdisj`), so `P` is a component of its own -/
theorem exact_add_component {es : Edges} {A P : Nat → Prop} {lab lab' : Nat → Nat} {c : Nat}
    (hclosed : ∀ v x, A v → (v, x) ∈ es → A x)
    (hexact : ∀ v v', A v → A v' → (lab v = lab v' ↔ SameSCC es v v'))
    (hdisj : ∀ v, A v → ¬ P v)
    (hmut : ∀ u u', P u → P u' → Reach es u u')
    (hold : ∀ v, A v → lab' v = lab v ∧ lab v ≠ c)
    (hnew : ∀ v, P v → lab' v = c) {v v' : Nat} (hv : A v ∨ P v) (hv' : A v' ∨ P v') :
    lab' v = lab' v' ↔ SameSCC es v v' := by
  have hsep : ∀ a u, A a → P u → ¬ Reach es a u := fun a u ha hu hr => hdisj u (Reach.closed hclosed ha hr) hu
  rcases hv with h | h <;> rcases hv' with h' | h'
  · rw [(hold v h).1, (hold v' h').1]; exact hexact v v' h h'
  · rw [(hold v h).1, hnew v' h']
    exact ⟨fun he => absurd he (hold v h).2, fun hs => absurd hs.1 (hsep v v' h h')⟩
  · rw [hnew v h, (hold v' h').1]
    exact ⟨fun he => absurd he.symm (hold v' h').2, fun hs => absurd hs.2 (hsep v' v h' h)⟩
  · rw [hnew v h, hnew v' h']
    exact ⟨fun _ => ⟨hmut v v' h h', hmut v' v h' h⟩, fun _ => rfl⟩

/-- the labels on `A` are final: no edge leaves `A`, and on `A` equal labels mean the same component -/
structure Final (g : Graph) (A : Nat → Prop) (lab : Nat → Nat) : Prop where
  closed : ∀ v x, A v → E g v x → A x
  exact : ∀ v v', A v → A v' → (lab v = lab v' ↔ SameSCC (edgesOf g) v v')

theorem Final.congr {g : Graph} {A A' : Nat → Prop} {lab lab' : Nat → Nat} (h : Final g A lab) (hA : ∀ u, A' u ↔ A u)
    (hlab : ∀ u, A u → lab' u = lab u) : Final g A' lab' := by
  refine ⟨fun v x hv he => (hA x).mpr (h.closed v x ((hA v).mp hv) he), fun v v' hv hv' => ?_⟩
  have hv := (hA v).mp hv
  have hv' := (hA v').mp hv'
  rw [hlab v hv, hlab v' hv']
  exact h.exact v v' hv hv'

def IsTop (P : Nat → Prop) (pos : Nat → Nat) (v : Nat) : Prop := P v ∧ ∀ p, P p → pos p ≤ pos v

/-- The state of a DFS for strongly connected components.  `S`: the open nodes (visited, component not yet complete),
    ranked by `pos` in order of discovery; `P ⊆ S`: the nodes on the DFS path; `C ⊆ P`: the candidate roots;
    `Vis`: the visited nodes, read off `S` only: a node with `Vis` that is not open carries its final label `lab`
    (nothing is asked of `Vis` on `S`, so `AX.push` can leave it as it is and `AX.congr` compares it off `S`);
    `N u`: how many edge slots of `u` have been looked at.

    The idea is `esc`: an open node that is no candidate reaches an open node of smaller rank; with `fwd` (an open
    node reaches the open nodes above it) every open node then reaches the top of the path (`AX.reach_top`).  By `expl`
    an explored edge from an open `u` never leads below a candidate at or below `u`, and by `fin` an open node off the
    path has no edge slot left.  So when the top of the path has no slot left and is a candidate, the open nodes from
    it upwards are closed under edges and mutually reachable: a complete component (`AX.pop`).  `base`: every open
    node sits at or above a node of the path; so the top of the path can leave it without being a candidate only if a
    path node remains below (`AX.ret`), and nothing is open once the path is empty.  The algorithms differ
    only in how they store `C`: the path-based one in its `bounds` stack (`Gabow.Cand`), Tarjan lazily in the lowlinks
    (`Tarjan.CandT`). -/
structure AX (g : Graph) (S P C Vis : Nat → Prop) (pos lab N : Nat → Nat) : Prop where
  PS : ∀ p, P p → S p
  CP : ∀ c, C c → P c
  base : ∀ u, S u → ∃ p, P p ∧ pos p ≤ pos u
  fwd : ∀ u v, S u → S v → pos u ≤ pos v → R g u v
  esc : ∀ u, S u → ¬ C u → ∃ x, S x ∧ pos x < pos u ∧ R g u x
  expl : ∀ u x, S u → Explored g N u x →
    (Vis x ∧ ¬ S x) ∨ (S x ∧ ∀ c, C c → pos c ≤ pos u → pos c ≤ pos x)
  fin : ∀ u, S u → ¬ P u → outDegree g u ≤ N u
  final : Final g (fun x => Vis x ∧ ¬ S x) lab

variable {g : Graph} {S P C Vis : Nat → Prop} {pos lab N : Nat → Nat}

theorem AX.congr {S' P' C' Vis' : Nat → Prop} {pos' lab' N' : Nat → Nat} (h : AX g S P C Vis pos lab N)
    (hS : ∀ u, S' u ↔ S u) (hP : ∀ u, P' u ↔ P u) (hC : ∀ u, C' u ↔ C u) (hV : ∀ u, ¬ S u → (Vis' u ↔ Vis u))
    (hpos : ∀ u, S u → pos' u = pos u) (hlab : ∀ u, Vis u ∧ ¬ S u → lab' u = lab u) (hN : ∀ u, S u → N' u = N u) :
    AX g S' P' C' Vis' pos' lab' N' := by
  have hA : ∀ u, Vis' u ∧ ¬ S' u ↔ Vis u ∧ ¬ S u := fun u => (and_congr_right' (not_congr (hS u))).trans (and_congr_left (hV u))
  have hex : ∀ u x, S u → Explored g N' u x → Explored g N u x := fun u x hu ⟨k, a, b⟩ => ⟨k, hN u hu ▸ a, b⟩
  refine ⟨fun p hp => (hS p).mpr (h.PS p ((hP p).mp hp)), fun c hc => (hP c).mpr (h.CP c ((hC c).mp hc)),
    fun u hu => ?_, fun u v hu hv hle => ?_, fun u hu hc => ?_, fun u x hu hex' => ?_, fun u hu hp => ?_,
    h.final.congr hA hlab⟩
  · have hu := (hS u).mp hu
    obtain ⟨p, hp, hle⟩ := h.base u hu
    exact ⟨p, (hP p).mpr hp, by rw [hpos p (h.PS p hp), hpos u hu]; exact hle⟩
  · have hu := (hS u).mp hu
    have hv := (hS v).mp hv
    rw [hpos u hu, hpos v hv] at hle
    exact h.fwd u v hu hv hle
  · have hu := (hS u).mp hu
    obtain ⟨x, hx, hlt, hr⟩ := h.esc u hu fun hh => hc ((hC u).mpr hh)
    exact ⟨x, (hS x).mpr hx, by rw [hpos x hx, hpos u hu]; exact hlt, hr⟩
  · have hu := (hS u).mp hu
    refine (h.expl u x hu (hex u x hu hex')).imp (hA x).mpr fun ⟨hx, hb⟩ => ⟨(hS x).mpr hx, fun c hc hle => ?_⟩
    have hc := (hC c).mp hc
    have hcS := h.PS c (h.CP c hc)
    rw [hpos c hcS, hpos u hu] at hle
    rw [hpos c hcS, hpos x hx]
    exact hb c hc hle
  · have hu := (hS u).mp hu
    rw [hN u hu]
    exact h.fin u hu fun hh => hp ((hP u).mpr hh)

theorem AX.congrC {C' : Nat → Prop} (h : AX g S P C Vis pos lab N) (hC : ∀ u, C' u ↔ C u) : AX g S P C' Vis pos lab N :=
  h.congr (fun _ => Iff.rfl) (fun _ => Iff.rfl) hC (fun _ _ => Iff.rfl) (fun _ _ => rfl) (fun _ _ => rfl) (fun _ _ => rfl)

theorem AX.reach_top (h : AX g S P C Vis pos lab N) {v : Nat} (hv : IsTop P pos v) : ∀ u, S u → R g u v := by
  have key : ∀ m u, S u → pos u ≤ m → R g u v := by
    intro m
    induction m with
    | zero => intro u hu hm; exact h.fwd u v hu (h.PS v hv.1) (Nat.le_trans hm (Nat.zero_le _))
    | succ m ih =>
      intro u hu hm
      by_cases hle : pos u ≤ pos v
      · exact h.fwd u v hu (h.PS v hv.1) hle
      · obtain ⟨x, hx, hlt, hr⟩ := h.esc u hu fun hc => hle (hv.2 u (h.CP u hc))
        exact hr.trans (ih x hx (Nat.le_of_lt_succ (Nat.lt_of_lt_of_le hlt hm)))
  exact fun u hu => key _ u hu (Nat.le_refl _)

/-- between two roots nothing is open -/
theorem AX.empty (hS : ∀ u, ¬ S u) (hP : ∀ u, ¬ P u) (hC : ∀ u, ¬ C u)
    (hfin : Final g (fun x => Vis x ∧ ¬ S x) lab) : AX g S P C Vis pos lab N :=
  ⟨fun p hp => absurd hp (hP p), fun c hc => absurd hc (hC c), fun u hu => absurd hu (hS u),
    fun u _ hu => absurd hu (hS u), fun u hu => absurd hu (hS u), fun u _ hu => absurd hu (hS u),
    fun u hu => absurd hu (hS u), hfin⟩

/-- the slot counters after the top `v` of the path has looked at its next edge -/
structure Looked (g : Graph) (P : Nat → Prop) (pos N : Nat → Nat) (v w : Nat) (N' : Nat → Nat) : Prop where
  top : IsTop P pos v
  lt : N v < outDegree g v
  tgt : w = target g (beginEdges g v + N v)
  inc : N' v = N v + 1
  same : ∀ u, u ≠ v → N' u = N u

theorem Looked.edge {v w : Nat} {N' : Nat → Nat} (hl : Looked g P pos N v w N') (hv : v < numNodes g) : E g v w :=
  (E_iff g v w).mpr ⟨hv, _, hl.lt, hl.tgt.symm⟩

theorem AX.cross (h : AX g S P C Vis pos lab N) {v w : Nat} {N' : Nat → Nat} (hl : Looked g P pos N v w N') (hw : Vis w ∧ ¬ S w) :
    AX g S P C Vis pos lab N' := by
  refine ⟨h.PS, h.CP, h.base, h.fwd, h.esc, fun u x hu hex => ?_, fun u hu hp => ?_, h.final⟩
  · rcases explored_inc hl.inc hl.same hex with hex | ⟨_, _, hx⟩
    · exact h.expl u x hu hex
    · exact Or.inl (hx ▸ hl.tgt ▸ hw)
  · show _ ≤ N' u
    rw [hl.same u fun he => hp (he ▸ hl.top.1)]
    exact h.fin u hu hp

theorem AX.back (h : AX g S P C Vis pos lab N) {v w : Nat} {N' : Nat → Nat} (hl : Looked g P pos N v w N') (hvn : v < numNodes g) (hw : S w) :
    AX g S P (fun c => C c ∧ pos c ≤ pos w) Vis pos lab N' := by
  refine ⟨h.PS, fun c hc => h.CP c hc.1, h.base, h.fwd, fun u hu hc => ?_, fun u x hu hex => ?_, fun u hu hp => ?_, h.final⟩
  · by_cases hcu : C u
    · -- `u` reaches the top of the path, hence `w`
      have hlt : pos w < pos u := Nat.lt_of_not_le fun hle => hc ⟨hcu, hle⟩
      exact ⟨w, hw, hlt, (h.fwd u v hu (h.PS v hl.top.1) (hl.top.2 u (h.CP u hcu))).trans (Reach.single (hl.edge hvn))⟩
    · exact h.esc u hu hcu
  · rcases explored_inc hl.inc hl.same hex with hex | ⟨_, _, hx⟩
    · exact (h.expl u x hu hex).imp_right fun ⟨hx, hb⟩ => ⟨hx, fun c hc => hb c hc.1⟩
    · exact Or.inr ⟨hx ▸ hl.tgt ▸ hw, fun c hc _ => hx ▸ hl.tgt ▸ hc.2⟩
  · show _ ≤ N' u
    rw [hl.same u fun he => hp (he ▸ hl.top.1)]
    exact h.fin u hu hp

/-- `hfrom`: `w` is found as a root (nothing is open) or by an edge from the top `v` of the path -/
theorem AX.push (h : AX g S P C Vis pos lab N) {w : Nat} {pos' N' : Nat → Nat} (hwS : ¬ S w) (hwV : ¬ Vis w)
    (hpos : ∀ u, S u → pos' u = pos u) (hk : ∀ u, S u → pos u < pos' w) (hN0 : N' w = 0)
    (hfrom : ((∀ u, ¬ S u) ∧ ∀ u, u ≠ w → N' u = N u) ∨
      ∃ v N1, v < numNodes g ∧ Looked g P pos N v w N1 ∧ ∀ u, u ≠ w → N' u = N1 u) :
    AX g (fun u => u = w ∨ S u) (fun u => u = w ∨ P u) (fun u => u = w ∨ C u) Vis pos' lab N' := by
  have htop : ∀ {v : Nat} {N1 : Nat → Nat}, Looked g P pos N v w N1 → IsTop P pos' v := fun hl => ⟨hl.top.1, fun p hp => by
    rw [hpos p (h.PS p hp), hpos _ (h.PS _ hl.top.1)]; exact hl.top.2 p hp⟩
  replace hk : ∀ u, S u → pos' u < pos' w := fun u hu => Nat.lt_of_le_of_lt (Nat.le_of_eq (hpos u hu)) (hk u hu)
  -- from here on the open nodes are ranked by `pos'`
  replace h := h.congr (fun _ => Iff.rfl) (fun _ => Iff.rfl) (fun _ => Iff.rfl) (fun _ _ => Iff.rfl) hpos (fun _ _ => rfl) (fun _ _ => rfl)
  have hne : ∀ u, S u → u ≠ w := fun u hu he => hwS (he ▸ hu)
  have hA : ∀ x, Vis x ∧ ¬ (x = w ∨ S x) ↔ Vis x ∧ ¬ S x := fun x =>
    and_congr_right fun hx => not_congr (or_iff_right fun he => hwV (he ▸ hx))
  -- every open node reaches `w`
  have hreach : ∀ u, S u → R g u w := fun u hu => by
    rcases hfrom with ⟨h0, _⟩ | ⟨v, N1, hvn, hl, _⟩
    · exact absurd hu (h0 u)
    · exact (h.reach_top (htop hl) u hu).trans (Reach.single (hl.edge hvn))
  -- the edges explored from an open node: the old ones and `v → w`
  have hexpl : ∀ u x, S u → Explored g N' u x → Explored g N u x ∨ x = w := by
    intro u x hu hex
    rcases hfrom with ⟨h0, _⟩ | ⟨v, N1, _, hl, hN'⟩
    · exact absurd hu (h0 u)
    · have hex1 : Explored g N1 u x := by obtain ⟨j, a, b⟩ := hex; exact ⟨j, hN' u (hne u hu) ▸ a, b⟩
      exact (explored_inc hl.inc hl.same hex1).imp_right fun hh => hh.2.2.trans hl.tgt.symm
  refine ⟨fun p hp => hp.imp_right (h.PS p), fun c hc => hc.imp_right (h.CP c), fun u hu => ?_, fun u x hu hx hle => ?_,
    fun u hu hc => ?_, fun u x hu hex => ?_, fun u hu hp => ?_, h.final.congr hA fun _ _ => rfl⟩
  · rcases hu with rfl | hu
    · exact ⟨u, Or.inl rfl, Nat.le_refl _⟩
    · exact (h.base u hu).imp fun p hp => ⟨Or.inr hp.1, hp.2⟩
  · rcases hx with rfl | hx
    · exact hu.elim (fun he => he ▸ .refl _) (hreach u)
    · rcases hu with rfl | hu
      · exact absurd (hk x hx) (Nat.not_lt_of_le hle)
      · exact h.fwd u x hu hx hle
  · rcases hu with rfl | hu
    · exact absurd (Or.inl rfl) hc
    · exact (h.esc u hu fun hh => hc (Or.inr hh)).imp fun x hx => ⟨Or.inr hx.1, hx.2⟩
  · rcases hu with rfl | hu
    · obtain ⟨j, hj, _⟩ := hex
      exact absurd (Nat.lt_of_lt_of_eq hj hN0) (Nat.not_lt_zero _)
    · rcases hexpl u x hu hex with hex | rfl
      · refine (h.expl u x hu hex).imp (hA x).mpr fun ⟨hx, hb⟩ => ⟨Or.inr hx, fun c hc hle => ?_⟩
        rcases hc with rfl | hc
        · exact absurd (hk u hu) (Nat.not_lt_of_le hle)
        · exact hb c hc hle
      · refine Or.inr ⟨Or.inl rfl, fun c hc _ => ?_⟩
        rcases hc with rfl | hc
        · exact Nat.le_refl _
        · exact Nat.le_of_lt (hk c (h.PS c (h.CP c hc)))
  · rcases hu with rfl | hu
    · exact absurd (Or.inl rfl) hp
    · have hpu : ¬ P u := fun hh => hp (Or.inr hh)
      show _ ≤ N' u
      rcases hfrom with ⟨_, hN'⟩ | ⟨v, N1, _, hl, hN'⟩
      · rw [hN' u (hne u hu)]; exact h.fin u hu hpu
      · rw [hN' u (hne u hu), hl.same u fun he => hpu (he ▸ hl.top.1)]; exact h.fin u hu hpu

theorem AX.ret (h : AX g S P C Vis pos lab N) {v : Nat} (hv : IsTop P pos v) (hfull : outDegree g v ≤ N v) (hc : ¬ C v) :
    AX g S (fun u => P u ∧ u ≠ v) C Vis pos lab N := by
  obtain ⟨x, hx, hlt, _⟩ := h.esc v (h.PS v hv.1) hc
  obtain ⟨q, hq, hqx⟩ := h.base x hx
  have hqv : q ≠ v := fun he => Nat.lt_irrefl _ (Nat.lt_of_le_of_lt (he ▸ hqx) hlt)
  refine ⟨fun p hp => h.PS p hp.1, fun c hc' => ⟨h.CP c hc', fun he => hc (he ▸ hc')⟩, fun u hu => ?_, h.fwd, h.esc, h.expl,
    fun u hu hp => ?_, h.final⟩
  · obtain ⟨p, hp, hle⟩ := h.base u hu
    by_cases hpv : p = v
    · exact ⟨q, ⟨hq, hqv⟩, Nat.le_trans hqx (Nat.le_of_lt (Nat.lt_of_lt_of_le hlt (hpv ▸ hle)))⟩
    · exact ⟨p, ⟨hp, hpv⟩, hle⟩
  · by_cases huv : u = v
    · exact huv ▸ hfull
    · exact h.fin u hu fun hh => hp ⟨hh, huv⟩

theorem AX.pop (h : AX g S P C Vis pos lab N) {v c : Nat} {lab' : Nat → Nat} (hv : IsTop P pos v) (hfull : outDegree g v ≤ N v) (hc : C v)
    (hinj : ∀ u, P u → pos u = pos v → u = v)
    (hold : ∀ a, Vis a ∧ ¬ S a → lab' a = lab a ∧ lab a ≠ c) (hnew : ∀ u, S u → pos v ≤ pos u → Vis u ∧ lab' u = c) :
    AX g (fun u => S u ∧ pos u < pos v) (fun u => P u ∧ u ≠ v) (fun u => C u ∧ u ≠ v) Vis pos lab' N := by
  have hvS := h.PS v hv.1
  have hlt : ∀ p, P p → p ≠ v → pos p < pos v := fun p hp hne =>
    Nat.lt_of_le_of_ne (hv.2 p hp) fun he => hne (hinj p hp he)
  -- all edges of a popped node have been explored, and lead to popped or assigned nodes
  have hedges : ∀ u x, S u → pos v ≤ pos u → E g u x → (Vis x ∧ ¬ S x) ∨ (S x ∧ pos v ≤ pos x) := by
    intro u x hu hle he
    have hfu : outDegree g u ≤ N u := by
      by_cases huv : u = v
      · exact huv ▸ hfull
      · exact h.fin u hu fun hp => Nat.lt_irrefl _ (Nat.lt_of_lt_of_le (hlt u hp huv) hle)
    exact (h.expl u x hu (explored_of_full hfu he)).imp_right fun ⟨hx, hb⟩ => ⟨hx, hb v hc hle⟩
  -- what is off the open nodes now was so before or has been popped
  have hA : ∀ x, Vis x ∧ ¬ (S x ∧ pos x < pos v) ↔ (Vis x ∧ ¬ S x) ∨ (S x ∧ pos v ≤ pos x) := by
    intro x
    constructor
    · rintro ⟨hvx, hn⟩
      by_cases hs : S x
      · exact Or.inr ⟨hs, Nat.le_of_not_lt fun hlt => hn ⟨hs, hlt⟩⟩
      · exact Or.inl ⟨hvx, hs⟩
    · rintro (ha | ha)
      · exact ⟨ha.1, fun hs => ha.2 hs.1⟩
      · exact ⟨(hnew x ha.1 ha.2).1, fun hs => Nat.lt_irrefl _ (Nat.lt_of_lt_of_le hs.2 ha.2)⟩
  refine ⟨fun p hp => ⟨h.PS p hp.1, hlt p hp.1 hp.2⟩, fun c hc => ⟨h.CP c hc.1, hc.2⟩, fun u hu => ?_,
    fun u x hu hx => h.fwd u x hu.1 hx.1, fun u hu hcu => ?_, fun u x hu hex => ?_, fun u hu hp => ?_,
    Final.congr ⟨fun a x ha he => ?_, fun a a' ha ha' => ?_⟩ hA fun _ _ => rfl⟩
  · obtain ⟨p, hp, hle⟩ := h.base u hu.1
    exact ⟨p, ⟨hp, fun he => Nat.lt_irrefl _ (Nat.lt_of_lt_of_le hu.2 (he ▸ hle))⟩, hle⟩
  · obtain ⟨x, hx, hxu, hr⟩ := h.esc u hu.1 fun hh => hcu ⟨hh, fun he => Nat.lt_irrefl _ (he ▸ hu.2)⟩
    exact ⟨x, ⟨hx, Nat.lt_trans hxu hu.2⟩, hxu, hr⟩
  · rcases h.expl u x hu.1 hex with ha | ⟨hx, hb⟩
    · exact Or.inl ((hA x).mpr (Or.inl ha))
    · by_cases hxv : pos x < pos v
      · exact Or.inr ⟨⟨hx, hxv⟩, fun c hc => hb c hc.1⟩
      · exact Or.inl ((hA x).mpr (Or.inr ⟨hx, Nat.le_of_not_lt hxv⟩))
  · exact h.fin u hu.1 fun hh => hp ⟨hh, fun he => Nat.lt_irrefl _ (he ▸ hu.2)⟩
  · rcases ha with ha | ha
    · exact Or.inl (h.final.closed a x ha he)
    · exact hedges a x ha.1 ha.2 he
  · refine exact_add_component (P := fun u => S u ∧ pos v ≤ pos u) h.final.closed h.final.exact (fun a ha hs => ha.2 hs.1)
      (fun u u' hu hu' => ?_) hold (fun u hu => (hnew u hu.1 hu.2).2) ha ha'
    -- popped nodes reach `v`, which reaches everything above it
    exact (h.reach_top hv u hu.1).trans (h.fwd v u' hvS hu'.1 hu'.2)

end Tbx.Scc
