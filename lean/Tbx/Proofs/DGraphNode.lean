import Tbx.Proofs.DGraphBasic
namespace Tbx.DG
open Tbx

theorem insertNode_shape (g g' : Graph) (h : insertNode g = some g') :
    g.nodes.size ≠ 0 ∧ g'.nodes = g.nodes.push ⟨(gt g.nodes (g.nodes.size - 1)).first, 0⟩ ∧
    g'.edges = g.edges ∧ g'.numNodes = g.numNodes + 1 ∧ g'.numEdges = g.numEdges := by
  unfold insertNode at h
  split at h
  · cases h
  · cases h; exact ⟨by assumption, rfl, rfl, rfl, rfl⟩

theorem insertNode_inv (g : Graph) (hI : Inv g) :
    ∃ g', insertNode g = some g' ∧ Inv g' ∧ g'.numNodes = g.numNodes + 1 ∧ g'.numEdges = g.numEdges ∧
      (∀ v, adjM g' v = adjM g v) := by
  have hsz := hI.size
  obtain ⟨g', h⟩ : ∃ g', insertNode g = some g' := by
    unfold insertNode
    rw [if_neg (by omega)]
    exact ⟨_, rfl⟩
  refine ⟨g', h, ?_⟩
  obtain ⟨_, hn, he, hnn, hne⟩ := insertNode_shape g g' h
  have hext : ∀ v, ¬ v < g.nodes.size → (gt g.nodes v).count = 0 := fun v hv =>
    hI.extra v (Nat.le_trans (Nat.le_add_right _ 2) (hsz ▸ Nat.le_of_not_lt hv))
  have hfirst : ∀ v, v < g.nodes.size → gt g'.nodes v = gt g.nodes v := by
    intro v hv; rw [hn]; exact gt_push_lt _ _ _ hv
  have hcnt : ∀ v, (gt g'.nodes v).count = (gt g.nodes v).count := by
    intro v
    by_cases h1 : v < g.nodes.size
    · rw [hfirst v h1]
    · rw [hn, gt_push, if_neg h1, hext v h1]
      split <;> rfl
  have howns : ∀ v e, owns g' v e ↔ owns g v e := by
    intro v e
    unfold owns
    by_cases h1 : v < g.nodes.size
    · rw [hfirst v h1]
    · rw [hcnt v, hext v h1, Nat.add_zero, Nat.add_zero]
      exact iff_of_false (fun h => Nat.lt_irrefl _ (Nat.lt_of_lt_of_le h.2 h.1))
        (fun h => Nat.lt_irrefl _ (Nat.lt_of_lt_of_le h.2 h.1))
  refine ⟨⟨?_, ?_, ?_, ?_, ?_, ?_, ?_⟩, hnn, hne, ?_⟩
  · rw [hn, hnn, Array.size_push, hsz]
  · intro v hv
    rw [hn, Array.size_push] at hv
    rw [he]
    by_cases h1 : v < g.nodes.size
    · rw [hfirst v h1]; exact hI.bound v h1
    · -- the new entry: an empty slice at the start of the last one
      have h2 : v = g.nodes.size := Nat.le_antisymm (Nat.le_of_lt_succ hv) (Nat.le_of_not_lt h1)
      have hl : g.nodes.size - 1 < g.nodes.size := Nat.sub_lt (hsz ▸ Nat.succ_pos _) Nat.one_pos
      rw [h2, hn, gt_push_eq]
      exact Nat.le_trans (Nat.le_add_right _ _) (hI.bound _ hl)
  · intro v hv
    rw [hnn] at hv
    rw [hcnt]; exact hI.extra v (Nat.le_of_succ_le hv)
  · intro u v e h1 h2
    exact hI.disj u v e ((howns u e).mp h1) ((howns v e).mp h2)
  · intro v e h1
    rw [he]
    exact hI.used v e ((howns v e).mp h1)
  · intro e he' hne'
    rw [he] at he' hne'
    obtain ⟨v, hv, ho⟩ := hI.spare e he' hne'
    exact ⟨v, hnn ▸ Nat.lt_succ_of_lt hv, (howns v e).mpr ho⟩
  · rw [hnn, hne]
    simp only [sumCounts]
    rw [hcnt, hI.extra g.numNodes (Nat.le_refl _), sumCounts_eq, sumTo_congr _ _ _ fun v _ => hcnt v, ← sumCounts_eq]
    exact hI.edges
  · intro v
    unfold adjM
    rw [hnn]
    by_cases h1 : v < g.numNodes
    · rw [if_pos h1, if_pos (Nat.lt_succ_of_lt h1)]
      exact adjList_congr g _ v (hfirst v (hsz ▸ Nat.lt_add_right 2 h1)) (fun _ _ => by rw [he])
    · rw [if_neg h1]
      split
      · have h0 : (gt g'.nodes v).count = 0 := by rw [hcnt]; exact hI.extra v (Nat.le_of_not_lt h1)
        simp [adjList, edgeRange, outDegree, h0]
      · rfl

theorem le_add_sub (a b : Nat) : a ≤ b + (a - b) := by omega

theorem ensureNode_inv (fuel : Nat) (g : Graph) (v : Nat) (hI : Inv g) (hf : v + 1 ≤ g.numNodes + fuel) :
    ∃ g', ensureNode fuel g v = some g' ∧ Inv g' ∧ g'.numNodes = max g.numNodes (v + 1) ∧
      g'.numEdges = g.numEdges ∧ (∀ u, adjM g' u = adjM g u) := by
  induction fuel generalizing g with
  | zero =>
    have hf : v < g.numNodes := hf
    refine ⟨g, ?_, hI, (Nat.max_eq_left hf).symm, rfl, fun _ => rfl⟩
    simp only [ensureNode]
    rw [if_neg (Nat.not_le.mpr hf)]
  | succ fuel ih =>
    simp only [ensureNode]
    by_cases hle : g.numNodes ≤ v
    · rw [if_pos hle]
      obtain ⟨g1, hg1, hI1, hn1, hm1, ha1⟩ := insertNode_inv g hI
      rw [hg1]
      obtain ⟨g', hg', hI', hn', hm', ha'⟩ := ih g1 hI1 (by rw [hn1, Nat.add_right_comm]; exact hf)
      refine ⟨g', hg', hI', ?_, hm'.trans hm1, fun u => (ha' u).trans (ha1 u)⟩
      rw [hn', hn1, Nat.max_eq_right (Nat.succ_le_succ hle), Nat.max_eq_right (Nat.le_succ_of_le hle)]
    · rw [if_neg hle]
      exact ⟨g, rfl, hI, (Nat.max_eq_left (Nat.lt_of_not_le hle)).symm, rfl, fun _ => rfl⟩

end Tbx.DG
