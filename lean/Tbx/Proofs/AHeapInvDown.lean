import Tbx.Proofs.AHeapInvBasic
/-
`down_heap`: the child it compares with (`minChild`); order (`down_step_ord`, `close_hole_down` of AHeapOrder.lean)
and pointers (`PInv.move`) go through `downLoop` in one induction, `downLoop_spec`.
-/
namespace Tbx.AHeap
open Tbx

/-- the child `down_heap` compares with: the lighter one (the left one on ties) -/
def minChild (h : Array Elem) (key : Nat) : Nat :=
  if 2 * key + 1 < h.size ∧ (gt h (2 * key)).weight > (gt h (2 * key + 1)).weight then 2 * key + 1
  else 2 * key

theorem downLoop_succ (fuel : Nat) (h : Array Elem) (ns : Array Node) (key : Nat) (w : Int) :
    downLoop (fuel + 1) h ns key w =
      if 2 * key < h.size then
        if w ≤ (gt h (minChild h key)).weight then (h, ns, key)
        else downLoop fuel (st h key (gt h (minChild h key)))
               (setKey ns (gt (st h key (gt h (minChild h key))) key).index key) (minChild h key) w
      else (h, ns, key) := by
  rfl

theorem minChild_bounds (h : Array Elem) (key : Nat) (hk : 2 * key < h.size) :
    2 * key ≤ minChild h key ∧ minChild h key ≤ 2 * key + 1 ∧ minChild h key < h.size := by
  unfold minChild
  split
  · rename_i hc; exact ⟨Nat.le_succ _, Nat.le_refl _, hc.1⟩
  · exact ⟨Nat.le_refl _, Nat.le_succ _, hk⟩

theorem minChild_min (h : Array Elem) (key : Nat) :
    minChild h key / 2 = key ∧
    ∀ k, k < h.size → k / 2 = key → (gt h (minChild h key)).weight ≤ (gt h k).weight := by
  have children : ∀ k, k / 2 = key → k = 2 * key ∨ k = 2 * key + 1 := fun k e => by omega
  unfold minChild
  split
  · rename_i hc
    refine ⟨by rw [Nat.mul_add_div Nat.two_pos]; rfl, fun k _ k2 => ?_⟩
    rcases children k k2 with rfl | rfl
    · exact Int.le_of_lt hc.2
    · exact Int.le_refl _
  · rename_i hc
    refine ⟨Nat.mul_div_cancel_left key Nat.two_pos, fun k k1 k2 => ?_⟩
    rcases children k k2 with rfl | rfl
    · exact Int.le_refl _
    · exact Int.not_lt.mp fun g => hc ⟨k1, g⟩

/-- the third conjunct is what `close_hole_down` asks -/
theorem downLoop_spec (fuel : Nat) (h : Array Elem) (ns : Array Node) (key : Nat) (w : Int)
    (r x : Nat) (lo : Int)
    (hf : h.size ≤ key + fuel) (ho : OrdD h key w) (hb : 2 ≤ key → Below h key)
    (P : PInv h ns key r x lo) {h' : Array Elem} {ns' : Array Node} {key' : Nat}
    (e : downLoop fuel h ns key w = (h', ns', key')) :
    h'.size = h.size ∧ OrdD h' key' w ∧
    (∀ k, 2 ≤ k → k < h.size → k / 2 = key' → w ≤ (gt h' k).weight) ∧
    PInv h' ns' key' r x lo ∧ Frame ns ns' ∧ gt h' 0 = gt h 0 := by
  induction fuel generalizing h ns key with
  | zero => exact absurd P.hole_lt (Nat.not_lt.mpr hf)
  | succ fuel ih =>
    have hpos := P.hole_pos
    have hlt := P.hole_lt
    rw [downLoop_succ] at e
    split at e
    · rename_i hnext
      obtain ⟨m3, _, m2⟩ := minChild_bounds h key hnext
      have hkc : key < minChild h key := by omega
      have hf' : h.size ≤ minChild h key + fuel := by omega
      obtain ⟨m1, m4⟩ := minChild_min h key
      split at e
      · rename_i hle
        cases e
        exact ⟨rfl, ho, fun k _ k2 k3 => Int.le_trans hle (m4 k k2 k3), P, Frame.refl _, rfl⟩
      · rename_i hgt
        rw [gt_st_eq _ _ _ hlt] at e
        have hm := P.move (minChild h key) (Nat.le_trans hpos (Nat.le_of_lt hkc)) m2 (Nat.ne_of_gt hkc)
        obtain ⟨so, sb⟩ := down_step_ord h key w (minChild h key) hpos hlt m1 m2 m4
          (Int.le_of_lt (Int.not_le.mp hgt)) ho hb
        obtain ⟨a1, a2, a3, a4, a5, a6⟩ := ih (st h key (gt h (minChild h key))) _ (minChild h key)
          ((size_st h _ _).symm ▸ hf') so (fun _ => sb) hm.1 e
        rw [size_st] at a1 a3
        exact ⟨a1, a2, a3, a4, hm.2.trans a5, a6.trans (gt_st_ne _ _ _ _ (Nat.ne_of_gt hpos))⟩
    · rename_i hnext
      cases e
      exact ⟨rfl, ho, fun k _ k2 k3 => absurd (Nat.lt_of_le_of_lt (k3 ▸ Nat.mul_div_le k 2) k2) hnext,
        P, Frame.refl _, rfl⟩

/-- the fuel `down_heap` passes (`heap.len()`) is sufficient -/
theorem downLoop_fuel (fuel : Nat) (h : Array Elem) (ns : Array Node) (key : Nat) (w : Int)
    (h1 : 1 ≤ key) (hf : h.size ≤ key + fuel) :
    downLoop (fuel + 1) h ns key w = downLoop fuel h ns key w := by
  induction fuel generalizing h ns key with
  | zero =>
    rw [downLoop_succ, if_neg fun h => absurd (Nat.lt_of_lt_of_le h hf)
      (Nat.not_lt.mpr (Nat.le_mul_of_pos_left key Nat.two_pos))]
    rfl
  | succ fuel ih =>
    rw [downLoop_succ (fuel + 1) h ns key w, downLoop_succ fuel h ns key w]
    split
    · rename_i hnext
      obtain ⟨m3, _, _⟩ := minChild_bounds h key hnext
      split
      · rfl
      · exact ih _ _ _ (Nat.le_trans h1 (Nat.le_trans (Nat.le_mul_of_pos_left key Nat.two_pos) m3))
          (by rw [size_st]; omega)
    · rfl

theorem downHeap_heap (s : Heap) (key : Nat) :
    (downHeap s key).heap =
      st (downLoop s.heap.size s.heap s.nodes key (gt s.heap key).weight).1
         (downLoop s.heap.size s.heap s.nodes key (gt s.heap key).weight).2.2
         ⟨(gt s.heap key).index, (gt s.heap key).weight⟩ := rfl

theorem downHeap_nodes (s : Heap) (key : Nat) :
    (downHeap s key).nodes =
      setKey (downLoop s.heap.size s.heap s.nodes key (gt s.heap key).weight).2.1 (gt s.heap key).index
         (downLoop s.heap.size s.heap s.nodes key (gt s.heap key).weight).2.2 := rfl

@[simp] theorem downHeap_idx (s : Heap) (key : Nat) : (downHeap s key).idx = s.idx := rfl
@[simp] theorem downHeap_wmin (s : Heap) (key : Nat) : (downHeap s key).wmin = s.wmin := rfl
@[simp] theorem downHeap_wmax (s : Heap) (key : Nat) : (downHeap s key).wmax = s.wmax := rfl

/-- `down_heap(key)` from a state in which the element at `key` is linked except that its node may
carry a stale key -/
theorem downHeap_spec (s : Heap) (key x : Nat) (lo : Int)
    (P : PInv s.heap s.nodes key (gt s.heap key).index x lo)
    (hw : (gt s.nodes (gt s.heap key).index).weight = (gt s.heap key).weight)
    (hlo : lo ≤ (gt s.heap key).weight)
    (ho : OrdD s.heap key (gt s.heap key).weight) (hb : 2 ≤ key → Below s.heap key) :
    Sifted s (downHeap s key) x lo := by
  unfold Sifted
  rw [downHeap_heap, downHeap_nodes]
  obtain ⟨a1, a2, a3, a4, a5, a6⟩ := downLoop_spec s.heap.size s.heap s.nodes key (gt s.heap key).weight
    _ x lo (Nat.le_add_left _ _) ho hb P rfl
  obtain ⟨c1, c2, c3, c4⟩ := a4.close (gt s.heap key).weight ((congrArg PQ.Entry.weight (a5.2 _)).trans hw) hlo
  exact ⟨(size_st _ _ _).trans a1, close_hole_down _ _ _ _ a4.hole_lt a2 fun k k1 k2 k3 => a3 k k1 (a1 ▸ k2) k3,
    c1, a5.trans c2, fun k hk => c3 k (a1.symm ▸ hk), c4.trans a6⟩

end Tbx.AHeap
