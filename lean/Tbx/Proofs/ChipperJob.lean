import Tbx.Model.Chipper
import Tbx.Proofs.ChipperIds
/-
One job of chipper: what `processJob` does to the id array and which jobs it creates, as pure functions of the
bisection result (`newId`, `children`), under the conditions the inertial-flow step guarantees (`ResOK`).
Left and right are treated as one: `side res b` is the side `b` of a result, `sideOf res x` the side that holds `x`.
-/
namespace Tbx.Chipper
open Tbx Tbx.Gen Tbx.InertialFlow Tbx.Props.GenFns Tbx.Hierarchy

@[simp] theorem size_mapAt (f : Nat → Nat) (pid : Array Nat) (ids : List Nat) :
    (mapAt f pid ids).size = pid.size := by
  induction ids generalizing pid with
  | nil => rfl
  | cons i rest ih => simp [mapAt, ih]

theorem gt_mapAt (f : Nat → Nat) (pid : Array Nat) (ids : List Nat) (x : Nat) (hnd : ids.Nodup)
    (hlt : ∀ i ∈ ids, i < pid.size) :
    gt (mapAt f pid ids) x = if x ∈ ids then f (gt pid x) else gt pid x := by
  induction ids generalizing pid with
  | nil => rfl
  | cons i rest ih =>
    obtain ⟨hi, hnd'⟩ := List.nodup_cons.mp hnd
    rw [mapAt, ih _ hnd' (fun j hj => by rw [size_st]; exact hlt j (List.mem_cons_of_mem _ hj))]
    by_cases hxi : x = i
    · subst hxi
      rw [if_neg hi, if_pos List.mem_cons_self, gt_st_eq _ _ _ (hlt x List.mem_cons_self)]
    · rw [gt_st_ne _ _ _ _ (Ne.symm hxi)]
      simp only [List.mem_cons, hxi, false_or]

structure JobOK (n : Nat) (job : Job) : Prop where
  nodup : job.ids.Nodup
  lt    : ∀ x ∈ job.ids, x < n
  two   : 2 ≤ job.ids.length
  src   : ∀ e ∈ job.edges, e.1 ∈ job.ids
  small : 2 * job.edges.length + 6 < Tbx.Flow.INV     -- the solver's node ids stay below usize::MAX

structure ResOK (job : Job) (res : FlowRes) : Prop where
  nodup : (res.left ++ res.right).Nodup
  sub   : ∀ x ∈ res.left ++ res.right, x ∈ job.ids
  cover : ∀ e ∈ job.edges, e.1 ∈ res.left ++ res.right

def side (res : FlowRes) : Bool → List Nat
  | false => res.left
  | true => res.right

def sideOf (res : FlowRes) (x : Nat) : Option Bool :=
  if x ∈ res.left then some false else if x ∈ res.right then some true else none

theorem sideOf_eq_none {res : FlowRes} {x : Nat} : sideOf res x = none ↔ x ∉ res.left ++ res.right := by
  unfold sideOf
  by_cases hL : x ∈ res.left <;> by_cases hR : x ∈ res.right <;> simp [hL, hR]

theorem sideOf_eq_some {job : Job} {res : FlowRes} (hres : ResOK job res) {x : Nat} {b : Bool} :
    sideOf res x = some b ↔ x ∈ side res b := by
  have hLR : x ∈ res.left → x ∉ res.right := fun h1 h2 => (List.nodup_append.mp hres.nodup).2.2 x h1 x h2 rfl
  unfold sideOf
  by_cases hL : x ∈ res.left
  · cases b <;> simp [side, hL, hLR hL]
  · by_cases hR : x ∈ res.right <;> cases b <;> simp [side, hL, hR]

theorem mem_of_mem_side {res : FlowRes} {b : Bool} {x : Nat} (h : x ∈ side res b) : x ∈ res.left ++ res.right := by
  cases b
  · exact List.mem_append_left _ h
  · exact List.mem_append_right _ h

theorem ResOK.side_nodup {job : Job} {res : FlowRes} (hres : ResOK job res) (b : Bool) : (side res b).Nodup := by
  obtain ⟨hL, hR, _⟩ := List.nodup_append.mp hres.nodup
  cases b
  · exact hL
  · exact hR

theorem ResOK.side_sub {job : Job} {res : FlowRes} (hres : ResOK job res) (b : Bool) :
    ∀ x ∈ side res b, x ∈ job.ids :=
  fun x hx => hres.sub x (mem_of_mem_side hx)

/-- one step to the node's side, padded at once if that side is not split further -/
def newId (cfg : Cfg) (lvl : Nat) (res : FlowRes) (x old : Nat) : Nat :=
  match sideOf res x with
  | none => old
  | some b =>
    if (side res b).length > cfg.m then childId b old else descend b (childId b old) (cfg.r - lvl - 1)

def subJob (job : Job) (side : List Nat) : Job :=
  { edges := job.edges.filter fun e => side.contains e.1, ids := side }

def children (cfg : Cfg) (job : Job) (res : FlowRes) : List Job :=
  (if res.left.length > cfg.m then [subJob job res.left] else []) ++
  (if res.right.length > cfg.m then [subJob job res.right] else [])

theorem mem_children {cfg : Cfg} {job : Job} {res : FlowRes} {c : Job} :
    c ∈ children cfg job res ↔ ∃ b, (side res b).length > cfg.m ∧ c = subJob job (side res b) := by
  unfold children
  by_cases hl : res.left.length > cfg.m <;> by_cases hr : res.right.length > cfg.m <;> simp [hl, hr, side]

theorem newId_of_not_mem (cfg : Cfg) (lvl : Nat) (res : FlowRes) (x old : Nat)
    (h : x ∉ res.left ++ res.right) : newId cfg lvl res x old = old := by
  rw [newId, sideOf_eq_none.mpr h]

theorem isLeft_makeLeft (x : Nat) : pidIsLeftChild (pidMakeLeftChild x) = true := by
  rw [make_left_child_eq]; exact (left_child_is_left x).1

theorem isLeft_makeRight (x : Nat) : pidIsLeftChild (pidMakeRightChild x) = false := by
  rw [make_right_child_eq]; exact (right_child_is_right x).2

theorem processJob_spec (cfg : Cfg) (lvl : Nat) (pid : Array Nat) (job : Job) (res : FlowRes)
    (hres : ResOK job res) (hlt : ∀ x ∈ res.left ++ res.right, x < pid.size) :
    (processJob cfg lvl pid job res).1.size = pid.size ∧
    (∀ x, gt (processJob cfg lvl pid job res).1 x = newId cfg lvl res x (gt pid x)) ∧
    (processJob cfg lvl pid job res).2 = children cfg job res := by
  -- one id loop over a side changes exactly the nodes of that side
  have g : ∀ (b : Bool) (f : Nat → Nat) (pid' : Array Nat) (x : Nat), pid'.size = pid.size →
      gt (mapAt f pid' (side res b)) x = if sideOf res x = some b then f (gt pid' x) else gt pid' x := by
    intro b f pid' x hs
    rw [gt_mapAt _ _ _ _ (hres.side_nodup b) fun i hi => hs ▸ hlt i (mem_of_mem_side hi)]
    simp only [sideOf_eq_some hres]
  have gL : ∀ f pid' x, pid'.size = pid.size →
      gt (mapAt f pid' res.left) x = if sideOf res x = some false then f (gt pid' x) else gt pid' x := g false
  have gR : ∀ f pid' x, pid'.size = pid.size →
      gt (mapAt f pid' res.right) x = if sideOf res x = some true then f (gt pid' x) else gt pid' x := g true
  -- the edge split: after the two child loops the id of an edge's source tells its side
  have hE : ∀ e ∈ job.edges,
      pidIsLeftChild (gt (mapAt pidMakeRightChild (mapAt pidMakeLeftChild pid res.left) res.right) e.1) =
        res.left.contains e.1 ∧
      (!pidIsLeftChild (gt (mapAt pidMakeRightChild (mapAt pidMakeLeftChild pid res.left) res.right) e.1)) =
        res.right.contains e.1 := by
    intro e he
    rw [gR _ _ _ (size_mapAt _ _ _), gL _ _ _ rfl]
    cases hs : sideOf res e.1 with
    | none => exact absurd (hres.cover e he) (sideOf_eq_none.mp hs)
    | some b =>
      have hmem : ∀ b', e.1 ∈ side res b' ↔ b = b' := fun b' => by
        rw [← sideOf_eq_some hres, hs]; exact Option.some_inj
      have hL : e.1 ∈ res.left ↔ b = false := hmem false
      have hR : e.1 ∈ res.right ↔ b = true := hmem true
      cases b <;> simp [hL, hR, isLeft_makeLeft, isLeft_makeRight]
  -- projections and reads go inside the `if`s of the padding stage; each loop is then read through `g`
  simp only [processJob, apply_ite Prod.fst, apply_ite Prod.snd]
  rw [List.filter_congr fun e he => (hE e he).1, List.filter_congr fun e he => (hE e he).2]
  refine ⟨by simp only [apply_ite Array.size, size_mapAt, ite_self], fun x => ?_, rfl⟩
  simp only [newId, apply_ite (gt · x), apply_ite Array.size, gL, gR, size_mapAt, ite_self]
  cases sideOf res x with
  | none => simp
  | some b => cases b <;> simp [side, descend, childId]

theorem subJob_ok {n : Nat} {job : Job} {side : List Nat} (hjob : JobOK n job)
    (hnd : side.Nodup) (hsub : ∀ x ∈ side, x ∈ job.ids) (htwo : 2 ≤ side.length) :
    JobOK n (subJob job side) where
  nodup := hnd
  lt := fun x hx => hjob.lt x (hsub x hx)
  two := htwo
  src := by
    intro e he
    have := (List.mem_filter.mp he).2
    exact List.contains_iff_mem.mp this
  small := by
    have h1 : (subJob job side).edges.length ≤ job.edges.length := List.length_filter_le _ _
    have h2 := hjob.small
    omega

theorem children_ok {n : Nat} {cfg : Cfg} {job : Job} {res : FlowRes} (hm : 1 ≤ cfg.m)
    (hjob : JobOK n job) (hres : ResOK job res) :
    ∀ c ∈ children cfg job res, JobOK n c ∧ ∀ x ∈ c.ids, x ∈ job.ids := by
  intro c hc
  obtain ⟨b, hbig, rfl⟩ := mem_children.mp hc
  exact ⟨subJob_ok hjob (hres.side_nodup b) (hres.side_sub b) (by omega), hres.side_sub b⟩

def Disj (a b : Job) : Prop := ∀ x, x ∈ a.ids → x ∉ b.ids

theorem children_disj {cfg : Cfg} {job : Job} {res : FlowRes} (hres : ResOK job res) :
    (children cfg job res).Pairwise Disj := by
  obtain ⟨_, _, hdisj⟩ := List.nodup_append.mp hres.nodup
  unfold children
  by_cases hl : res.left.length > cfg.m <;> by_cases hr : res.right.length > cfg.m <;>
    simp [hl, hr, Disj, subJob]
  intro x h1 h2
  exact hdisj x h1 x h2 rfl

end Tbx.Chipper
