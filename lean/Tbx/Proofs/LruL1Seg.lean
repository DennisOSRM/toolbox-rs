import Tbx.Model.LruL1
/-
Separation-style lemmas for the pointer model (L1): what a chain of nodes in memory is (`Seg`),
how it splits, and how single-field writes act on it.

A chain is described by the list of its (address, element) pairs FRONT FIRST.  In memory,
`next` of a node is the address of its predecessor in that list (towards the front) and `prev`
the address of its successor (towards the back).
-/
namespace Tbx.LruL1
open Tbx

variable {T : Type}

def headOr : List (Nat × T) → Option Nat → Option Nat
  | [], pv => pv
  | (a, _) :: _, _ => some a

def lastOr : List (Nat × T) → Option Nat → Option Nat
  | [], nx => nx
  | (a, _) :: r, _ => lastOr r (some a)

/-- `l` is laid out in `cells` as a doubly linked chain whose first node's `next` is `nx` and whose
    last node's `prev` is `pv` -/
def Seg (cells : Array (Option (Node T))) : Option Nat → List (Nat × T) → Option Nat → Prop
  | _, [], _ => True
  | nx, (a, t) :: rest, pv => gt cells a = some ⟨nx, headOr rest pv, t⟩ ∧ Seg cells (some a) rest pv

abbrev addrs (l : List (Nat × T)) : List Nat := l.map (·.1)

theorem addrs_append (l1 l2 : List (Nat × T)) : addrs (l1 ++ l2) = addrs l1 ++ addrs l2 := List.map_append

theorem nodup_addrs_concat {l : List (Nat × T)} {a : Nat} {t : T} (h : (addrs (l ++ [(a, t)])).Nodup) :
    (addrs l).Nodup ∧ a ∉ addrs l := by
  rw [addrs_append, List.nodup_append] at h
  exact ⟨h.1, fun hm => h.2.2 a hm a (List.mem_singleton.2 rfl) rfl⟩

theorem headOr_append (l1 l2 : List (Nat × T)) (pv : Option Nat) :
    headOr (l1 ++ l2) pv = headOr l1 (headOr l2 pv) := by
  cases l1 with
  | nil => rfl
  | cons p l1 => rfl

theorem lastOr_append (l1 l2 : List (Nat × T)) (nx : Option Nat) :
    lastOr (l1 ++ l2) nx = lastOr l2 (lastOr l1 nx) := by
  induction l1 generalizing nx with
  | nil => rfl
  | cons p l1 ih => exact ih _

theorem lastOr_concat (l : List (Nat × T)) (a : Nat) (t : T) (nx : Option Nat) :
    lastOr (l ++ [(a, t)]) nx = some a := by
  rw [lastOr_append]; rfl

theorem lastOr_cons_indep (p : Nat × T) (l : List (Nat × T)) (nx nx' : Option Nat) :
    lastOr (p :: l) nx = lastOr (p :: l) nx' := rfl

theorem lastOr_ne_nil (l : List (Nat × T)) (h : l ≠ []) (nx nx' : Option Nat) :
    lastOr l nx = lastOr l nx' := by
  cases l with
  | nil => exact absurd rfl h
  | cons p l => rfl

theorem headOr_eq_head? (l : List (Nat × T)) : headOr l none = l.head?.map (·.1) := by
  cases l with
  | nil => rfl
  | cons p l => rfl

theorem lastOr_eq_getLast? (l : List (Nat × T)) (nx : Option Nat) :
    lastOr l nx = (l.getLast?.map (·.1)).or nx := by
  induction l generalizing nx with
  | nil => rfl
  | cons p l ih =>
    show lastOr l (some p.1) = _
    rw [ih]
    cases l with
    | nil => rfl
    | cons q l =>
      rw [List.getLast?_cons_cons]
      cases h : (q :: l).getLast? with
      | none => simp at h
      | some r => simp

theorem seg_append (cells : Array (Option (Node T))) (l1 l2 : List (Nat × T)) (nx pv : Option Nat) :
    Seg cells nx (l1 ++ l2) pv ↔ Seg cells nx l1 (headOr l2 pv) ∧ Seg cells (lastOr l1 nx) l2 pv := by
  induction l1 generalizing nx with
  | nil => simp [Seg, lastOr]
  | cons p l1 ih =>
    obtain ⟨a, t⟩ := p
    simp only [List.cons_append, Seg, lastOr, headOr_append, ih, and_assoc]

theorem seg_concat (cells : Array (Option (Node T))) (l : List (Nat × T)) (a : Nat) (t : T) (nx pv : Option Nat) :
    Seg cells nx (l ++ [(a, t)]) pv ↔ Seg cells nx l (some a) ∧ gt cells a = some ⟨lastOr l nx, pv, t⟩ := by
  rw [seg_append]; simp only [Seg, headOr, and_true]

theorem seg_frame (cells cells' : Array (Option (Node T))) (l : List (Nat × T)) (nx pv : Option Nat)
    (h : ∀ a ∈ addrs l, gt cells' a = gt cells a) (hs : Seg cells nx l pv) : Seg cells' nx l pv := by
  induction l generalizing nx with
  | nil => trivial
  | cons p l ih =>
    obtain ⟨a, t⟩ := p
    simp only [Seg] at hs ⊢
    refine ⟨by rw [h a (by simp [addrs])]; exact hs.1, ih _ (fun a' ha' => h a' (by simp [addrs] at ha' ⊢; exact Or.inr ha')) hs.2⟩

theorem seg_mem (cells : Array (Option (Node T))) (l : List (Nat × T)) (nx pv : Option Nat)
    (hs : Seg cells nx l pv) (a : Nat) (t : T) (hm : (a, t) ∈ l) :
    ∃ n, gt cells a = some n ∧ n.elem = t := by
  induction l generalizing nx with
  | nil => cases hm
  | cons p l ih =>
    obtain ⟨a', t'⟩ := p
    simp only [Seg] at hs
    rcases List.mem_cons.1 hm with e | e
    · cases e; exact ⟨_, hs.1, rfl⟩
    · exact ih _ hs.2 e

theorem seg_live (cells : Array (Option (Node T))) (l : List (Nat × T)) (nx pv : Option Nat)
    (hs : Seg cells nx l pv) (a : Nat) (hm : a ∈ addrs l) : ∃ n, gt cells a = some n := by
  obtain ⟨p, hp, rfl⟩ := List.mem_map.1 hm
  obtain ⟨n, hn, _⟩ := seg_mem cells l nx pv hs p.1 p.2 hp
  exact ⟨n, hn⟩

theorem lt_size_of_gt_some (cells : Array (Option (Node T))) (a : Nat) (n : Node T)
    (h : gt cells a = some n) : a < cells.size := by
  by_cases hlt : a < cells.size
  · exact hlt
  · rw [gt_of_ge cells a (by omega)] at h; cases h

/-- every field write of the model is one of these; the operation proofs see the array after a write only
    through this relation -/
structure Upd (cells c' : Array (Option (Node T))) (a : Nat) (n' : Node T) : Prop where
  live : ∃ n, gt cells a = some n
  size : c'.size = cells.size
  same : gt c' a = some n'
  other : ∀ a', a' ≠ a → gt c' a' = gt cells a'

theorem upd_st {cells : Array (Option (Node T))} {a : Nat} {n : Node T} (n' : Node T)
    (h : gt cells a = some n) : Upd cells (st cells a (some n')) a n' :=
  ⟨⟨n, h⟩, size_st _ _ _, gt_st_eq _ _ _ (lt_size_of_gt_some _ _ _ h), fun _ ha => gt_st_ne _ _ _ _ (Ne.symm ha)⟩

namespace Upd
variable {cells c' : Array (Option (Node T))} {a : Nat} {n' : Node T}

theorem isSome_eq (u : Upd cells c' a n') (a' : Nat) : (gt c' a').isSome = (gt cells a').isSome := by
  by_cases e : a' = a
  · obtain ⟨n, hn⟩ := u.live
    rw [e, u.same, hn]; rfl
  · rw [u.other a' e]

theorem eq_none_iff (u : Upd cells c' a n') (a' : Nat) : gt c' a' = none ↔ gt cells a' = none := by
  rw [← Option.not_isSome_iff_eq_none, ← Option.not_isSome_iff_eq_none, u.isSome_eq]

theorem seg_frame (u : Upd cells c' a n') {l : List (Nat × T)} {nx pv : Option Nat} (ha : a ∉ addrs l)
    (hs : Seg cells nx l pv) : Seg c' nx l pv :=
  Tbx.LruL1.seg_frame cells c' l nx pv (fun a' ha' => u.other a' (fun e => ha (e ▸ ha'))) hs

theorem seg_head {c : Nat} {t : T} {l : List (Nat × T)} {nx nx' pv : Option Nat}
    (u : Upd cells c' c ⟨nx', headOr l pv, t⟩) (hnd : c ∉ addrs l) (hs : Seg cells nx ((c, t) :: l) pv) :
    Seg c' nx' ((c, t) :: l) pv :=
  ⟨u.same, u.seg_frame hnd hs.2⟩

theorem seg_last {t : T} {l : List (Nat × T)} {nx pv pv' : Option Nat}
    (u : Upd cells c' a ⟨lastOr l nx, pv', t⟩) (hnd : a ∉ addrs l) (hs : Seg cells nx (l ++ [(a, t)]) pv) :
    Seg c' nx (l ++ [(a, t)]) pv' := by
  rw [seg_concat] at hs ⊢
  exact ⟨u.seg_frame hnd hs.1, u.same⟩

end Upd

/-! The memory is given by its two fields, so that the cell array is read off the term `gt cells a` of the
hypothesis and never has to be found by unfolding a projection. -/

section
variable (cells : Array (Option (Node T))) (fr : List Nat) (a : Nat)

theorem rd_ok {n : Node T} (h : gt cells a = some n) : Mem.rd ⟨cells, fr⟩ a = .ok n := by
  simp [Mem.rd, lt_size_of_gt_some cells a n h, h]

variable {nx pv : Option Nat} {t : T}

theorem setNext_ok (v : Option Nat) (h : gt cells a = some ⟨nx, pv, t⟩) :
    ∃ c', Mem.setNext ⟨cells, fr⟩ a v = .ok ⟨c', fr⟩ ∧ Upd cells c' a ⟨v, pv, t⟩ :=
  ⟨_, by simp [Mem.setNext, rd_ok cells fr a h], upd_st _ h⟩

theorem setPrev_ok (v : Option Nat) (h : gt cells a = some ⟨nx, pv, t⟩) :
    ∃ c', Mem.setPrev ⟨cells, fr⟩ a v = .ok ⟨c', fr⟩ ∧ Upd cells c' a ⟨nx, v, t⟩ :=
  ⟨_, by simp [Mem.setPrev, rd_ok cells fr a h], upd_st _ h⟩

theorem setElem_ok (t' : T) (h : gt cells a = some ⟨nx, pv, t⟩) :
    ∃ c', Mem.setElem ⟨cells, fr⟩ a t' = .ok (⟨c', fr⟩, t) ∧ Upd cells c' a ⟨nx, pv, t'⟩ :=
  ⟨_, by simp [Mem.setElem, rd_ok cells fr a h], upd_st _ h⟩

theorem free_ok {n : Node T} (h : gt cells a = some n) :
    Mem.free ⟨cells, fr⟩ a = .ok (⟨st cells a none, a :: fr⟩, n) := by
  simp [Mem.free, rd_ok cells fr a h]

end

end Tbx.LruL1
