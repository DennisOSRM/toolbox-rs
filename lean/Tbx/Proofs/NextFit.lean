import Tbx.Model.NextFit
import Tbx.Spec.NextFit
/-
Next-fit: the loop invariant (`loop_spec`) and the soundness of the judge's checker.
-/
namespace Tbx.NextFit
open Tbx.NextFitSpec

theorem load_zero (xs asg : List Nat) (b : Nat) (h : ∀ a ∈ asg, a ≠ b) : load xs asg b = 0 := by
  induction xs generalizing asg with
  | nil => cases asg <;> simp [load]
  | cons x xs ih =>
    cases asg with
    | nil => simp [load]
    | cons a as =>
      have ha : a ≠ b := h a List.mem_cons_self
      simp only [load, if_neg ha, Nat.zero_add]
      exact ih as (fun a' ha' => h a' (List.mem_cons_of_mem _ ha'))

/-- two items in the same bin count as one -/
theorem load_same (u x c b : Nat) (xs asg : List Nat) :
    load (u :: x :: xs) (c :: c :: asg) b = load ((u + x) :: xs) (c :: asg) b := by
  simp only [load]
  split <;> omega

theorem getD_ge (l : List Nat) (c i : Nat) (h : ∀ a ∈ l, c ≤ a) (hi : i < l.length) : c ≤ l.getD i 0 := by
  have : l.getD i 0 ∈ l := by
    rw [List.getD_eq_getElem?_getD, List.getElem?_eq_getElem hi]; simp
  exact h _ this

/-- the loop entered in bin `cur`, of which `used` is taken and `rem` is left.  What `cur` already holds counts as one
    item of size `used` assigned to `cur` in front of the remaining ones: the conjuncts are then the clauses of
    `NextFitSpec.Laws` for the items `used :: xs` and the assignments `cur :: asg` -/
theorem loop_spec (cap : Nat) (xs : List Nat) (cur rem used : Nat) (hu : used + rem = cap)
    (hx : ∀ x ∈ xs, x ≤ cap) :
    ∃ last asg, loop cap xs cur rem = (last, asg) ∧
    asg.length = xs.length ∧
    (∀ a ∈ cur :: asg, cur ≤ a) ∧
    (∀ i, i < asg.length →
      (cur :: asg).getD (i + 1) 0 = (cur :: asg).getD i 0 ∨ (cur :: asg).getD (i + 1) 0 = (cur :: asg).getD i 0 + 1) ∧
    last = (cur :: asg).getD asg.length 0 ∧
    (∀ b, load (used :: xs) (cur :: asg) b ≤ cap) ∧
    (∀ i, i < asg.length → (cur :: asg).getD (i + 1) 0 = (cur :: asg).getD i 0 + 1 →
      (used :: xs).getD (i + 1) 0 + load (used :: xs) (cur :: asg) ((cur :: asg).getD i 0) > cap) := by
  induction xs generalizing cur rem used with
  | nil =>
    refine ⟨cur, [], rfl, rfl, ?_, ?_, rfl, ?_, ?_⟩
    · intro a ha
      rw [List.mem_singleton.mp ha]
      exact Nat.le_refl _
    · intro i hi; cases hi
    · intro b; simp only [load]; split <;> omega
    · intro i hi; cases hi
  | cons x xs ih =>
    have hxc : x ≤ cap := hx x List.mem_cons_self
    have hxs : ∀ y ∈ xs, y ≤ cap := fun y hy => hx y (List.mem_cons_of_mem _ hy)
    by_cases hfit : x > rem
    · obtain ⟨last, asg, he, h1, h2, h3, h4, h5, h6⟩ := ih (cur + 1) (cap - x) x (by omega) hxs
      -- nothing after the new bin was opened goes into `cur`
      have hz : load (x :: xs) ((cur + 1) :: asg) cur = 0 := load_zero _ _ _ (fun a ha => Nat.ne_of_gt (h2 a ha))
      refine ⟨last, (cur + 1) :: asg, by simp only [loop, if_pos hfit, he], by rw [List.length_cons, h1]; rfl,
        ?_, ?_, h4, ?_, ?_⟩
      · intro a ha
        rcases List.mem_cons.mp ha with rfl | ha
        · exact Nat.le_refl _
        · exact Nat.le_of_succ_le (h2 a ha)
      · intro i hi
        cases i with
        | zero => exact Or.inr rfl
        | succ i => exact h3 i (Nat.lt_of_succ_lt_succ hi)
      · intro b
        rw [load]
        by_cases hb : cur = b
        · rw [← hb, hz, if_pos rfl]
          omega
        · rw [if_neg hb, Nat.zero_add]
          exact h5 b
      · intro i hi hop
        cases i with
        | zero =>
          show x + load (used :: x :: xs) (cur :: (cur + 1) :: asg) cur > cap
          rw [load, hz, if_pos rfl]
          omega
        | succ i =>
          have hi' := Nat.lt_of_succ_lt_succ hi
          have hge : cur + 1 ≤ (cur :: (cur + 1) :: asg).getD (i + 1) 0 := getD_ge _ _ i h2 (Nat.lt_succ_of_lt hi')
          rw [load, if_neg (by omega), Nat.zero_add]
          exact h6 i hi' hop
    · obtain ⟨last, asg, he, h1, h2, h3, h4, h5, h6⟩ := ih cur (rem - x) (used + x) (by omega) hxs
      refine ⟨last, cur :: asg, by simp only [loop, if_neg hfit, he], by rw [List.length_cons, h1]; rfl,
        ?_, ?_, h4, ?_, ?_⟩
      · intro a ha
        rcases List.mem_cons.mp ha with rfl | ha
        · exact Nat.le_refl _
        · exact h2 a ha
      · intro i hi
        cases i with
        | zero => exact Or.inl rfl
        | succ i => exact h3 i (Nat.lt_of_succ_lt_succ hi)
      · intro b
        rw [load_same]
        exact h5 b
      · intro i hi hop
        cases i with
        | zero => exact absurd hop (Nat.ne_of_lt (Nat.lt_succ_self cur))
        | succ i =>
          rw [load_same]
          exact h6 i (Nat.lt_of_succ_lt_succ hi) hop

theorem any_gt_iff (items : List Nat) (cap : Nat) :
    (items.any fun x => decide (x > cap)) = true ↔ ∃ x ∈ items, x > cap := by
  simp [List.any_eq_true]

theorem nextFit_laws (items : List Nat) (cap : Nat) : Laws items cap (nextFit items cap) := by
  unfold nextFit
  by_cases hc : cap = 0
  · simp only [if_pos hc]
    exact ⟨⟨fun _ => Or.inl hc, fun _ => rfl⟩, fun _ _ h => by cases h⟩
  simp only [if_neg hc]
  cases items with
  | nil =>
    simp only [List.isEmpty_nil, if_true]
    refine ⟨⟨(fun h => by cases h), fun h => ?_⟩, ?_⟩
    · rcases h with h | ⟨x, hx, _⟩
      · exact absurd h hc
      · cases hx
    · intro bins asg h
      cases h
      refine ⟨rfl, ?_, ?_, fun _ => rfl, ?_, ?_, ?_⟩
      · intro h; simp at h
      · intro i h; simp at h
      · intro h; simp at h
      · intro b; simp [load]
      · intro i h; simp at h
  | cons x xs =>
    simp only [List.isEmpty_cons, Bool.false_eq_true, if_false]
    by_cases hany : ((x :: xs).any fun y => decide (y > cap)) = true
    · simp only [if_pos hany]
      exact ⟨⟨fun _ => Or.inr ((any_gt_iff _ _).mp hany), fun _ => rfl⟩, fun _ _ h => by cases h⟩
    · simp only [if_neg hany]
      have hall : ∀ y ∈ x :: xs, y ≤ cap := by
        intro y hy
        by_cases hgt : y > cap
        · exact absurd ((any_gt_iff _ _).mpr ⟨y, hy, hgt⟩) hany
        · omega
      have hx : x ≤ cap := hall x List.mem_cons_self
      obtain ⟨last, asg, he, h1, _, h3, h4, h5, h6⟩ := loop_spec cap xs 0 (cap - x) x (by omega)
        (fun y hy => hall y (List.mem_cons_of_mem _ hy))
      simp only [loop, if_neg (Nat.not_lt.mpr hx), he]
      refine ⟨⟨(fun h => by cases h), fun h => ?_⟩, ?_⟩
      · rcases h with h | h
        · exact absurd h hc
        · exact absurd ((any_gt_iff _ _).mpr h) hany
      · intro bins asg' h
        cases h
        exact ⟨congrArg (· + 1) h1, fun _ => rfl, fun i hi => h3 i (Nat.lt_of_succ_lt_succ hi), (fun h => by cases h),
          fun _ => congrArg (· + 1) h4, h5, fun i hi => h6 i (Nat.lt_of_succ_lt_succ hi)⟩

theorem load_le_of_all (items asg : List Nat) (cap : Nat)
    (h : ∀ b ∈ asg, load items asg b ≤ cap) (b : Nat) : load items asg b ≤ cap := by
  by_cases hb : b ∈ asg
  · exact h b hb
  · rw [load_zero items asg b (fun a ha hab => hb (hab ▸ ha))]
    exact Nat.zero_le _

theorem check_iff (items : List Nat) (cap : Nat) (res : Option (Nat × List Nat)) :
    check items cap res = true ↔ Laws items cap res := by
  cases res with
  | none =>
    rw [check, Bool.or_eq_true, decide_eq_true_eq, any_gt_iff]
    constructor
    · intro h; exact ⟨⟨fun _ => h, fun _ => rfl⟩, fun _ _ h => by cases h⟩
    · intro h; exact h.1.mp rfl
  | some r =>
    obtain ⟨bins, asg⟩ := r
    simp only [check, Laws, Bool.and_eq_true, Bool.not_eq_eq_eq_not, Bool.not_true, Bool.or_eq_false_iff,
      Bool.or_eq_true, decide_eq_true_eq, decide_eq_false_iff_not, List.all_eq_true, List.mem_range]
    constructor
    · rintro ⟨⟨⟨⟨⟨⟨⟨hc, hany⟩, hlen⟩, hfirst⟩, hstep⟩, hbins⟩, hload⟩, hopen⟩
      refine ⟨⟨(fun h => by cases h), fun h => ?_⟩, ?_⟩
      · rcases h with h | h
        · exact absurd h hc
        · rw [← any_gt_iff] at h; rw [h] at hany; cases hany
      · intro b a hba
        cases hba
        refine ⟨hlen, ?_, ?_, ?_, ?_, load_le_of_all items asg cap hload, ?_⟩
        · intro h; rcases hfirst with h' | h'
          · omega
          · exact h'
        · intro i hi; exact hstep i (by omega)
        · intro h; subst h; simpa using hbins
        · intro h
          have : ¬ (asg.length = 0) := by omega
          simpa [this] using hbins
        · intro i hi hop
          rcases hopen i (by omega) with h | h
          · exact absurd hop h
          · exact h
    · rintro ⟨herr, hok⟩
      obtain ⟨hlen, hfirst, hstep, hnil, hbins, hload, hopen⟩ := hok bins asg rfl
      have hne : ¬ (cap = 0 ∨ ∃ x ∈ items, x > cap) := fun h => by cases herr.mpr h
      refine ⟨⟨⟨⟨⟨⟨⟨fun h => hne (Or.inl h), ?_⟩, hlen⟩, ?_⟩, ?_⟩, ?_⟩, fun b _ => hload b⟩, ?_⟩
      · cases hany : items.any fun x => decide (x > cap)
        · rfl
        · exact absurd (Or.inr ((any_gt_iff _ _).mp hany)) hne
      · by_cases h : asg.length = 0
        · left; exact h
        · right; exact hfirst (by omega)
      · intro i hi; exact hstep i (by omega)
      · by_cases h : asg.length = 0
        · simp only [if_pos h, decide_eq_true_eq]
          exact hnil (List.length_eq_zero_iff.mp h)
        · simp only [if_neg h, decide_eq_true_eq]
          exact hbins (by omega)
      · intro i hi
        by_cases hop : asg.getD (i + 1) 0 = asg.getD i 0 + 1
        · right; exact hopen i (by omega) hop
        · left; exact hop

end Tbx.NextFit
