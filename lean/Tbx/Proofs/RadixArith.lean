import Tbx.Model.Radix
/-
Arithmetic of radix keys (C17): `key` is a byte of the transformed pattern; for every kind there is an
order-preserving unsigned key `okey` whose byte `k` is the *rank* of the bucket of round `k`, and the
type's order is the numeric order of `okey`.
-/
namespace Tbx.Radix
open Tbx Tbx.SortSpec

theorem key_eq (t : Ty) (x k : Nat) : key t x k = tr t x / 256 ^ k % 256 := by
  unfold key
  rw [Nat.shiftRight_eq_div_pow, Nat.shiftLeft_eq]
  have : (2 : Nat) ^ (k * 2 ^ 3) = 256 ^ k := by
    rw [show (256 : Nat) = 2 ^ 8 from rfl, ← Nat.pow_mul]
    congr 1
    omega
  rw [this]

theorem key_lt (t : Ty) (x k : Nat) : key t x k < 256 := by
  unfold key; exact Nat.mod_lt _ (by decide)

theorem pow_pos256 (k : Nat) : 0 < 256 ^ k := Nat.pow_pos (by decide)

theorem card_eq_two_half (t : Ty) (hw : 0 < t.w) : t.card = 2 * t.half := by
  unfold Ty.card Ty.half
  rw [← Nat.sub_add_cancel hw, Nat.pow_succ, Nat.add_sub_cancel]
  omega

theorem half_pos (t : Ty) : 0 < t.half := by
  unfold Ty.half
  have := pow_pos256 (t.w - 1)
  omega

theorem digit_mod_pow (B y : Nat) {w k : Nat} (hk : k < w) : y % B ^ w / B ^ k % B = y / B ^ k % B := by
  obtain ⟨d, rfl⟩ := Nat.exists_eq_add_of_lt hk
  rw [Nat.add_assoc, Nat.pow_add, Nat.pow_succ', Nat.mod_mul_right_div_self, Nat.mod_mul_right_mod]

theorem digit_add_mul_pow (B x c : Nat) (hB : 0 < B) {j k : Nat} (hk : k ≤ j) :
    (x + c * B ^ j) / B ^ k % B = (x / B ^ k + if k = j then c else 0) % B := by
  obtain ⟨d, rfl⟩ := Nat.exists_eq_add_of_le hk
  rw [Nat.pow_add, Nat.mul_left_comm, Nat.add_mul_div_left _ _ (Nat.pow_pos hB)]
  cases d with
  | zero => rw [Nat.pow_zero, Nat.mul_one, if_pos (Nat.add_zero k).symm]
  | succ d => rw [if_neg (by omega), Nat.pow_succ', Nat.mul_left_comm, Nat.add_mul_mod_self_left, Nat.add_zero]

theorem div_half_eq_one (t : Ty) (hw : 0 < t.w) (x : Nat) (hx : x < t.card) :
    x / t.half = 1 ↔ t.half ≤ x := by
  have hc := card_eq_two_half t hw
  have hp := half_pos t
  constructor
  · intro h
    apply Classical.byContradiction
    intro hn
    rw [Nat.div_eq_of_lt (by omega)] at h
    cases h
  · intro h
    exact Nat.div_eq_of_lt_le (by omega) (by omega)

theorem fmag_eq (t : Ty) (hw : 0 < t.w) (x : Nat) (hx : x < t.card) :
    fmag t x = if t.half ≤ x then x - t.half else x := by
  have hc := card_eq_two_half t hw
  unfold fmag
  split
  · rename_i h
    rw [Nat.mod_eq_sub_mod h, Nat.mod_eq_of_lt (by omega)]
  · rename_i h
    exact Nat.mod_eq_of_lt (by omega)

theorem floatTr_eq (t : Ty) (hw : 0 < t.w) (x : Nat) (hx : x < t.card) :
    floatTr t x = if t.half ≤ x then t.card - 1 - x else x + t.half := by
  unfold floatTr
  by_cases h : t.half ≤ x
  · rw [if_pos ((div_half_eq_one t hw x hx).2 h), if_pos h]
  · rw [if_neg (fun h' => h ((div_half_eq_one t hw x hx).1 h')), if_neg h]

theorem floatTr_lt (t : Ty) (hw : 0 < t.w) (x : Nat) (hx : x < t.card) : floatTr t x < t.card := by
  have hc := card_eq_two_half t hw
  have hp := half_pos t
  rw [floatTr_eq t hw x hx]
  split <;> omega

theorem fle_iff_key (t : Ty) (hw : 0 < t.w) (a b : Nat) (ha : a < t.card) (hb : b < t.card) :
    fle t a b ↔ floatTr t a ≤ floatTr t b := by
  have hc := card_eq_two_half t hw
  rw [floatTr_eq t hw a ha, floatTr_eq t hw b hb]
  unfold fle fneg
  rw [fmag_eq t hw a ha, fmag_eq t hw b hb]
  by_cases h1 : t.half ≤ a <;> by_cases h2 : t.half ≤ b <;> simp only [h1, h2, if_true, if_false]
  · omega
  · simp; omega
  · simp; omega
  · omega

def okey (t : Ty) (x : Nat) : Nat :=
  match t.kind with
  | .signed => (x + t.half) % t.card
  | .float => floatTr t x
  | _ => x

theorem okey_lt (t : Ty) (hw : 0 < t.w) (x : Nat) (hx : x < t.card) : okey t x < t.card := by
  unfold okey
  split
  · exact Nat.mod_lt _ (by have := half_pos t; have := card_eq_two_half t hw; omega)
  · exact floatTr_lt t hw x hx
  · exact hx

theorem toInt_add_half (t : Ty) (hw : 0 < t.w) (x : Nat) (hx : x < t.card) :
    toInt t x + t.half = ((x + t.half) % t.card : Nat) := by
  have hc := card_eq_two_half t hw
  unfold toInt
  split
  · rw [Nat.mod_eq_of_lt (by omega)]
    omega
  · rw [Nat.mod_eq_sub_mod (by omega), Nat.mod_eq_of_lt (by omega)]
    omega

theorem le_iff_okey (t : Ty) (hw : 0 < t.w) (a b : Nat) (ha : a < t.card) (hb : b < t.card) :
    le t a b ↔ okey t a ≤ okey t b := by
  unfold le okey
  cases hk : t.kind <;> simp only
  · -- signed
    have h1 := toInt_add_half t hw a ha
    have h2 := toInt_add_half t hw b hb
    omega
  · exact fle_iff_key t hw a b ha hb

theorem le_antisymm (t : Ty) (hw : 0 < t.w) (a b : Nat) (ha : a < t.card) (hb : b < t.card)
    (h1 : le t a b) (h2 : le t b a) : a = b := by
  have hc := card_eq_two_half t hw
  unfold le at h1 h2
  cases hk : t.kind <;> simp only [hk] at h1 h2
  · exact Nat.le_antisymm h1 h2
  · unfold toInt at h1 h2
    split at h1 <;> split at h1 <;> omega
  · unfold fle fneg at h1 h2
    rw [fmag_eq t hw a ha, fmag_eq t hw b hb] at h1 h2
    by_cases h : t.half ≤ a <;> by_cases h' : t.half ≤ b <;> simp only [h, h', if_true, if_false] at h1 h2 <;> omega
  · exact Nat.le_antisymm h1 h2

theorem okey_digit (t : Ty) (x k : Nat) (hk : k < t.w) :
    rank t k (key t x k) = okey t x / 256 ^ k % 256 := by
  rw [key_eq]
  unfold rank okey tr isSigned
  cases hkind : t.kind <;> simp only [Bool.false_and, Bool.true_and]
  · simp
  · -- signed: adding the sign bit `128 * 256 ^ (w - 1)` shifts the top digit by 128 and no other
    show _ = (x + 128 * 256 ^ (t.w - 1)) % 256 ^ t.w / 256 ^ k % 256
    rw [digit_mod_pow 256 _ hk, digit_add_mul_pow 256 x 128 (by decide) (Nat.le_sub_one_of_lt hk), Nat.mod_add_mod]
    by_cases hlast : k = t.w - 1
    · rw [if_pos (by simpa using hlast), if_pos hlast]
    · rw [if_neg (by simpa using hlast), if_neg hlast, Nat.add_zero]
  · simp
  · simp

theorem tr_lt (t : Ty) (hw : 0 < t.w) (x : Nat) (hx : x < t.card) : tr t x < t.card := by
  unfold tr
  split
  · exact floatTr_lt t hw x hx
  · exact hx

end Tbx.Radix
