import Tbx.Model.SortedInsert
import Tbx.Proofs.Sorting
/-
`insert_sorted` of the singly linked list: keeps ascending order and adds exactly the element.
-/
namespace Tbx.SList
open Tbx.Sorting

/-- `is_sorted` is the Spec's checker `sortedB` with the loop's early exit -/
theorem isSorted_iff (l : SL) : isSorted l = true ↔ Sorted l := by
  have e : isSorted l = sortedB l := by
    induction l with
    | nil => rfl
    | cons x t ih =>
      cases t with
      | nil => rfl
      | cons y r =>
        rw [isSorted, sortedB, ih]
        by_cases h : x > y
        · rw [if_pos h, decide_eq_false (by omega)]; rfl
        · rw [if_neg h, decide_eq_true (by omega)]; rfl
  rw [e, sortedB_iff]

theorem insertSorted_perm (l : SL) (e : Int) : (insertSorted l e).Perm (e :: l) :=
  InsertSort.perm_ins (fun e l => insertSorted l e) (fun _ => rfl) (fun _ _ _ => (ite_not ..).symm) e l

theorem insertSorted_sorted (l : SL) (e : Int) (h : Sorted l) : Sorted (insertSorted l e) :=
  InsertSort.pairwise_ins (fun e l => insertSorted l e) (fun _ => rfl) (fun _ _ _ => (ite_not ..).symm) e l h
    Int.le_trans (fun _ _ => by omega)

end Tbx.SList
