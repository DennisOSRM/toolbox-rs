import Tbx.Model.Bound
/-
C04, the shared upper bound of concurrent flow runs (Model/Bound.lean): what one event does to the state
(case analysis `step_elim`), the invariant `Inv` of all reachable states, and that a computation with the
smallest flow is never aborted.
-/
namespace Tbx.Bound

structure WF {N} (P : Fin N → Proc) : Prop where
  le_F : ∀ i, ∀ x ∈ (P i).phases, x ≤ (P i).F

structure Inv {N} (P : Fin N → Proc) (B0 : Int) (s : St N) : Prop where
  bound_le_B0 : s.bound ≤ B0
  bound_le_fin : ∀ i, s.st i = .finished → s.bound ≤ (P i).F
  bound_attained : s.bound = B0 ∨ ∃ i, s.st i = .finished ∧ s.bound = (P i).F
  hist_ge : ∀ v ∈ s.hist, s.bound ≤ v
  low : ∀ m : Int, m ≤ B0 → (∀ i, m ≤ (P i).F) → m ≤ s.bound

theorem step_idle {N} (P : Fin N → Proc) (s : St N) (i : Fin N) (v : Int) (h : ∀ pc, s.st i ≠ .running pc) :
    step P s i v = s := by
  unfold step
  split
  · rename_i pc hst; exact absurd hst (h pc)
  · rfl

theorem step_abort {N} (P : Fin N → Proc) (s : St N) (i : Fin N) (v : Int) {pc : Nat} (hst : s.st i = .running pc)
    (hpc : pc < (P i).phases.length) (hgt : (P i).phases[pc] > v) :
    step P s i v = { s with st := fun j => if j = i then .aborted else s.st j } := by
  unfold step; rw [hst]; simp only [dif_pos hpc, if_pos hgt]

theorem step_advance {N} (P : Fin N → Proc) (s : St N) (i : Fin N) (v : Int) {pc : Nat}
    (hst : s.st i = .running pc) (hpc : pc < (P i).phases.length) (hle : ¬ (P i).phases[pc] > v) :
    step P s i v = { s with st := fun j => if j = i then .running (pc + 1) else s.st j } := by
  unfold step; rw [hst]; simp only [dif_pos hpc, if_neg hle]

theorem step_publish {N} (P : Fin N → Proc) (s : St N) (i : Fin N) (v : Int) {pc : Nat}
    (hst : s.st i = .running pc) (hpc : (P i).phases.length ≤ pc) :
    step P s i v = { bound := min s.bound (P i).F, hist := min s.bound (P i).F :: s.hist,
                     st := fun j => if j = i then .finished else s.st j } := by
  unfold step; rw [hst]; simp only [dif_neg (Nat.not_lt.mpr hpc)]

theorem step_elim {N} {motive : St N → Prop} (P : Fin N → Proc) (s : St N) (i : Fin N) (v : Int)
    (idle : (∀ pc, s.st i ≠ .running pc) → motive s)
    (abort : ∀ pc (h : pc < (P i).phases.length), s.st i = .running pc → (P i).phases[pc] > v →
      motive { s with st := fun j => if j = i then .aborted else s.st j })
    (advance : ∀ pc (h : pc < (P i).phases.length), s.st i = .running pc → ¬ (P i).phases[pc] > v →
      motive { s with st := fun j => if j = i then .running (pc + 1) else s.st j })
    (publish : ∀ pc, s.st i = .running pc → (P i).phases.length ≤ pc →
      motive { bound := min s.bound (P i).F, hist := min s.bound (P i).F :: s.hist,
               st := fun j => if j = i then .finished else s.st j }) :
    motive (step P s i v) := by
  cases hst : s.st i with
  | running pc =>
    by_cases hpc : pc < (P i).phases.length
    · by_cases hgt : (P i).phases[pc] > v
      · rw [step_abort P s i v hst hpc hgt]; exact abort pc hpc hst hgt
      · rw [step_advance P s i v hst hpc hgt]; exact advance pc hpc hst hgt
    · rw [step_publish P s i v hst (Nat.not_lt.mp hpc)]; exact publish pc hst (Nat.not_lt.mp hpc)
  | aborted | finished =>
    have hn : ∀ pc, s.st i ≠ .running pc := fun pc h => by rw [hst] at h; cases h
    rw [step_idle P s i v hn]; exact idle hn

theorem inv_init {N} (P : Fin N → Proc) (B0 : Int) : Inv P B0 (init B0 : St N) := by
  refine ⟨Int.le_refl _, ?_, Or.inl rfl, ?_, ?_⟩
  · intro i h; simp [init] at h
  · intro v hv; simp [init] at hv; simp [init, hv]
  · intro m h _; simpa [init] using h

theorem Inv.update {N} {P : Fin N → Proc} {B0 : Int} {s : St N} (h : Inv P B0 s) {i : Fin N} {pc : Nat}
    (hst : s.st i = .running pc) {X : Status} (hX : X ≠ .finished) :
    Inv P B0 { s with st := fun j => if j = i then X else s.st j } := by
  have hf : ∀ j, (if j = i then X else s.st j) = .finished ↔ s.st j = .finished := by
    intro j
    by_cases hji : j = i
    · subst hji; rw [if_pos rfl, hst]; exact ⟨fun e => absurd e hX, nofun⟩
    · rw [if_neg hji]
  exact ⟨h.bound_le_B0, fun j hj => h.bound_le_fin j ((hf j).mp hj),
    h.bound_attained.imp_right fun ⟨j, hj, hb⟩ => ⟨j, (hf j).mpr hj, hb⟩, h.hist_ge, h.low⟩

theorem inv_step {N} (P : Fin N → Proc) (B0 : Int) (s : St N) (i : Fin N) (v : Int)
    (h : Inv P B0 s) : Inv P B0 (step P s i v) := by
  refine step_elim P s i v (fun _ => h) (fun pc _ hst _ => h.update hst nofun)
    (fun pc _ hst _ => h.update hst nofun) (fun pc hst _ => ?_)
  refine ⟨Int.le_trans (Int.min_le_left _ _) h.bound_le_B0, fun j hj => ?_, ?_, fun w hw => ?_,
    fun m hm hall => Int.le_min.mpr ⟨h.low m hm hall, hall i⟩⟩
  · by_cases hji : j = i
    · subst hji; exact Int.min_le_right _ _
    · have hj' : (if j = i then Status.finished else s.st j) = .finished := hj
      rw [if_neg hji] at hj'
      exact Int.le_trans (Int.min_le_left _ _) (h.bound_le_fin j hj')
  · rcases Int.le_total s.bound (P i).F with hle | hle
    · show min s.bound (P i).F = B0 ∨ ∃ j, (if j = i then Status.finished else s.st j) = .finished ∧
        min s.bound (P i).F = (P j).F
      rw [Int.min_eq_left hle]
      refine h.bound_attained.imp_right fun ⟨j, hj, hb⟩ => ⟨j, ?_, hb⟩
      rw [if_neg (fun e => by rw [e, hst] at hj; cases hj)]; exact hj
    · exact Or.inr ⟨i, if_pos rfl, Int.min_eq_right hle⟩
  · rcases List.mem_cons.mp hw with rfl | hw
    · exact Int.le_refl _
    · exact Int.le_trans (Int.min_le_left _ _) (h.hist_ge w hw)

theorem inv_run {N} (P : Fin N → Proc) (B0 : Int) (s : St N) (sched : List (Fin N × Int))
    (h : Inv P B0 s) : Inv P B0 (run P s sched) := by
  induction sched generalizing s with
  | nil => exact h
  | cons e rest ih => exact ih _ (inv_step P B0 s e.1 e.2 h)

theorem minimal_never_aborts {N} (P : Fin N → Proc) (hP : WF P) (B0 : Int) (i : Fin N)
    (hmin : ∀ j, (P i).F ≤ (P j).F) (hB : (P i).F ≤ B0)
    (s : St N) (sched : List (Fin N × Int)) (h : Inv P B0 s) (hadm : Admissible P s sched)
    (hna : s.st i ≠ .aborted) : (run P s sched).st i ≠ .aborted := by
  induction sched generalizing s with
  | nil => exact hna
  | cons e rest ih =>
    obtain ⟨j, v⟩ := e
    obtain ⟨hv, hrest⟩ := hadm
    refine ih _ (inv_step P B0 s j v h) hrest ?_
    have keep : ∀ X : Status, X ≠ .aborted → (if i = j then X else s.st i) ≠ .aborted := by
      intro X hX; split
      · exact hX
      · exact hna
    refine step_elim (motive := fun s' => s'.st i ≠ .aborted) P s j v (fun _ => hna) (fun pc hpc hst hgt => ?_)
      (fun pc _ _ _ => keep _ nofun) (fun pc _ _ => keep _ nofun)
    -- an abort of `i` itself is impossible: its flow so far ≤ its true flow ≤ the bound ≤ every value ever held
    have hij : i ≠ j := by
      rintro rfl
      have h1 := hP.le_F i _ (List.getElem_mem hpc)
      have h2 := h.low _ hB hmin
      have h3 := h.hist_ge v hv
      omega
    show (if i = j then Status.aborted else s.st i) ≠ .aborted
    rw [if_neg hij]; exact hna

theorem hist_le_step {N} (P : Fin N → Proc) (B0 : Int) (s : St N) (i : Fin N) (v : Int)
    (hb : s.bound ≤ B0) (hh : ∀ w ∈ s.hist, w ≤ B0) : ∀ w ∈ (step P s i v).hist, w ≤ B0 := by
  refine step_elim (motive := fun s' => ∀ w ∈ s'.hist, w ≤ B0) P s i v (fun _ => hh) (fun _ _ _ _ => hh)
    (fun _ _ _ _ => hh) fun _ _ _ w hw => ?_
  rcases List.mem_cons.mp hw with rfl | hw
  · exact Int.le_trans (Int.min_le_left _ _) hb
  · exact hh w hw

theorem hist_le_run {N} (P : Fin N → Proc) (B0 : Int) (sched : List (Fin N × Int)) (s : St N)
    (hinv : Inv P B0 s) (hh : ∀ w ∈ s.hist, w ≤ B0) : ∀ w ∈ (run P s sched).hist, w ≤ B0 := by
  induction sched generalizing s with
  | nil => exact hh
  | cons e rest ih =>
    exact ih _ (inv_step P B0 s e.1 e.2 hinv) (hist_le_step P B0 s e.1 e.2 hinv.bound_le_B0 hh)

theorem final_bound {N} (P : Fin N → Proc) (B0 : Int) (sched : List (Fin N × Int)) :
    let s := run P (init B0) sched
    s.bound ≤ B0 ∧ (∀ i, s.st i = .finished → s.bound ≤ (P i).F) ∧
    (s.bound = B0 ∨ ∃ i, s.st i = .finished ∧ s.bound = (P i).F) := by
  have h := inv_run P B0 (init B0) sched (inv_init P B0)
  exact ⟨h.bound_le_B0, h.bound_le_fin, h.bound_attained⟩

end Tbx.Bound
