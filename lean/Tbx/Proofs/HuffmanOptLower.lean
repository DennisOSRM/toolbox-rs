import Tbx.Model.Huffman
import Tbx.Proofs.HuffmanOptDefs
/-
A prefix-free code book for a table costs at least the judge's greedy optimum (`cost_lower_bound`).
Kraft's inequality (`prefixFree_kraft`) by induction on the length bound: the words starting with `false` and those
starting with `true` are, without their first bit, two prefix-free codes.  `kraft_lower_bound` (lengths satisfying
Kraft's inequality cost at least `optCost`) by induction on the number of words: after two exchanges the two smallest
weights `a ≤ b` sit on the two longest words `l₂ ≤ l₁`, which are merged into one word of weight `a + b` and length
`l₂ - 1` (`kraft_merge`); this lowers the weighted length by at least `a + b`.
-/
namespace Tbx.Spec.Huff

theorem prefixFree_nil_mem {cs : List Code} (h : PrefixFree cs) (hm : [] ∈ cs) : cs = [[]] := by
  cases cs with
  | nil => cases hm
  | cons c t =>
    have h' := List.pairwise_cons.mp h
    cases t with
    | nil => simpa using hm
    | cons d t' =>
      exfalso
      rcases List.mem_cons.mp hm with hc | hm'
      · subst hc
        exact (h'.1 d List.mem_cons_self).1 (List.nil_prefix)
      · exact (h'.1 [] hm').2 List.nil_prefix

def tailsOf (b : Bool) : List Code → List Code
  | [] => []
  | [] :: cs => tailsOf b cs
  | (x :: t) :: cs => if x = b then t :: tailsOf b cs else tailsOf b cs

theorem tailsOf_sublist (b : Bool) (cs : List Code) : ((tailsOf b cs).map (b :: ·)).Sublist cs := by
  induction cs with
  | nil => exact .slnil
  | cons c cs ih =>
    cases c with
    | nil => exact ih.cons _
    | cons x u =>
      simp only [tailsOf]
      split
      · next h => exact h ▸ ih.cons_cons _
      · exact ih.cons _

theorem prefixFree_tailsOf (b : Bool) {cs : List Code} (h : PrefixFree cs) : PrefixFree (tailsOf b cs) :=
  (List.pairwise_map.mp (h.sublist (tailsOf_sublist b cs))).imp fun h =>
    ⟨fun hp => h.1 (List.cons_prefix_cons.mpr ⟨rfl, hp⟩), fun hp => h.2 (List.cons_prefix_cons.mpr ⟨rfl, hp⟩)⟩

theorem tailsOf_length_le (b : Bool) {cs : List Code} {L : Nat} (hL : ∀ c ∈ cs, c.length ≤ L + 1) (c : Code)
    (hc : c ∈ tailsOf b cs) : c.length ≤ L :=
  Nat.le_of_succ_le_succ (hL _ ((tailsOf_sublist b cs).subset (List.mem_map_of_mem hc)))

theorem kraftSum_succ (L : Nat) (cs : List Code) (hm : [] ∉ cs) :
    kraftSum (L + 1) cs = kraftSum L (tailsOf false cs) + kraftSum L (tailsOf true cs) := by
  induction cs with
  | nil => rfl
  | cons c cs ih =>
    have ih := ih fun h => hm (List.mem_cons_of_mem _ h)
    cases c with
    | nil => exact absurd List.mem_cons_self hm
    | cons x u =>
      cases x <;> simp [kraftSum, tailsOf] at ih ⊢ <;> omega

theorem prefixFree_kraft_sum (L : Nat) : ∀ (cs : List Code), PrefixFree cs → (∀ c ∈ cs, c.length ≤ L) →
    kraftSum L cs ≤ 2 ^ L := by
  induction L with
  | zero =>
    intro cs h hL
    cases cs with
    | nil => simp [kraftSum]
    | cons c t =>
      have hc : c = [] := List.eq_nil_of_length_eq_zero (Nat.le_zero.mp (hL c List.mem_cons_self))
      subst hc
      rw [prefixFree_nil_mem h List.mem_cons_self]
      simp [kraftSum]
  | succ L ih =>
    intro cs h hL
    by_cases hm : [] ∈ cs
    · rw [prefixFree_nil_mem h hm]
      simp [kraftSum]
    · have h0 := ih _ (prefixFree_tailsOf false h) (tailsOf_length_le false hL)
      have h1 := ih _ (prefixFree_tailsOf true h) (tailsOf_length_le true hL)
      rw [kraftSum_succ L cs hm, Nat.pow_succ]
      omega

theorem prefixFree_kraft (cs : List Code) (L : Nat) (h : PrefixFree cs) (hL : ∀ c ∈ cs, c.length ≤ L) :
    KraftLe L (cs.map List.length) := by
  refine ⟨?_, ?_⟩
  · intro l hl
    obtain ⟨c, hc, rfl⟩ := List.mem_map.mp hl
    exact hL c hc
  · rw [List.map_map]
    exact prefixFree_kraft_sum L cs h hL

/-- non-vacuity: a concrete prefix-free code (not complete: `[false]` leaves room) and its Kraft bound -/
example : PrefixFree [[true, true], [true, false, true], [true, false, false], [false]] ∧
    KraftLe 3 [2, 3, 3, 1] := by
  have hp : PrefixFree [[true, true], [true, false, true], [true, false, false], [false]] :=
    (prefixFreeB_iff _).mp (by decide)
  exact ⟨hp, prefixFree_kraft _ 3 hp (by decide)⟩

theorem wsum_cons (p : Int × Nat) (ps : List (Int × Nat)) :
    wsum (p :: ps) = p.1 * (p.2 : Int) + wsum ps := by
  simp [wsum]

theorem wsum_perm {ps ps' : List (Int × Nat)} (h : ps.Perm ps') : wsum ps = wsum ps' :=
  sum_perm (h.map _)

theorem KraftLe_perm {L : Nat} {ls ls' : List Nat} (h : ls.Perm ls') (hk : KraftLe L ls) :
    KraftLe L ls' := by
  refine ⟨fun l hl => hk.1 l (h.mem_iff.mpr hl), ?_⟩
  rw [← (h.map fun l => 2 ^ (L - l)).sum_nat]
  exact hk.2

theorem exists_max_len (ls : List Nat) (hne : ls ≠ []) : ∃ M ∈ ls, ∀ l ∈ ls, l ≤ M :=
  ⟨ls.max hne, List.max_mem hne, fun _ => List.le_max_of_mem⟩

theorem swap_le (a w : Int) (la M : Nat) (haw : a ≤ w) (hl : la ≤ M) :
    a * (M : Int) + w * (la : Int) ≤ a * (la : Int) + w * (M : Int) := by
  -- 0 ≤ (w - a)·(M - la)
  have h := Int.mul_nonneg (Int.sub_nonneg_of_le haw) (Int.sub_nonneg_of_le (Int.ofNat_le.mpr hl))
  rw [Int.sub_mul, Int.mul_sub, Int.mul_sub] at h
  omega

/-- some longest word can be given the smallest weight without increasing the weighted length -/
theorem exchange (qs : List (Int × Nat)) (M : Nat) (hM : ∀ l ∈ qs.map (·.2), l ≤ M)
    (hmem : M ∈ qs.map (·.2)) :
    ∃ (a : Int) (rest : List (Int × Nat)),
      (∀ x ∈ qs.map (·.1), a ≤ x) ∧
      (a :: rest.map (·.1)).Perm (qs.map (·.1)) ∧
      (M :: rest.map (·.2)).Perm (qs.map (·.2)) ∧
      wsum ((a, M) :: rest) ≤ wsum qs := by
  have hne : qs ≠ [] := by
    intro h; subst h; simp at hmem
  obtain ⟨pm, hpm, hmin⟩ : ∃ p ∈ qs, ∀ q ∈ qs, p.1 ≤ q.1 :=
    ⟨qs.minOn (·.1) hne, List.minOn_mem, fun _ hq => List.apply_minOn_le_of_mem hq⟩
  have hmin' : ∀ x ∈ qs.map (·.1), pm.1 ≤ x := List.forall_mem_map.mpr hmin
  have hperm1 : qs.Perm (pm :: qs.erase pm) := List.perm_cons_erase hpm
  by_cases hla : pm.2 = M
  · refine ⟨pm.1, qs.erase pm, hmin', ?_, ?_, ?_⟩
    · exact (hperm1.map (·.1)).symm
    · have := (hperm1.map (·.2)).symm
      simpa [hla] using this
    · rw [wsum_perm hperm1, wsum_cons, wsum_cons, hla]; exact Int.le_refl _
  · obtain ⟨pM, hpM, hpM2⟩ := List.mem_map.mp hmem
    have hne2 : pM ≠ pm := by
      intro h; subst h; exact hla hpM2
    have hpM' : pM ∈ qs.erase pm := (List.mem_erase_of_ne hne2).mpr hpM
    have hperm2 : (qs.erase pm).Perm (pM :: (qs.erase pm).erase pM) := List.perm_cons_erase hpM'
    have hperm : qs.Perm (pm :: pM :: (qs.erase pm).erase pM) :=
      hperm1.trans (List.Perm.cons pm hperm2)
    have hlaM : pm.2 ≤ M := hM _ (List.mem_map.mpr ⟨pm, hpm, rfl⟩)
    have hw : pm.1 ≤ pM.1 := hmin pM hpM
    refine ⟨pm.1, (pM.1, pm.2) :: (qs.erase pm).erase pM, hmin', ?_, ?_, ?_⟩
    · exact (hperm.map (·.1)).symm
    · have h1 := (hperm.map (·.2)).symm
      simp only [List.map_cons] at h1 ⊢
      rw [hpM2] at h1
      exact (List.Perm.swap _ _ _).trans h1
    · rw [wsum_perm hperm]
      simp only [wsum_cons]
      have := swap_le pm.1 pM.1 pm.2 M hw hlaM
      rw [hpM2]
      omega

theorem ksum_dvd (L m : Nat) (ls : List Nat) (h : ∀ l ∈ ls, l ≤ m) :
    2 ^ (L - m) ∣ (ls.map fun l => 2 ^ (L - l)).sum := by
  induction ls with
  | nil => simp
  | cons x xs ih =>
    simp only [List.map_cons, List.sum_cons]
    have hx : x ≤ m := h x List.mem_cons_self
    exact Nat.dvd_add (Nat.pow_dvd_pow 2 (by omega)) (ih fun l hl => h l (List.mem_cons_of_mem _ hl))

/-- `x = 2^(L-l₁)`, `q = 2^(L-l₂)` with `l₂ ≤ l₁`, `K` the scaled Kraft sum of the shorter words, `P = 2^L`: as `q`
    divides `K` and `P`, the room `P - K - q` is a positive multiple of `q`, so the longer word may count as `q` too -/
theorem merge_arith (x q K P : Nat) (hx : 0 < x) (hK : q ∣ K) (hP : q ∣ P) (h : x + q + K ≤ P) :
    2 * q + K ≤ P := by
  obtain ⟨A, rfl⟩ := hK
  obtain ⟨B, rfl⟩ := hP
  have hAB : A + 1 < B := Nat.lt_of_mul_lt_mul_left (a := q) (by rw [Nat.mul_succ]; omega)
  have := Nat.mul_le_mul_left q (Nat.succ_le_of_lt hAB)
  rw [Nat.mul_succ, Nat.mul_succ] at this
  omega

/-- two words, of which `l₂` is at least as long as all of `ls`, are replaced by one word one shorter than `l₂`;
    nothing is assumed of `l₁` (the caller has `l₂ ≤ l₁`, the case in which this is not plain arithmetic) -/
theorem kraft_merge (L l₁ l₂ : Nat) (ls : List Nat) (hls : ∀ l ∈ ls, l ≤ l₂)
    (hk : KraftLe L (l₁ :: l₂ :: ls)) : ∃ m, l₂ = m + 1 ∧ KraftLe L (m :: ls) := by
  have h2L : l₂ ≤ L := hk.1 l₂ (List.mem_cons_of_mem _ List.mem_cons_self)
  have hs := hk.2
  simp only [List.map_cons, List.sum_cons, ← Nat.add_assoc] at hs
  have hs' := merge_arith _ _ _ _ (Nat.two_pow_pos _) (ksum_dvd L l₂ ls hls) (Nat.pow_dvd_pow 2 (Nat.sub_le L l₂)) hs
  cases l₂ with
  | zero => have := Nat.two_pow_pos L; rw [Nat.sub_zero] at hs'; omega
  | succ m =>
    refine ⟨m, rfl, List.forall_mem_cons.2 ⟨by omega, fun l hl => hk.1 l (by simp [hl])⟩, ?_⟩
    rw [List.map_cons, List.sum_cons, show L - m = L - (m + 1) + 1 by omega, Nat.pow_succ]
    omega

theorem kraft_lower_bound (L : Nat) (ps : List (Int × Nat)) (hw : ∀ p ∈ ps, 0 ≤ p.1)
    (hk : KraftLe L (ps.map (·.2))) : optCost (ps.map (·.1)) ≤ wsum ps := by
  by_cases hne : ps = []
  · subst hne
    exact Int.le_refl 0
  obtain ⟨n, hn⟩ : ∃ n, ps.length = n + 1 := ⟨ps.length - 1, by have := List.length_pos_iff.mpr hne; omega⟩
  induction n generalizing ps with
  | zero =>
    obtain ⟨p, rfl⟩ := List.length_eq_one_iff.mp hn
    exact Int.add_nonneg (Int.mul_nonneg (hw p List.mem_cons_self) (Int.natCast_nonneg _)) (Int.le_refl 0)
  | succ n ih =>
    obtain ⟨l₁, hl₁, hmax⟩ := exists_max_len (ps.map (·.2)) (mt List.map_eq_nil_iff.mp hne)
    obtain ⟨a, rest1, ha, hwp1, hlp1, hws1⟩ := exchange ps l₁ hmax hl₁
    have hlen1 : rest1.length = n + 1 := by have := hwp1.length_eq; simp at this; omega
    have hne1 : rest1 ≠ [] := fun h => by simp [h] at hlen1
    obtain ⟨l₂, hl₂, hmax1⟩ := exists_max_len (rest1.map (·.2)) (mt List.map_eq_nil_iff.mp hne1)
    obtain ⟨b, rest2, hb, hwp2, hlp2, hws2⟩ := exchange rest1 l₂ hmax1 hl₂
    have hlen2 : rest2.length = n := by have := hwp2.length_eq; simp at this; omega
    have hwp : (ps.map (·.1)).Perm (a :: b :: rest2.map (·.1)) := hwp1.symm.trans (hwp2.symm.cons a)
    have hlp : (ps.map (·.2)).Perm (l₁ :: l₂ :: rest2.map (·.2)) := hlp1.symm.trans (hlp2.symm.cons _)
    have hw1 : ∀ x ∈ a :: b :: rest2.map (·.1), 0 ≤ x := fun x hx =>
      List.forall_mem_map.mpr hw x (hwp.mem_iff.mpr hx)
    have h21 : l₂ ≤ l₁ := hmax _ (hlp1.mem_iff.mp (List.mem_cons_of_mem _ hl₂))
    obtain ⟨m, hm, hk2⟩ := kraft_merge L l₁ l₂ _
      (fun l hl => hmax1 l (hlp2.mem_iff.mp (List.mem_cons_of_mem _ hl)))
      (KraftLe_perm hlp hk)
    have h := ih ((a + b, m) :: rest2)
      (List.forall_mem_cons.2 ⟨Int.add_nonneg (hw1 a (by simp)) (hw1 b (by simp)), fun q hq =>
        hw1 _ (List.mem_cons_of_mem _ (List.mem_cons_of_mem _ (List.mem_map_of_mem hq)))⟩)
      hk2 (List.cons_ne_nil _ _) (by simp [hlen2])
    have hab : a ≤ b := ha b (hwp.mem_iff.mpr (by simp))
    rw [optCost_perm hwp, optCost_merge a b _ hab fun r hr => hb r (hwp2.mem_iff.mp (List.mem_cons_of_mem _ hr))]
    have ham : a * ((m + 1 : Nat) : Int) ≤ a * (l₁ : Int) :=
      Int.mul_le_mul_of_nonneg_left (Int.ofNat_le.mpr (hm ▸ h21)) (hw1 a (by simp))
    rw [wsum_cons] at hws1 hws2 h
    rw [hm] at hws2
    simp only [List.map_cons, Int.natCast_succ, Int.mul_add, Int.add_mul, Int.mul_one] at h ham hws1 hws2 ⊢
    omega

/-- non-vacuity: a concrete code-length assignment satisfying the hypotheses, with equality -/
example : KraftLe 3 ([((1 : Int), 3), (1, 3), (2, 2), (2, 1)].map (·.2)) ∧
    optCost ([((1 : Int), 3), (1, 3), (2, 2), (2, 1)].map (·.1)) = 12 ∧
    wsum [((1 : Int), 3), (1, 3), (2, 2), (2, 1)] = 12 := by
  refine ⟨⟨by decide, by decide⟩, by decide, by decide⟩

/-- the theorem applied to that instance (all hypotheses discharged) -/
example : optCost ([((1 : Int), 3), (1, 3), (2, 2), (2, 1)].map (·.1)) ≤
    wsum [((1 : Int), 3), (1, 3), (2, 2), (2, 1)] :=
  kraft_lower_bound 3 _ (by decide) ⟨by decide, by decide⟩

end Tbx.Spec.Huff

namespace Tbx.Huffman
open Tbx.Spec.Huff

theorem cost_lower_bound (v : List (Nat × Int)) (hpos : ∀ e ∈ v, 0 ≤ e.2) (hnd : (v.map (·.1)).Nodup)
    (book' : Book) (hperm : (book'.map (·.1)).Perm (v.map (·.1))) (hpf : PrefixFree (book'.map (·.2))) :
    optCost (v.map (·.2)) ≤ cost v book' := by
  let ps : List (Int × Nat) := book'.map fun e => (freqOf v e.1, e.2.length)
  have hsnd : ps.map (·.2) = (book'.map (·.2)).map List.length := by
    simp only [ps, List.map_map]; rfl
  have hw : (ps.map (·.1)).Perm (v.map (·.2)) := by
    have hfst : ps.map (·.1) = (book'.map (·.1)).map (freqOf v) := by
      simp only [ps, List.map_map]; rfl
    rw [hfst, ← List.map_congr_left (freqOf_mem v hnd)]
    exact (hperm.map (freqOf v)).trans (List.Perm.of_eq List.map_map)
  have hnn : ∀ p ∈ ps, 0 ≤ p.1 := fun p hp =>
    List.forall_mem_map.mpr hpos p.1 (hw.mem_iff.mp (List.mem_map_of_mem hp))
  -- any scale at least the longest word will do for Kraft's inequality
  have hk : KraftLe (((book'.map (·.2)).map List.length).max?.getD 0) (ps.map (·.2)) :=
    hsnd ▸ prefixFree_kraft _ _ hpf fun c hc => List.le_max?_getD_of_mem (List.mem_map_of_mem hc)
  have hcost : wsum ps = cost v book' := by
    simp only [wsum, cost, ps, List.map_map]; rfl
  rw [← hcost, ← optCost_perm hw]
  exact kraft_lower_bound _ ps hnn hk

end Tbx.Huffman
