import Tbx.Spec.MergeTree
/-
The stand-in for `BinaryHeap<MergeEntry<T>>` used by the driver's model of heap merges (`KWay.bag`:
a list of entries, `pop` removes the first entry with minimal item) satisfies `TreeSpec` for every
capacity; so `TreeSpec` has a second, structurally different model besides the loser tree.
-/
namespace Tbx.KWay
open Tbx

def bagOk (s : List Entry) : Prop := s.Pairwise (fun a b => a.index ≠ b.index)
def bagSlot (s : List Entry) (j : Nat) : Option Int := (s.find? (fun e => e.index == j)).map (·.item)

theorem bagSlot_none_of (s : List Entry) (j : Nat) (h : ∀ x ∈ s, x.index ≠ j) : bagSlot s j = none := by
  unfold bagSlot
  rw [List.find?_eq_none.mpr (fun x hx => by simpa using h x hx)]
  rfl

theorem bagSlot_cons (e : Entry) (s : List Entry) (j : Nat) :
    bagSlot (e :: s) j = if e.index = j then some e.item else bagSlot s j := by
  unfold bagSlot
  by_cases h : e.index = j
  · rw [List.find?_cons_of_pos (by simpa using h), if_pos h]; rfl
  · rw [List.find?_cons_of_neg (by simpa using h), if_neg h]

theorem exists_of_bagSlot (s : List Entry) (j : Nat) (y : Int) (h : bagSlot s j = some y) :
    ∃ x ∈ s, x.index = j ∧ x.item = y := by
  unfold bagSlot at h
  cases hf : s.find? (fun e => e.index == j) with
  | none => rw [hf] at h; cases h
  | some x =>
    rw [hf] at h
    refine ⟨x, List.mem_of_find?_eq_some hf, by simpa using List.find?_some hf, by simpa using h⟩

theorem bagPop_eq (s : List Entry) :
    (s = [] ∧ bagPop s = some (none, [])) ∨
    ∃ m, m ∈ s ∧ (∀ x ∈ s, m.item ≤ x.item) ∧ bagPop s = some (some m, s.erase m) := by
  induction s with
  | nil => exact .inl ⟨rfl, rfl⟩
  | cons e es ih =>
    right
    rcases ih with ⟨rfl, _⟩ | ⟨m, hm, hmin, hp⟩
    · exact ⟨e, List.mem_cons_self, fun x hx => by simp at hx; subst hx; exact Int.le_refl _, by simp [bagPop]⟩
    · by_cases hlt : m.item < e.item
      · refine ⟨m, List.mem_cons_of_mem _ hm, fun x hx => ?_, ?_⟩
        · rcases List.mem_cons.mp hx with rfl | hx
          · omega
          · exact hmin x hx
        · have hne : ¬ (e == m) = true := by
            intro h
            rw [beq_iff_eq] at h
            subst h
            omega
          simp only [bagPop, hp, if_pos hlt, List.erase_cons_tail hne]
      · refine ⟨e, List.mem_cons_self, fun x hx => ?_, by simp only [bagPop, hp, if_neg hlt, List.erase_cons_head]⟩
        rcases List.mem_cons.mp hx with rfl | hx
        · exact Int.le_refl _
        · have := hmin x hx; omega

theorem bagSlot_erase (s : List Entry) (m : Entry) (hok : bagOk s) (hm : m ∈ s) (j : Nat) :
    bagSlot (s.erase m) j = if j = m.index then none else bagSlot s j := by
  induction s with
  | nil => cases hm
  | cons a as ih =>
    have hne : ∀ x ∈ as, a.index ≠ x.index := (List.pairwise_cons.mp hok).1
    rw [List.erase_cons, bagSlot_cons]
    by_cases ham : a = m
    · subst ham
      rw [if_pos (beq_self_eq_true a)]
      by_cases hj : j = a.index
      · rw [if_pos hj, hj]
        exact bagSlot_none_of as _ (fun x hx h => hne x hx h.symm)
      · rw [if_neg hj, if_neg (fun h => hj h.symm)]
    · have hm' : m ∈ as := (List.mem_cons.mp hm).resolve_left (Ne.symm ham)
      rw [if_neg (by simpa using ham), bagSlot_cons, ih (List.pairwise_cons.mp hok).2 hm']
      by_cases hj : j = m.index
      · rw [if_pos hj, if_pos hj, if_neg (by rw [hj]; exact hne m hm')]
      · rw [if_neg hj, if_neg hj]

theorem bagSlot_mem (s : List Entry) (m : Entry) (hok : bagOk s) (hm : m ∈ s) : bagSlot s m.index = some m.item := by
  induction s with
  | nil => cases hm
  | cons a as ih =>
    rw [bagSlot_cons]
    rcases List.mem_cons.mp hm with rfl | hm'
    · simp
    · have hne : a.index ≠ m.index := (List.pairwise_cons.mp hok).1 m hm'
      rw [if_neg hne]
      exact ih (List.pairwise_cons.mp hok).2 hm'


def bagSpec (cap : Nat) : TreeSpec bag cap where
  ok := bagOk
  slot := bagSlot
  push_ok := by
    intro s e hok _ hfree
    refine ⟨s ++ [e], rfl, ?_, ?_⟩
    · have hno : ∀ x ∈ s, x.index ≠ e.index := by
        unfold bagSlot at hfree
        rw [Option.map_eq_none_iff, List.find?_eq_none] at hfree
        exact fun x hx => by simpa using hfree x hx
      unfold bagOk
      rw [List.pairwise_append]
      refine ⟨hok, by simp, ?_⟩
      intro a ha b hb
      simp at hb; subst hb
      exact hno a ha
    · intro j
      unfold bagSlot
      rw [List.find?_append]
      cases hf : s.find? (fun a => a.index == j) with
      | some y =>
        have hy : y.index = j := by simpa using List.find?_some hf
        have hne : ¬ (j = e.index) := by
          intro h
          have : bagSlot s e.index = some y.item := by unfold bagSlot; rw [← h, hf]; rfl
          rw [hfree] at this; cases this
        rw [if_neg hne]; rfl
      | none =>
        by_cases hj : j = e.index
        · subst hj; simp
        · have : ¬ (e.index = j) := fun h => hj h.symm
          simp [this, hj]
  pop_ok := by
    intro s hok
    rcases bagPop_eq s with ⟨rfl, hp⟩ | ⟨m, hm, hmin, hp⟩
    · exact ⟨none, [], hp, hok, fun _ => rfl, fun _ => rfl⟩
    · refine ⟨some m, s.erase m, hp, List.Pairwise.sublist List.erase_sublist hok, bagSlot_mem s m hok hm, ?_,
        bagSlot_erase s m hok hm⟩
      intro j y hj
      obtain ⟨x, hx, _, hxy⟩ := exists_of_bagSlot s j y hj
      rw [← hxy]; exact hmin x hx

end Tbx.KWay
