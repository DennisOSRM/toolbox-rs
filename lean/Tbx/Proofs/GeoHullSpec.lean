import Tbx.Proofs.GeoConvexAsm
/-
The model's hull satisfies the whole hull Spec (`Tbx.Geo.HullSpec`) for every input.
-/
namespace Tbx.Geo

/-- on a line of positive run D, a point at run 0 ≤ t ≤ D has its rise y between 0 and the whole rise E -/
theorem rise_between {D t E y : Int} (hD : 0 < D) (ht0 : 0 ≤ t) (htD : t ≤ D) (h : D * y = E * t) (hE : 0 ≤ E) :
    0 ≤ y ∧ y ≤ E := by
  refine ⟨nonneg_of_mul_nonneg_right (h ▸ mul_nonneg hE ht0) hD, le_of_mul_le_mul_left ?_ hD⟩
  rw [h, mul_comm D E]
  exact mul_le_mul_of_nonneg_left htD hE

theorem onSegment_of_collinear {lo hi p : Coord} (h1 : LexLe lo p) (h2 : LexLe p hi) (hcol : cross lo hi p = 0) :
    OnSegment lo hi p := by
  have l1 := h1.lon_le
  have l2 := h2.lon_le
  have hlat : (lo.lat ≤ p.lat ∧ p.lat ≤ hi.lat) ∨ (hi.lat ≤ p.lat ∧ p.lat ≤ lo.lat) := by
    rcases Int.lt_or_eq_of_le (l1.trans l2) with hlt | heq
    · have e : (hi.lon - lo.lon) * (p.lat - lo.lat) = (hi.lat - lo.lat) * (p.lon - lo.lon) :=
        Int.eq_of_sub_eq_zero hcol
      have hD := Int.sub_pos_of_lt hlt
      have ht := Int.sub_le_sub_right l2 lo.lon
      rcases Int.le_total lo.lat hi.lat with hE | hE
      · obtain ⟨a, b⟩ := rise_between hD h1.fst ht e (Int.sub_nonneg_of_le hE)
        exact Or.inl ⟨Int.le_of_sub_nonneg a, Int.le_of_sub_le_sub_right b⟩
      · obtain ⟨a, b⟩ := rise_between (y := -(p.lat - lo.lat)) (E := -(hi.lat - lo.lat)) hD h1.fst ht
          (by rw [Int.mul_neg, Int.neg_mul, e]) (Int.neg_nonneg_of_nonpos (Int.sub_nonpos_of_le hE))
        exact Or.inr ⟨Int.le_of_sub_le_sub_right (Int.neg_le_neg_iff.mp b), Int.le_of_sub_nonpos (Int.neg_nonneg.mp a)⟩
    · have e1 : lo.lon = p.lon := Int.le_antisymm l1 (heq ▸ l2)
      exact Or.inl ⟨h1.lat_le e1, h2.lat_le (e1.symm.trans heq)⟩
  refine ⟨hcol, ?_, ?_, (Int.min_le_left _ _).trans l1, l2.trans (Int.le_max_right _ _)⟩
  · rcases hlat with h | h
    · exact (Int.min_le_left _ _).trans h.1
    · exact (Int.min_le_right _ _).trans h.1
  · rcases hlat with h | h
    · exact h.2.trans (Int.le_max_right _ _)
    · exact h.2.trans (Int.le_max_left _ _)

theorem monotoneChain_hullSpec (pts : List Coord) : HullSpec pts (monotoneChain pts) := by
  unfold HullSpec
  split
  · rename_i h; simp [monotoneChain, h]
  · rename_i h
    have hn : 3 < pts.length := by omega
    refine ⟨monotoneChain_subset pts, ?_⟩
    by_cases hnd : ∃ o ∈ pts, ∃ a ∈ pts, ∃ p ∈ pts, cross o a p ≠ 0
    · exact Or.inl ⟨1, Or.inl rfl, monotoneChain_strictlyConvex pts hn hnd, monotoneChain_encloses pts hn⟩
    · -- all collinear: the hull is [lo, hi], the two ends of the (lon, lat) order
      have hflat : ∀ o ∈ pts, ∀ a ∈ pts, ∀ p ∈ pts, cross o a p = 0 :=
        fun o ho a ha p hp => Classical.not_not.mp fun hc => hnd ⟨o, ho, a, ha, p, hp, hc⟩
      obtain ⟨lo, hi, eH, hlo, hhi, _, _, hext, _⟩ := monotoneChain_flat pts hn hflat
      have hbetween : ∀ p ∈ pts, LexLe lo p ∧ LexLe p hi :=
        fun p hp => ⟨(lexLe_iff _ _).mp (hext p hp).1, (lexLe_iff _ _).mp (hext p hp).2⟩
      rw [eH]
      by_cases hcx : lo = hi
      · refine Or.inr (Or.inr ⟨lo, List.cons_ne_nil _ _, ?_, ?_⟩)
        · intro v hv
          rcases List.mem_cons.mp hv with rfl | hv
          · rfl
          · exact (List.mem_singleton.mp hv).trans hcx.symm
        · intro p hp
          exact LexLe.antisymm (hcx ▸ (hbetween p hp).2) (hbetween p hp).1
      · exact Or.inr (Or.inl ⟨lo, hi, hcx, rfl, fun p hp =>
          onSegment_of_collinear (hbetween p hp).1 (hbetween p hp).2 (hflat lo hlo hi hhi p hp)⟩)

end Tbx.Geo
