import Tbx.Model.Cross
/-
The i64 cross product of `geometry.rs` does not overflow on the valid latitude/longitude range and
equals the integer orientation test of the Spec.
-/
namespace Tbx.Geo

theorem chk64_of_natAbs {x : Int} {n : Nat} (h : x.natAbs ≤ n) (hn : n ≤ 9223372036854775807) :
    chk64 x = some x := by
  unfold chk64 i64Min i64Max
  exact if_pos (by omega)

theorem natAbs_mul_le {x y : Int} {a b : Nat} (hx : x.natAbs ≤ a) (hy : y.natAbs ≤ b) :
    (x * y).natAbs ≤ a * b := by
  rw [Int.natAbs_mul]
  exact Nat.mul_le_mul hx hy

theorem natAbs_sub_le_of {x y lo hi : Int} (hx : lo ≤ x ∧ x ≤ hi) (hy : lo ≤ y ∧ y ≤ hi) :
    (x - y).natAbs ≤ (hi - lo).toNat := by
  omega

theorem valid_bounds {o a b : Coord} (ho : ValidCoord o) (ha : ValidCoord a) (hb : ValidCoord b) :
    (a.lon - o.lon).natAbs ≤ 360000000 ∧ (b.lat - o.lat).natAbs ≤ 180000000 ∧
    (a.lat - o.lat).natAbs ≤ 180000000 ∧ (b.lon - o.lon).natAbs ≤ 360000000 :=
  ⟨natAbs_sub_le_of ha.2.2 ho.2.2, natAbs_sub_le_of ⟨hb.1, hb.2.1⟩ ⟨ho.1, ho.2.1⟩,
    natAbs_sub_le_of ⟨ha.1, ha.2.1⟩ ⟨ho.1, ho.2.1⟩, natAbs_sub_le_of hb.2.2 ho.2.2⟩

theorem isCW_iff (o a b : Coord) : isCW o a b = true ↔ 0 < cross o a b := by
  simp only [isCW, cross, decide_eq_true_eq]
  omega

/-- every checked step of the i64 orientation test succeeds: the differences are below 3.6e8, the
products below 6.48e16, their difference below 1.3e17 -/
theorem crossI64_eq {o a b : Coord} (ho : ValidCoord o) (ha : ValidCoord a) (hb : ValidCoord b) :
    crossI64 o a b = some (cross o a b) ∧ isCWI64 o a b = some (isCW o a b) ∧
    (isCW o a b = true ↔ 0 < cross o a b) := by
  obtain ⟨h1, h2, h3, h4⟩ := valid_bounds ho ha hb
  have p1 := natAbs_mul_le h1 h2
  have p2 := natAbs_mul_le h3 h4
  have e1 := chk64_of_natAbs h1 (by decide)
  have e2 := chk64_of_natAbs h2 (by decide)
  have e3 := chk64_of_natAbs h3 (by decide)
  have e4 := chk64_of_natAbs h4 (by decide)
  have e5 := chk64_of_natAbs p1 (by decide)
  have e6 := chk64_of_natAbs p2 (by decide)
  have e7 := chk64_of_natAbs (Nat.le_trans (Int.natAbs_sub_le _ _) (Nat.add_le_add p1 p2)) (by decide)
  refine ⟨?_, ?_, isCW_iff o a b⟩
  · simp only [crossI64, cross, e1, e2, e3, e4, e5, e6, e7, Option.bind_eq_bind, Option.bind_some]
  · simp only [isCWI64, isCW, e1, e2, e3, e4, e5, e6, Option.bind_eq_bind, Option.bind_some, Option.pure_def]

end Tbx.Geo
