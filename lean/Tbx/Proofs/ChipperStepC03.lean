import Tbx.Proofs.ChipperPar
import Tbx.Props.C03
/-
The step model `Tbx.InertialFlow.subStep` satisfies what C05/C06 assume of a bisection step (`StepSpec`),
by C03's theorems `sides_nodup_subset`, `sides_cover`, `sides_nonempty`; it is total (`StepTotal`, defined here, by
C03's `sub_step_total`); and it satisfies what C06 assumes of it (`BoundMono`), as an instance of `boundMono_of`, by
`ok_flow_le_bound`, `ok_bound_irrelevant`, `sub_step_total`.
-/
namespace Tbx.Chipper
open Tbx Tbx.InertialFlow

theorem subStep_stepSpec (coord : Nat → Coord) (n : Nat) (kOf : Nat → Nat)
    (hk : ∀ s, 2 ≤ s → 1 ≤ kOf s ∧ 2 * kOf s ≤ s) :
    StepSpec n (fun e ids a k β => subStep e ids coord a k β) kOf where
  res := by
    intro job a β r hjob h
    have h' : subStep job.edges job.ids coord a (kOf job.ids.length) β = .ok r := h
    obtain ⟨hk1, hk2⟩ := hk job.ids.length hjob.two
    obtain ⟨hnd, hsub⟩ := Tbx.Props.C03.sides_nodup_subset job.edges job.ids coord a _ β r hjob.nodup h'
    have hcov := Tbx.Props.C03.sides_cover job.edges job.ids coord a _ β r hjob.nodup hjob.two hk1 hk2
      (fun e he => hjob.src e he) hjob.small h'
    refine ⟨⟨hnd, hsub, ?_⟩, Tbx.Props.C03.sides_nonempty job.edges job.ids coord a _ β r h'⟩
    intro e he
    rw [hcov]
    exact ⟨hjob.src e he, Or.inr (Or.inr (Tbx.BisectionCore.touched_of_mem he).1)⟩

theorem boundMono_of (n : Nat) (step : Step) (kOf : Nat → Nat)
    (hA : ∀ job a (β : Int) r, JobOK n job → a < 4 → 0 ≤ β →
      step job.edges job.ids a (kOf job.ids.length) β = .ok r → r.flow ≤ β)
    (hB : ∀ job a (β β' : Int) r, JobOK n job → a < 4 →
      step job.edges job.ids a (kOf job.ids.length) β = .ok r → r.flow ≤ β' →
      step job.edges job.ids a (kOf job.ids.length) β' = .ok r)
    (hT : ∀ job a, JobOK n job → a < 4 → ∃ (β : Int) (r : FlowRes), 0 ≤ β ∧ 0 ≤ r.flow ∧
      step job.edges job.ids a (kOf job.ids.length) β = .ok r)
    (hD : ∀ job a (β : Int), JobOK n job → a < 4 → 0 ≤ β →
      step job.edges job.ids a (kOf job.ids.length) β ≠ .panic) :
    BoundMono n step kOf := by
  intro job hjob
  have axis : ∀ a, a < 4 → ∃ r : FlowRes, 0 ≤ r.flow ∧ ∀ β : Int, 0 ≤ β →
      step job.edges job.ids a (kOf job.ids.length) β = if r.flow ≤ β then .ok r else .aborted := by
    intro a ha
    obtain ⟨β0, r, hβ0, hnn, hok⟩ := hT job a hjob ha
    refine ⟨r, hnn, ?_⟩
    intro β hβ
    cases hs : step job.edges job.ids a (kOf job.ids.length) β with
    | panic => exact absurd hs (hD job a β hjob ha hβ)
    | aborted =>
      have : ¬ r.flow ≤ β := by
        intro hle
        have := hB job a β0 β r hjob ha hok hle
        rw [hs] at this; cases this
      rw [if_neg this]
    | ok r' =>
      have h1 : r'.flow ≤ β := hA job a β r' hjob ha hβ hs
      have h0 : r.flow ≤ β0 := hA job a β0 r hjob ha hβ0 hok
      have e1 := hB job a β (max β β0) r' hjob ha hs (by omega)
      have e2 := hB job a β0 (max β β0) r hjob ha hok (by omega)
      rw [e1] at e2
      cases e2
      rw [if_pos h1]
  obtain ⟨r0, h0⟩ := axis 0 (by omega)
  obtain ⟨r1, h1⟩ := axis 1 (by omega)
  obtain ⟨r2, h2⟩ := axis 2 (by omega)
  obtain ⟨r3, h3⟩ := axis 3 (by omega)
  refine ⟨fun a => match a with | 0 => r0 | 1 => r1 | 2 => r2 | _ => r3, ?_⟩
  intro a ha
  have : a = 0 ∨ a = 1 ∨ a = 2 ∨ a = 3 := by omega
  rcases this with rfl | rfl | rfl | rfl
  · exact h0
  · exact h1
  · exact h2
  · exact h3

def StepTotal (n : Nat) (step : Step) (kOf : Nat → Nat) : Prop :=
  (∀ job a, JobOK n job → a < 4 → ∃ (β : Int) (r : FlowRes), 0 ≤ β ∧ 0 ≤ r.flow ∧
      step job.edges job.ids a (kOf job.ids.length) β = .ok r) ∧
  (∀ job a (β : Int), JobOK n job → a < 4 → 0 ≤ β →
      step job.edges job.ids a (kOf job.ids.length) β ≠ .panic)

theorem subStep_total (coord : Nat → Coord) (n : Nat) (kOf : Nat → Nat)
    (hk : ∀ s, 2 ≤ s → 1 ≤ kOf s ∧ 2 * kOf s ≤ s) :
    StepTotal n (fun e ids a k β => subStep e ids coord a k β) kOf := by
  constructor
  · intro job a hjob _
    obtain ⟨hk1, hk2⟩ := hk job.ids.length hjob.two
    exact (Tbx.Props.C03.sub_step_total job.edges job.ids coord a _ hjob.nodup hjob.two hk1 hk2
      (fun e he => hjob.src e he) hjob.small).1
  · intro job a β hjob _ _
    obtain ⟨hk1, hk2⟩ := hk job.ids.length hjob.two
    exact (Tbx.Props.C03.sub_step_total job.edges job.ids coord a _ hjob.nodup hjob.two hk1 hk2
      (fun e he => hjob.src e he) hjob.small).2 β

theorem subStep_boundMono (coord : Nat → Coord) (n : Nat) (kOf : Nat → Nat)
    (hk : ∀ s, 2 ≤ s → 1 ≤ kOf s ∧ 2 * kOf s ≤ s) :
    BoundMono n (fun e ids a k β => subStep e ids coord a k β) kOf := by
  have htotal := subStep_total coord n kOf hk
  apply boundMono_of n _ kOf
  · intro job a β r _ _ hβ h
    exact Tbx.Props.C03.ok_flow_le_bound job.edges job.ids coord a _ β hβ r h
  · intro job a β β' r hjob _ h hle
    obtain ⟨hk1, hk2⟩ := hk job.ids.length hjob.two
    have hpre := Tbx.Props.C03.preOK_sortIds job.edges job.ids coord a (kOf job.ids.length) hjob.nodup hjob.two
      hk1 hk2 (fun e he => hjob.src e he)
    exact (Tbx.Props.C03.ok_bound_irrelevant job.edges _ _ hpre hjob.small β β' r h hle).1
  · exact htotal.1
  · exact htotal.2

end Tbx.Chipper
