import Tbx.Proofs.LruL1Move
import Tbx.Proofs.LruL0
/-
Histories of the bare list: every in-domain operation sequence keeps the list well-formed and
never reaches an error branch; what the abstract chain becomes is given by the L0 list functions.
-/
namespace Tbx.LruL1
open Tbx

variable {T : Type}

/-- effect of a list operation on the abstract chain; `fresh` is the address the next
    `push_front` will get -/
def absStep (ch : List (Nat × T)) (fresh : Nat) : LL.Op T → List (Nat × T)
  | .pushFront t => LruL0.AList.pushFront ch fresh t
  | .moveToFront c => LruL0.AList.moveToFront ch c
  | .popBack => (LruL0.AList.popBack ch).1
  | .setFront t => LruL0.AList.setFront ch t
  | .clear => []

def allocs : LL.Op T → Nat
  | .pushFront _ => 1
  | _ => 0

/-- the property's quantifier for the bare list: `move_to_front` only with the cursor of a node that
    is in the list, `get_front_mut` only on a non-empty list -/
def InDomain (ch : List (Nat × T)) : LL.Op T → Prop
  | .moveToFront c => c ∈ addrs ch
  | .setFront _ => ch ≠ []
  | _ => True

def absRun (ch : List (Nat × T)) (fresh : Nat) : List (LL.Op T) → List (Nat × T)
  | [] => ch
  | op :: ops => absRun (absStep ch fresh op) (fresh + allocs op) ops

def InDomainAll (ch : List (Nat × T)) (fresh : Nat) : List (LL.Op T) → Prop
  | [] => True
  | op :: ops => InDomain ch op ∧ InDomainAll (absStep ch fresh op) (fresh + allocs op) ops

theorem step_wf (s : LL T) (ch : List (Nat × T)) (op : LL.Op T) (h : WF s ch) (hd : InDomain ch op) :
    ∃ s', LL.step s op = .ok s' ∧ WF s' (absStep ch s.mem.cells.size op) ∧
      s'.mem.cells.size = s.mem.cells.size + allocs op := by
  cases op with
  | pushFront t =>
    obtain ⟨s', e, hwf, hsz⟩ := pushFront_wf s ch t h
    exact ⟨s', by simp [LL.step, e], hwf, hsz⟩
  | moveToFront c =>
    obtain ⟨⟨b, tb⟩, hp, rfl⟩ := List.mem_map.1 hd
    obtain ⟨l1, l2, rfl⟩ := List.append_of_mem hp
    obtain ⟨s', e, hwf, hsz⟩ := moveToFront_wf s l1 l2 b tb h
    obtain ⟨hf, hr⟩ := LruL0.find_remove_of_split l1 l2 b tb h.nodup
    refine ⟨s', by simp [LL.step, e], ?_, by simp [allocs, hsz]⟩
    simp only [absStep, LruL0.AList.moveToFront, hf]
    exact (show List.filter (fun p => !p.1 == b) (l1 ++ (b, tb) :: l2) = l1 ++ l2 from hr) ▸ hwf
  | popBack =>
    rcases eq_nil_or_snoc ch with e | ⟨l, ⟨a, t⟩, e⟩
    · subst e
      exact ⟨s, by simp [LL.step, popBack_wf_nil s h], by simpa [absStep, LruL0.AList.popBack] using h, rfl⟩
    · subst e
      obtain ⟨s', e, hwf, hsz⟩ := popBack_wf_concat s l a t h
      exact ⟨s', by simp [LL.step, e], by simpa [absStep, LruL0.AList.popBack] using hwf, by simp [allocs, hsz]⟩
  | setFront t =>
    cases ch with
    | nil => exact absurd rfl hd
    | cons p rest =>
      obtain ⟨f, t0⟩ := p
      obtain ⟨s', e, hwf, hsz⟩ := setFront_wf s f t0 t rest h
      exact ⟨s', by simp [LL.step, e], by simpa [absStep, LruL0.AList.setFront] using hwf, by simp [allocs, hsz]⟩
  | clear =>
    obtain ⟨s', e, hwf, hsz⟩ := clear_wf s ch h
    exact ⟨s', by simp [LL.step, e], by simpa [absStep] using hwf, by simp [allocs, hsz]⟩

theorem run_wf (s : LL T) (ch : List (Nat × T)) (ops : List (LL.Op T)) (h : WF s ch)
    (hd : InDomainAll ch s.mem.cells.size ops) :
    ∃ s', LL.run s ops = .ok s' ∧ WF s' (absRun ch s.mem.cells.size ops) := by
  induction ops generalizing s ch with
  | nil => exact ⟨s, rfl, h⟩
  | cons op ops ih =>
    obtain ⟨hd1, hd2⟩ := hd
    obtain ⟨s1, e1, hwf1, hsz1⟩ := step_wf s ch op h hd1
    rw [← hsz1] at hd2
    obtain ⟨s', e2, hwf2⟩ := ih s1 _ hwf1 hd2
    refine ⟨s', by simp only [LL.run, e1, e2], ?_⟩
    simp only [absRun]; rw [← hsz1]; exact hwf2

end Tbx.LruL1
