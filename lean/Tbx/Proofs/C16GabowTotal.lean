import Tbx.Proofs.C16GabowExact
/-
Path-based SCC (`Model/Gabow.lean`): the loops.  One induction over the fuel of the DFS loop and one over the roots
(between two roots `GF` holds and `GXN` with an empty path) give both halves: whenever `run` returns, the labels are
exact (no well-formedness needed); on a well-formed graph no step reaches a panic branch (every edge target is a node)
and `phi`, which falls with every step, starts below `dfsFuel` (the out-degrees sum to the number of edges), so `run`
returns.
-/
namespace Tbx.Gabow
open Tbx Tbx.Csr Tbx.Comp
open Tbx.Scc (AX)

theorem step_total (g : Graph) (hwf : WF g) (hn : numNodes g < maxU) (s : State) (ei : Array Nat)
    (rest : List Dfs) (top : Dfs) (hf : GF (numNodes g) s) (hw : WorkOK s.scc (top :: rest)) (hp : WP s (top :: rest))
    (hei : ei.size = numNodes g) (htop : ∀ w, top = .visit w → w < numNodes g) :
    ∃ s' ei' work', step g s ei rest top = some (s', ei', work') ∧ GF (numNodes g) s' ∧ WorkOK s'.scc work' ∧
      WP s' work' ∧ ei'.size = numNodes g ∧ (∀ w rest', work' = .visit w :: rest' → w < numNodes g) ∧
      phi g s' ei' work' + 1 ≤ phi g s ei (top :: rest) := by
  have hok := step_spec g hn hf hw hp hei htop
  cases hstep : step g s ei rest top with
  | none => rw [hstep] at hok; exact absurd hwf hok
  | some x =>
    obtain ⟨s', ei', work'⟩ := x
    rw [hstep] at hok
    exact ⟨s', ei', work', rfl, hok.1⟩

theorem loop_spec (g : Graph) (hn : numNodes g < maxU) :
    ∀ (f : Nat) (s : State) (ei : Array Nat) (work : List Dfs), GF (numNodes g) s → WorkOK s.scc work →
      WP s work → ei.size = numNodes g → (∀ w rest, work = .visit w :: rest → w < numNodes g) →
      (∀ s', GX g s ei work → loop g f s ei work = some s' →
        GF (numNodes g) s' ∧ (∃ ei', GX g s' ei' []) ∧ (∀ u, gt s.scc u ≠ maxU → gt s'.scc u ≠ maxU) ∧
          (∀ w rest, work = .visit w :: rest → gt s'.scc w ≠ maxU)) ∧
      (WF g → phi g s ei work < f → ∃ s', loop g f s ei work = some s') := by
  intro f
  induction f with
  | zero => intro _ _ _ _ _ _ _ _; exact ⟨fun _ _ h => (nomatch h), fun _ h => absurd h (Nat.not_lt_zero _)⟩
  | succ f ih =>
    intro s ei work hf hw hp hei htop
    cases work with
    | nil => exact ⟨fun s' hx h => by cases h; exact ⟨hf, ⟨ei, hx⟩, fun _ h => h, nofun⟩, fun _ _ => ⟨s, rfl⟩⟩
    | cons top rest =>
      have hok := step_spec g hn hf hw hp hei fun w hw' => htop w rest (by rw [hw'])
      simp only [loop]
      cases hstep : step g s ei rest top with
      | none => rw [hstep] at hok; exact ⟨fun _ _ h => (nomatch h), fun hwf _ => absurd hwf hok⟩
      | some x =>
        obtain ⟨s1, ei1, work1⟩ := x
        rw [hstep] at hok
        obtain ⟨⟨h1, h2, h3, h4, h5, h6⟩, hm, hv, hx1⟩ := hok
        obtain ⟨k1, k2⟩ := ih s1 ei1 work1 h1 h2 h3 h4 h5
        refine ⟨fun s' hx h => ?_, fun hwf hphi => k2 hwf (by omega)⟩
        obtain ⟨a, b, c, _⟩ := k1 s' (hx1 hx) h
        exact ⟨a, b, fun u hu => c u (hm u hu), fun w rest' hh => c w (hv w rest' hh)⟩

/-- between two roots the path is empty, so nothing is open: every visited node is assigned -/
theorem GXN.not_onStack {g : Graph} {s : State} {N : Nat → Nat} (hx : GXN g s N []) (u : Nat) : ¬ OnStack s u := fun hu =>
  have ⟨_, hd, _⟩ := hx.ax.base u hu
  List.not_mem_nil hd

theorem gx_root {g : Graph} {s : State} {N : Nat → Nat} (hx : GXN g s N []) (v : Nat) :
    GX g s (Array.replicate (numNodes g) 0) [.visit v] := by
  have hnos := hx.not_onStack
  refine ⟨_, ⟨AX.empty hnos (fun _ => List.not_mem_nil) (fun u hu => hnos u hu.1) hx.ax.final,
    hx.lab_ge, fun u _ => ?_, nofun⟩, Or.inl ⟨hnos, rfl⟩⟩
  by_cases hu : u < numNodes g
  · exact gt_replicate _ _ _ hu
  · exact gt_of_ge _ _ (Array.size_replicate ▸ Nat.le_of_not_lt hu)

theorem outer_spec (g : Graph) (hn : numNodes g < maxU) :
    ∀ (k v : Nat) (s : State) (N : Nat → Nat), GF (numNodes g) s → GXN g s N [] → v + k = numNodes g →
      (∀ s', (∀ u, u < v → gt s.scc u ≠ maxU) → outer g k v s = some s' →
        GF (numNodes g) s' ∧ (∃ N', GXN g s' N' []) ∧ ∀ u, u < numNodes g → gt s'.scc u ≠ maxU) ∧
      (WF g → ∃ s', outer g k v s = some s') := by
  intro k
  induction k with
  | zero =>
    intro v s N hf hx hv
    exact ⟨fun s' hall h => by cases h; exact ⟨hf, ⟨N, hx⟩, fun u hu => hall u (Nat.lt_of_lt_of_eq hu hv.symm)⟩, fun _ => ⟨s, rfl⟩⟩
  | succ k ih =>
    intro v s N hf hx hv
    have hv' : v + 1 + k = numNodes g := (Nat.add_right_comm v 1 k).trans hv
    have hnext : ∀ s1 : State, (∀ u, u < v → gt s.scc u ≠ maxU) → (∀ u, gt s.scc u ≠ maxU → gt s1.scc u ≠ maxU) →
        gt s1.scc v ≠ maxU → ∀ u, u < v + 1 → gt s1.scc u ≠ maxU := fun s1 hall h2 h3 u hu => by
      by_cases huv : u = v
      · exact huv ▸ h3
      · exact h2 u (hall u (Nat.lt_of_le_of_ne (Nat.le_of_lt_succ hu) huv))
    simp only [outer]
    split
    · rename_i hm
      obtain ⟨d1, d2⟩ := loop_spec g hn (dfsFuel g) s (Array.replicate (numNodes g) 0) [.visit v] hf
        (show WorkOK s.scc [.visit v] from ⟨hm, nofun⟩) ⟨nofun, trivial⟩ Array.size_replicate
        (fun w rest h => by cases h; exact hv ▸ Nat.lt_add_of_pos_right (Nat.succ_pos k))
      simp only [dfsIterative]
      cases hd : loop g (dfsFuel g) s (Array.replicate (numNodes g) 0) [.visit v] with
      | none =>
        refine ⟨fun _ _ h => (nomatch h), fun hwf => ?_⟩
        have h1 := remE_zero_le g hwf
        have h2 := Nat.mul_le_mul_left 3 (Nat.sub_le (numNodes g) (visited s.scc (numNodes g)))
        obtain ⟨_, h⟩ := d2 hwf (by
          show _ + 3 * (numNodes g - visited s.scc (numNodes g)) + (0 + 0) < 3 * numNodes g + numEdges g + 2
          generalize 3 * (numNodes g - visited s.scc (numNodes g)) = a at h2 ⊢
          omega)
        exact nomatch hd.symm.trans h
      | some s1 =>
        obtain ⟨hf1, ⟨ei1, hx1⟩, h2, h3⟩ := d1 s1 (gx_root hx v) hd
        obtain ⟨k1, k2⟩ := ih (v + 1) s1 (gt ei1) hf1 hx1 hv'
        exact ⟨fun s' hall h => k1 s' (hnext s1 hall h2 (h3 v [] rfl)) h, k2⟩
    · rename_i hm
      obtain ⟨k1, k2⟩ := ih (v + 1) s N hf hx hv'
      exact ⟨fun s' hall h => k1 s' (hnext s hall (fun _ h => h) hm) h, k2⟩

theorem gx_prepare (s : State) (g : Graph) :
    GF (numNodes g) (prepare true s g) ∧ GXN g (prepare true s g) (fun _ => 0) [] := by
  have hscc : (prepare true s g).scc = Array.replicate (numNodes g) maxU := Tarjan.resize_empty _ _
  have hunv : ∀ u, u < numNodes g → gt (prepare true s g).scc u = maxU := fun u hu => by
    rw [hscc]; exact gt_replicate _ _ _ hu
  have hnoass : ∀ u, ¬ Assigned g (prepare true s g) u := fun u hu => hu.1.1 (hunv u hu.1.2)
  have hnos : ∀ u, ¬ OnStack (prepare true s g) u := fun u hu => Nat.not_lt_zero _ hu.1
  exact ⟨⟨⟨by rw [hscc]; exact Array.size_replicate, fun v hv => Or.inl (hunv v hv), Nat.le_refl _, nofun, Nat.zero_le _⟩,
      nofun, nofun, fun _ _ _ => nofun, by show numNodes g - numNodes g + 0 ≤ _; omega⟩,
    AX.empty hnos (fun _ => List.not_mem_nil) (fun u hu => hnos u hu.1) ⟨fun v _ hv => absurd hv (hnoass v),
      fun v _ hv => absurd hv (hnoass v)⟩, fun v hv => absurd hv (hnoass v), fun _ _ => rfl, nofun⟩

theorem run_sound (s : State) (g : Graph) (hn : numNodes g < maxU) (s' : State) (a : Array Nat)
    (h : run s g = some (s', a)) : a.size = numNodes g ∧ (∀ v, v < numNodes g → gt a v < numNodes g) ∧
      ∀ u v, u < numNodes g → v < numNodes g → (gt a u = gt a v ↔ SameSCC (edgesOf g) u v) := by
  simp only [run, runWith] at h
  split at h
  · cases h
  · rename_i s1 ho
    cases h
    obtain ⟨hf, ⟨_, hx⟩, hall⟩ := (outer_spec g hn _ 0 _ _ (gx_prepare s g).1 (gx_prepare s g).2 (Nat.zero_add _)).1 _
      (fun u hu => absurd hu (Nat.not_lt_zero u)) ho
    exact ⟨hf.base.size, fun v hv => (hf.base.range v hv).resolve_left (hall v hv),
      fun u v hu hv => hx.ax.final.exact u v ⟨⟨hall u hu, hu⟩, hx.not_onStack u⟩ ⟨⟨hall v hv, hv⟩, hx.not_onStack v⟩⟩

theorem run_returns (s : State) (g : Graph) (hwf : WF g) (hn : numNodes g < maxU) : ∃ s', run s g = some (s', s'.scc) := by
  obtain ⟨s1, h1⟩ := (outer_spec g hn (numNodes g) 0 _ _ (gx_prepare s g).1 (gx_prepare s g).2 (Nat.zero_add _)).2 hwf
  exact ⟨s1, by simp only [run, runWith, h1]⟩

end Tbx.Gabow
