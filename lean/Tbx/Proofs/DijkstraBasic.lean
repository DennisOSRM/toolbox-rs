import Tbx.Model.Dijkstra
import Tbx.Proofs.AHeapInvOps
/-
Facts about the Dijkstra models that need no heap invariant.  A relaxation leaves the queue's type constants
(wmin, wmax) alone (`relax_params`); `WFq` says that they are those of the Rust instantiation.  `run` starts with
`clear`, so on a `WFq` object it is the loop on the start state `startQ` (`uniRun_eq`, `o2mRun_eq`) and its result
(returned value AND the whole search state) does not depend on the state the object was in (`uniRun_reuse`,
`o2mRun_reuse`).
-/
namespace Tbx.Dijkstra
open Tbx Tbx.AHeap

theorem upHeap_params (s : Heap) (k : Nat) : (upHeap s k).wmin = s.wmin ∧ (upHeap s k).wmax = s.wmax := ⟨rfl, rfl⟩
theorem downHeap_params (s : Heap) (k : Nat) : (downHeap s k).wmin = s.wmin ∧ (downHeap s k).wmax = s.wmax := ⟨rfl, rfl⟩

def Res.map {α β : Type} (f : α → β) : Res α → Res β
  | .ok a => .ok (f a)
  | .panic => .panic
  | .fuel => .fuel

/-- running out of fuel is not excluded here -/
def Res.Holds {α : Type} (r : Res α) (P : α → Prop) : Prop :=
  r ≠ .panic ∧ ∀ a, r = .ok a → P a

theorem Res.holds_ok {α : Type} {P : α → Prop} {a : α} (h : P a) : (Res.ok a).Holds P :=
  ⟨nofun, fun _ e => by cases e; exact h⟩

theorem Res.holds_fuel {α : Type} {P : α → Prop} : (Res.fuel : Res α).Holds P :=
  ⟨nofun, nofun⟩

theorem Res.Holds.map {α β : Type} {r : Res α} {P : α → Prop} {Q : β → Prop} (h : r.Holds P) (f : α → β)
    (hf : ∀ a, P a → Q (f a)) : (r.map f).Holds Q := by
  cases r with
  | ok a => exact Res.holds_ok (hf a (h.2 a rfl))
  | panic => exact absurd rfl h.1
  | fuel => exact Res.holds_fuel

theorem Res.map_ne_fuel {α β : Type} {r : Res α} (f : α → β) (h : r ≠ .fuel) : r.map f ≠ .fuel := by
  cases r with
  | fuel => exact absurd rfl h
  | _ => nofun

theorem Res.ok_of {α : Type} {r : Res α} {P : α → Prop} (h : r.Holds P) (hf : r ≠ .fuel) : ∃ a, r = .ok a ∧ P a := by
  cases r with
  | ok a => exact ⟨a, rfl, h.2 a rfl⟩
  | panic => exact absurd rfl h.1
  | fuel => exact absurd rfl hf

/-- all edges out of nodes `< n` end below `n`: on such a graph the fuel `n + 1` that `run` hands to its loop suffices
(`uniRun_spec`, `o2mRun_spec`) -/
def Bounded (adj : Adj) (n : Nat) : Prop := ∀ u, u < n → ∀ v w, (v, w) ∈ adj u → v < n

/-- the queue after the `if !inserted(v) { insert }` statement -/
def relaxPre (q : Heap) (u distance : Int) (v w : Nat) : Heap :=
  if !(inserted q (v : Int)) then insert q (v : Int) (distance + (w : Int)) u else q

theorem relax_eq (q : Heap) (u d : Int) (v w : Nat) :
    relax q u d v w =
      if contains (relaxPre q u d v w) (v : Int) && decide (weight (relaxPre q u d v w) (v : Int) > d + (w : Int)) then
        decreaseKeyData (relaxPre q u d v w) (v : Int) (d + (w : Int)) u
      else some (relaxPre q u d v w) := rfl

theorem relax_params {q q' : Heap} {u d : Int} {v w : Nat} (h : relax q u d v w = some q') :
    q'.wmin = q.wmin ∧ q'.wmax = q.wmax := by
  have p1 : (relaxPre q u d v w).wmin = q.wmin ∧ (relaxPre q u d v w).wmax = q.wmax := by
    unfold relaxPre; split
    · exact insert_params _ _ _ _
    · exact ⟨rfl, rfl⟩
  rw [relax_eq] at h
  split at h
  · have := decreaseKeyData_params h; exact ⟨this.1.trans p1.1, this.2.trans p1.2⟩
  · cases h; exact p1

/-- the queue's weight-type constants are those of `AddressableHeap<NodeID, usize, NodeID>` -/
def WFq (q : Heap) : Prop := q.wmin = 0 ∧ q.wmax = UMAX

theorem WFq.of_params {q q' : Heap} (hw : WFq q) (h : q'.wmin = q.wmin ∧ q'.wmax = q.wmax) : WFq q' :=
  ⟨h.1.trans hw.1, h.2.trans hw.2⟩

theorem WFq_new_uni : WFq Uni.new.queue := ⟨rfl, rfl⟩
theorem WFq_new_o2m : WFq O2M.new.queue := ⟨rfl, rfl⟩

theorem Uni.clear_eq {st : Uni} (h : WFq st.queue) : st.clear = Uni.new := by
  unfold Uni.clear Uni.new AHeap.clear; rw [h.1, h.2]

theorem O2M.clear_eq {st : O2M} (h : WFq st.queue) : st.clear = O2M.new := by
  unfold O2M.clear O2M.new AHeap.clear; rw [h.1, h.2]

/-- the queue after `clear(); queue.insert(s, 0, s)` -/
def startQ (s : Nat) : Heap := insert (init 0 UMAX) (s : Int) 0 (s : Int)

theorem uniRun_eq (adj : Adj) (n : Nat) {st : Uni} (s t : Nat) (h : WFq st.queue) :
    uniRun adj n st s t =
      uniLoop adj (t : Int) (n + 1) { queue := startQ s, upperBound := UMAX } := by
  unfold uniRun; rw [Uni.clear_eq h]; rfl

theorem o2mRun_eq (adj : Adj) (n : Nat) {st : O2M} (s : Nat) (targets : List Nat) (h : WFq st.queue) :
    o2mRun adj n st s targets =
      (o2mLoop adj targets (n + 1) { queue := startQ s, reached := 0 }).map
        (fun st' => (st', st'.reached == targets.length)) := by
  unfold o2mRun; rw [O2M.clear_eq h]
  dsimp only [O2M.new, startQ]
  generalize o2mLoop adj targets (n + 1) _ = r
  cases r <;> rfl

theorem uniRun_reuse (adj : Adj) (n : Nat) (st : Uni) (s t : Nat) (h : WFq st.queue) :
    uniRun adj n st s t = uniRun adj n Uni.new s t :=
  (uniRun_eq adj n s t h).trans (uniRun_eq adj n s t WFq_new_uni).symm

theorem o2mRun_reuse (adj : Adj) (n : Nat) (st : O2M) (source : Nat) (targets : List Nat) (h : WFq st.queue) :
    o2mRun adj n st source targets = o2mRun adj n O2M.new source targets :=
  (o2mRun_eq adj n source targets h).trans (o2mRun_eq adj n source targets WFq_new_o2m).symm

theorem init_observers (a b x : Int) :
    inserted (init a b) x = false ∧ contains (init a b) x = false ∧ weight (init a b) x = b ∧ data? (init a b) x = none := by
  simp [init, inserted, contains, weight, data?, lookup]

theorem init_params : (init 0 UMAX).wmin = 0 ∧ (init 0 UMAX).wmax = UMAX := ⟨rfl, rfl⟩

theorem start_params (s : Nat) : WFq (startQ s) :=
  WFq.of_params init_params (insert_params _ _ _ _)

end Tbx.Dijkstra
