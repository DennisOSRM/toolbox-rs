import Tbx.Proofs.FlowDinicBfs
import Tbx.Proofs.FlowDinicPhase
import Tbx.Proofs.FlowCut
import Tbx.Proofs.FlowUniq
/-
C01 `dinic_correct` / `dinic_aug_positive` / `dinic_terminates` (here `dinic_run_total`), C02
`dinic_assignment_canonical` (here `dinic_assignment`), and running a finished Dinic object again (defect D24, fixed
in /repo: `run` continues from `self.max_flow`).

The main loop keeps `DL` (the flow invariant `FInv` for the accumulated value): `bfs` touches only the levels, a phase
keeps it by `dfs_run` and, started after `bfs() = true`, pushes ≥ 1.  So the loop ends in a state without augmenting
path unless its fuel is short of the value still to be pushed (`dinicLoop_run`), and the value is bounded by the sum
of all capacities.  A returning run ends in a finished state (`Quiet`) when started from ANY state whose stored counter
is the value of the flow the residual graph carries (`Carried`, `runAgain_spec`); a fresh object is such a state
(`fresh_carried`, `run_spec`), and from a finished one one more `run()` performs exactly one BFS, which answers `false`,
and changes neither graph nor counter.
-/
namespace Tbx.Flow
open Tbx Tbx.FlowTheory Tbx.FlowSpec

/-- the successor that `LPI` gives is the head of an admissible edge (`AdmE`) -/
theorem marked_of_lab {g : Graph} {source t : Nat} {lv ps : Array Nat} (hlp : LPI g source t lv)
    (hsc : SC g lv ps []) : ∀ v, v < g.numNodes → Lab lv v → Marked ps v → Marked ps t :=
  hlp.rec_on id fun v w ⟨e, h1, h2, h3, h4⟩ hval ih hm =>
    ih ((hsc v hm).resolve_left List.not_mem_nil w ⟨e, h1, h2, h3, Int.ne_of_gt h4, h3 ▸ hval ▸ Nat.le_succ _⟩)

theorem bfs_dl {n : Nat} {c : Fin n → Fin n → ℤ} {s t : Fin n} (hst : s ≠ t) (hN : n + 2 < INV) {d : Dinic}
    {F : ℤ} (hi : DL c s t d F) :
    ∃ d1 b, d.bfs = some (d1, b) ∧ DL c s t d1 F ∧ d1.g = d.g ∧ d1.trace = d.trace ∧
      (b = true ↔ ReachG d.g s.val t.val) ∧
      (b = true → ∀ ps, SC d.g d1.level ps [] → Marked ps s.val → Marked ps t.val) := by
  have hgn := hi.fi.hn
  have hN' : d.g.numNodes + 2 < INV := by rw [hgn]; exact hN
  have hsz : d.level.size = d.g.numNodes := by rw [hi.lsz, hgn]
  have hs : d.source < d.g.numNodes := by rw [hi.src, hgn]; exact s.isLt
  have ht : d.target < d.g.numNodes := by rw [hi.tgt, hgn]; exact t.isLt
  have hne : d.source ≠ d.target := by rw [hi.src, hi.tgt]; exact fun e => hst (Fin.ext e)
  obtain ⟨lv, hl, hinv, hlp⟩ := bfs_run d hi.fi.wf hi.uq hi.rc hN' hsz ht hne
  refine ⟨_, _, hl, ⟨hi.fi, hi.uq, hi.rc, hi.src, hi.tgt, hi.psz, hinv.hsz.trans hgn⟩, rfl, rfl, ?_,
    fun hb ps hsc => ?_⟩
  · have := bfs_exact d hi.fi.wf hi.uq hi.rc hN' hsz hs ht hne _ _ hl
    rw [hi.src, hi.tgt] at this
    rw [hi.src]; exact this
  · have := marked_of_lab hlp hsc d.source hs (bne_iff_ne.mp hb)
    rwa [hi.src, hi.tgt] at this

theorem dfs_spec {n : Nat} {c : Fin n → Fin n → ℤ} {s t : Fin n} (hst : s ≠ t) (hN : n ≤ INV)
    (d : Dinic) (F : ℤ) (hi : DL c s t d F) (d' : Dinic) (bf : ℤ) (h : d.dfs = some (d', bf)) :
    DL c s t d' (F + bf) ∧ 0 ≤ bf := by
  obtain ⟨d1, bf1, h1, hdl, hbf, _⟩ := dfs_run hst hN d F hi
  rw [h1] at h
  cases h
  exact ⟨hdl, hbf⟩

theorem reachTarget_fin {d d' : Dinic} {ps : Array Nat} {u v : Nat} {a bf x : Int}
    (h : reachTarget d ps u v a bf = some (d', x)) : d'.finished = d.finished := by
  unfold reachTarget at h
  split at h
  · cases h
  · split at h
    · cases h
    · cases h; rfl

theorem dfsEdges_fin (u : Nat) (flow : Int) : ∀ (k e : Nat) (d : Dinic) (bf : Int) (d' : Dinic) (x : Int),
    dfsEdges u flow e k d bf = some (d', x) → d'.finished = d.finished := by
  intro k
  induction k with
  | zero => intro e d bf d' x h; cases h; rfl
  | succ k ih =>
    intro e d bf d' x h
    by_cases hskip : gt d.parents (gt d.g.tgt e) ≠ INV ∨ gt d.level u < gt d.level (gt d.g.tgt e) ∨
        gt d.g.cap e = 0
    · rw [dfsEdges_skip hskip] at h; exact ih _ _ _ _ _ h
    · rw [dfsEdges_new (Decidable.not_not.mp fun hh => hskip (Or.inl hh)) (fun hh => hskip (Or.inr (Or.inl hh)))
        (fun hh => hskip (Or.inr (Or.inr hh)))] at h
      split at h
      · exact reachTarget_fin h
      · exact (ih _ _ _ _ _ h : _)

theorem dfsLoop_fin : ∀ (fuel : Nat) (d : Dinic) (bf : Int) (d' : Dinic) (x : Int),
    dfsLoop fuel d bf = some (d', x) → d'.finished = d.finished := by
  intro fuel
  induction fuel with
  | zero => intro d bf d' x h; simp [dfsLoop] at h
  | succ f ih =>
    intro d bf d' x h
    unfold dfsLoop at h
    split at h
    · cases h; rfl
    · split at h
      · cases h
      · rename_i hh
        have a := dfsEdges_fin _ _ _ _ _ _ _ _ hh
        have b := ih _ _ _ _ h
        rw [b, a]

theorem dfs_fin (d d' : Dinic) (x : Int) (h : d.dfs = some (d', x)) : d'.finished = d.finished := by
  unfold Dinic.dfs at h
  exact (dfsLoop_fin _ _ _ _ _ h : _)

theorem bfs_fin (d d' : Dinic) (b : Bool) (h : d.bfs = some (d', b)) : d'.finished = d.finished := by
  unfold Dinic.bfs at h
  simp only at h
  split at h
  · cases h
  · cases h; rfl

/-- second disjunct: the fuel is used up, and then some flow has value ≥ `F + fuel`, every round having pushed ≥ 1 -/
theorem dinicLoop_run {n : Nat} {c : Fin n → Fin n → ℤ} {s t : Fin n} (hst : s ≠ t) (hN : n + 2 < INV)
    (fuel : Nat) : ∀ (d : Dinic) (flow F : ℤ), DL c s t d F →
    (∃ d' flow', dinicLoop fuel d flow = some (d', flow') ∧ DL c s t d' (F + (flow' - flow)) ∧
      ¬ ReachG d'.g s.val t.val ∧ (TrPos d → TrPos d')) ∨
    (dinicLoop fuel d flow = none ∧ ∃ g' F', FInv c s t g' F' ∧ F + fuel ≤ F') := by
  induction fuel with
  | zero => intro d flow F hi; exact Or.inr ⟨rfl, d.g, F, hi.fi, by simp⟩
  | succ fuel ih =>
    intro d flow F hi
    obtain ⟨d1, b, hb, hi1, hg, htr, hex, hadm⟩ := bfs_dl hst hN hi
    have htr1 : TrPos d → TrPos d1 := fun h => by unfold TrPos; rw [htr]; exact h
    simp only [dinicLoop, hb]
    cases b with
    | false =>
      exact Or.inl ⟨d1, flow, rfl, by rw [Int.sub_self, Int.add_zero]; exact hi1,
        fun hr => Bool.noConfusion (hex.mpr (hg ▸ hr)), htr1⟩
    | true =>
      obtain ⟨d2, bf, hd, hi2, _, htr2, hpos⟩ := dfs_run hst (by omega) d1 F hi1
      simp only [hd]
      -- `bfs` has just exhibited an admissible path: a phase without augmentation would have marked the target
      have hbf : 0 < bf := hpos.elim id fun ⟨ps, hs, ht, hsc⟩ =>
        absurd (hadm rfl ps (hg ▸ hsc) hs) ht
      rcases ih d2 (flow + bf) (F + bf) hi2 with ⟨d', flow', hl, hdl, hnr, htr'⟩ | ⟨hl, g', F', hfi, hle⟩
      · refine Or.inl ⟨d', flow', hl, ?_, hnr, fun h => htr' (htr2 (htr1 h))⟩
        rwa [show F + bf + (flow' - (flow + bf)) = F + (flow' - flow) by omega] at hdl
      · exact Or.inr ⟨hl, g', F', hfi, by push_cast; omega⟩

/-- the stored counter is the value of the flow the residual graph carries.  Every run, under a bound
    (`InertialFlow.runBoundedAgain`, FlowDinicResume.lean) or not, aborted or not, starts from such a state and ends
    in one. -/
structure _root_.Tbx.InertialFlow.Carried {n : Nat} (c : Fin n → Fin n → ℤ) (s t : Fin n) (d : Dinic) : Prop where
  fi  : FInv c s t d.g d.maxFlow
  uq  : Uniq d.g
  rc  : RevClosed d.g
  src : d.source = s.val
  tgt : d.target = t.val

open Tbx.InertialFlow (Carried)

/-- what a run hands to its main loop -/
theorem _root_.Tbx.InertialFlow.Carried.dl {n : Nat} {c : Fin n → Fin n → ℤ} {s t : Fin n} {d : Dinic}
    (hc : Carried c s t d) :
    DL c s t { d with parents := Array.replicate d.g.numNodes 0, level := Array.replicate d.g.numNodes INV }
      d.maxFlow :=
  ⟨hc.fi, hc.uq, hc.rc, hc.src, hc.tgt, by rw [← hc.fi.hn]; exact Array.size_replicate ..,
    by rw [← hc.fi.hn]; exact Array.size_replicate ..⟩

theorem run_eq_runAgain (d : Dinic) (fuel : Nat) (h0 : d.maxFlow = 0) : d.run fuel = d.runAgain fuel := by
  unfold Dinic.run Dinic.runAgain
  rw [h0]

theorem runAgain_some {d d' : Dinic} {fuel : Nat} (h : d.runAgain fuel = some d') :
    (d.source < d.g.numNodes ∧ d.target < d.g.numNodes) ∧ ∃ d1 flow,
      dinicLoop fuel
        { d with parents := Array.replicate d.g.numNodes 0, level := Array.replicate d.g.numNodes INV }
        d.maxFlow = some (d1, flow) ∧ d' = { d1 with maxFlow := flow, finished := true } := by
  unfold Dinic.runAgain at h
  simp only at h
  split at h
  · cases h
  · rename_i hg
    split at h
    · cases h
    · rename_i d1 flow hloop
      exact ⟨⟨Nat.lt_of_not_le fun hh => hg (Or.inl hh), Nat.lt_of_not_le fun hh => hg (Or.inr hh)⟩, d1, flow,
        hloop, (Option.some.inj h).symm⟩

theorem Dinic.maxFlow?_eq_ok {d : Dinic} {x : ℤ} : d.maxFlow? = .ok x ↔ d.finished = true ∧ d.maxFlow = x := by
  unfold Dinic.maxFlow? maxFlowOut
  cases d.finished <;> simp

structure Quiet {n : Nat} (c : Fin n → Fin n → ℤ) (s t : Fin n) (d : Dinic) : Prop where
  dl : DL c s t d d.maxFlow
  nr : ¬ ReachG d.g s.val t.val
  fin : d.finished = true

theorem Quiet.max {n : Nat} {c : Fin n → Fin n → ℤ} {s t : Fin n} {d : Dinic} (hq : Quiet c s t d) :
    IsMaxFlowValue c s t d.maxFlow :=
  finv_unreachable_max d.g d.maxFlow hq.dl.fi hq.nr

theorem Quiet.maxFlow? {n : Nat} {c : Fin n → Fin n → ℤ} {s t : Fin n} {d : Dinic} (hq : Quiet c s t d) :
    d.maxFlow? = .ok d.maxFlow := Dinic.maxFlow?_eq_ok.mpr ⟨hq.fin, rfl⟩

theorem runAgain_spec {n : Nat} {c : Fin n → Fin n → ℤ} {s t : Fin n} (hst : s ≠ t) (hN : n + 2 < INV)
    (d : Dinic) (hc : Carried c s t d) (fuel : Nat) (d' : Dinic) (h : d.runAgain fuel = some d') :
    Quiet c s t d' ∧ (TrPos d → TrPos d') := by
  obtain ⟨_, d1, flow, hloop, rfl⟩ := runAgain_some h
  rcases dinicLoop_run hst hN fuel _ d.maxFlow d.maxFlow hc.dl with ⟨d2, flow2, hl, a, b, c'⟩ | ⟨hl, _⟩
  · rw [hloop] at hl
    cases hl
    rw [add_sub_cancel] at a
    exact ⟨⟨⟨a.fi, a.uq, a.rc, a.src, a.tgt, a.psz, a.lsz⟩, b, rfl⟩, c'⟩
  · rw [hloop] at hl; cases hl

theorem fromEdgeList_eq {es : List Edge} {s t : Nat} {d : Dinic} (h : Dinic.fromEdgeList es s t = some d) :
    d = { g := residualDinic es, maxFlow := 0, finished := false, level := #[], parents := #[], stack := [],
          dfsCount := 0, bfsCount := 0, source := s, target := t } := by
  unfold Dinic.fromEdgeList at h
  split at h
  · cases h
  · exact (Option.some.inj h).symm

theorem fromEdgeList_of_ne (es : List Edge) (s t : Nat) (h : es.isEmpty = false) :
    Dinic.fromEdgeList es s t = some
      { g := residualDinic es, maxFlow := 0, finished := false, level := #[], parents := #[], stack := [],
        dfsCount := 0, bfsCount := 0, source := s, target := t } := by
  unfold Dinic.fromEdgeList; rw [h]; rfl

theorem residualDinic_numNodes (es : List Edge) (hnn : ∀ e, e ∈ es → 0 ≤ e.cap) :
    (residualDinic es).numNodes = nNodes (es.map toE) := by
  rw [(merge_cap_dinic es hnn).2.1, maxId_eq_spec]; rfl

theorem _root_.Tbx.InertialFlow.fresh_carried (es : List Edge) (s t : Nat) (hnn : ∀ e, e ∈ es → 0 ≤ e.cap)
    (hs : s < nNodes (es.map toE)) (ht : t < nNodes (es.map toE)) (d : Dinic)
    (hd : Dinic.fromEdgeList es s t = some d) :
    Carried (cF (es.map toE) (nNodes (es.map toE))) ⟨s, hs⟩ ⟨t, ht⟩ d ∧ d.finished = false := by
  cases fromEdgeList_eq hd
  obtain ⟨huq, hrc⟩ := residualDinic_uniq_rev es
  exact ⟨⟨init_finv (residualDinic es) es ⟨s, hs⟩ ⟨t, ht⟩ (merge_cap_dinic es hnn), huq, hrc, rfl, rfl⟩,
    rfl⟩

open Tbx.InertialFlow (fresh_carried)

theorem run_spec (es : List Edge) (s t : Nat) (hnn : ∀ e, e ∈ es → 0 ≤ e.cap) (hst : s ≠ t)
    (hN : nNodes (es.map toE) + 2 < INV) (d : Dinic) (hd : Dinic.fromEdgeList es s t = some d)
    (fuel : Nat) (d' : Dinic) (h : d.run fuel = some d') :
    ∃ (hs : s < nNodes (es.map toE)) (ht : t < nNodes (es.map toE)),
      Quiet (cF (es.map toE) (nNodes (es.map toE))) ⟨s, hs⟩ ⟨t, ht⟩ d' ∧ TrPos d' := by
  have h0 : d.maxFlow = 0 ∧ d.trace = [] := by cases fromEdgeList_eq hd; exact ⟨rfl, rfl⟩
  rw [run_eq_runAgain d fuel h0.1] at h
  have hguard : s < nNodes (es.map toE) ∧ t < nNodes (es.map toE) := by
    have := (runAgain_some h).1
    cases fromEdgeList_eq hd
    rw [← residualDinic_numNodes es hnn]; exact this
  obtain ⟨hq, htr⟩ := runAgain_spec (fun e => hst (Fin.mk.inj e)) hN d
    (fresh_carried es s t hnn hguard.1 hguard.2 d hd).1 fuel d' h
  exact ⟨hguard.1, hguard.2, hq, htr (fun tr htr => by rw [h0.2] at htr; cases htr)⟩

theorem dinic_aug_positive (es : List Edge) (s t : Nat) (hnn : ∀ e, e ∈ es → 0 ≤ e.cap) (hst : s ≠ t)
    (hN : nNodes (es.map toE) + 2 < INV) (d : Dinic) (hd : Dinic.fromEdgeList es s t = some d)
    (fuel : Nat) (d' : Dinic) (h : d.run fuel = some d') : ∀ tr, tr ∈ d'.trace → 0 < tr.2.2 :=
  let ⟨_, _, _, htr⟩ := run_spec es s t hnn hst hN d hd fuel d' h
  htr

theorem dinic_correct (es : List Edge) (s t : Nat) (hnn : ∀ e, e ∈ es → 0 ≤ e.cap) (hst : s ≠ t)
    (hN : nNodes (es.map toE) + 2 < INV) (d : Dinic) (hd : Dinic.fromEdgeList es s t = some d)
    (fuel : Nat) (d' : Dinic) (h : d.run fuel = some d') :
    ∃ (hs : s < nNodes (es.map toE)) (ht : t < nNodes (es.map toE)),
      IsMaxFlowValue (cF (es.map toE) (nNodes (es.map toE))) ⟨s, hs⟩ ⟨t, ht⟩ d'.maxFlow ∧
      d'.maxFlow? = .ok d'.maxFlow := by
  obtain ⟨hs, ht, hq, _⟩ := run_spec es s t hnn hst hN d hd fuel d' h
  exact ⟨hs, ht, hq.max, hq.maxFlow?⟩

theorem dinic_assignment (es : List Edge) (s t : Nat) (hnn : ∀ e, e ∈ es → 0 ≤ e.cap) (hst : s ≠ t)
    (hN : nNodes (es.map toE) + 2 < INV) (d : Dinic) (hd : Dinic.fromEdgeList es s t = some d)
    (fuel : Nat) (d' : Dinic) (h : d.run fuel = some d') (bits : Array Bool)
    (hb : d'.assignment? s = .ok bits) :
    ∃ (hs : s < nNodes (es.map toE)) (ht : t < nNodes (es.map toE)), bits.size = nNodes (es.map toE) ∧
      IsMaxFlowValue (cF (es.map toE) (nNodes (es.map toE))) ⟨s, hs⟩ ⟨t, ht⟩ d'.maxFlow ∧
      CanonCut (cF (es.map toE) (nNodes (es.map toE))) ⟨s, hs⟩ ⟨t, ht⟩
        (setOf (nNodes (es.map toE)) (fun v => gt bits v)) d'.maxFlow := by
  obtain ⟨hs, ht, hq, _⟩ := run_spec es s t hnn hst hN d hd fuel d' h
  have hb' : assignmentOut d'.g true s = .ok bits := by
    unfold Dinic.assignment? at hb; rw [hq.fin] at hb; exact hb
  obtain ⟨b1, b2⟩ := assignment_canonical d'.g d'.maxFlow hq.dl.fi hq.nr bits hb'
  exact ⟨hs, ht, b1, hq.max, b2⟩

theorem dinic_run_total (es : List Edge) (s t : Nat) (hnn : ∀ e, e ∈ es → 0 ≤ e.cap) (hst : s ≠ t)
    (hs : s < nNodes (es.map toE)) (ht : t < nNodes (es.map toE)) (hN : nNodes (es.map toE) + 2 < INV)
    (d : Dinic) (hd : Dinic.fromEdgeList es s t = some d) :
    ∃ d', d.run ((es.map Edge.cap).sum.toNat + 2) = some d' := by
  have hst' : (⟨s, hs⟩ : Fin (nNodes (es.map toE))) ≠ ⟨t, ht⟩ := fun e => hst (Fin.mk.inj e)
  have hguard : ¬ (d.source ≥ d.g.numNodes ∨ d.target ≥ d.g.numNodes) := by
    cases fromEdgeList_eq hd
    show ¬ (s ≥ (residualDinic es).numNodes ∨ t ≥ (residualDinic es).numNodes)
    rw [residualDinic_numNodes es hnn]; omega
  unfold Dinic.run
  simp only
  rw [if_neg hguard]
  rcases dinicLoop_run hst' hN ((es.map Edge.cap).sum.toNat + 2) _ 0 d.maxFlow
    (fresh_carried es s t hnn hs ht d hd).1.dl with ⟨d1, flow, hl, _⟩ | ⟨_, g', F', hfi, hle⟩
  · rw [hl]; exact ⟨_, rfl⟩
  · have := finv_flow_le_total (es.map toE) (fun e he => by
      obtain ⟨x, hx, rfl⟩ := List.mem_map.mp he
      exact hnn x hx) ⟨s, hs⟩ ⟨t, ht⟩ hst' g' F' hfi
    rw [List.map_map] at this
    have h2 : ((fun e : E => e.2.2) ∘ toE) = Edge.cap := rfl
    rw [h2] at this
    have h0 : d.maxFlow = 0 := by cases fromEdgeList_eq hd; rfl
    push_cast at hle
    omega

theorem dinic_total (es : List Edge) (s t : Nat) (hnn : ∀ e, e ∈ es → 0 ≤ e.cap) (hst : s ≠ t)
    (hs : s < nNodes (es.map toE)) (ht : t < nNodes (es.map toE)) (hN : nNodes (es.map toE) + 2 < INV)
    (d : Dinic) (hd : Dinic.fromEdgeList es s t = some d) :
    ∃ d', d.run ((es.map Edge.cap).sum.toNat + 2) = some d' ∧
      IsMaxFlowValue (cF (es.map toE) (nNodes (es.map toE))) ⟨s, hs⟩ ⟨t, ht⟩ d'.maxFlow ∧
      d'.maxFlow? = .ok d'.maxFlow := by
  obtain ⟨d', h⟩ := dinic_run_total es s t hnn hst hs ht hN d hd
  obtain ⟨_, _, a, b⟩ := dinic_correct es s t hnn hst hN d hd _ d' h
  exact ⟨d', h, a, b⟩

theorem runAgain_fixed {n : Nat} {c : Fin n → Fin n → ℤ} {s t : Fin n} (hst : s ≠ t) (hN : n + 2 < INV)
    (d : Dinic) (hq : Quiet c s t d) (k : Nat) :
    ∃ d', d.runAgain (k + 1) = some d' ∧ d'.maxFlow = d.maxFlow ∧ d'.g = d.g ∧ Quiet c s t d' := by
  have hi := hq.dl
  have hgn := hi.fi.hn
  have hguard : ¬ (d.source ≥ d.g.numNodes ∨ d.target ≥ d.g.numNodes) := by
    rw [hi.src, hi.tgt, hgn]; have := s.isLt; have := t.isLt; omega
  obtain ⟨d1, b, hb, hi1, hg1, _, hex, _⟩ :=
    bfs_dl hst hN (⟨hi.fi, hi.uq, hi.rc, hi.src, hi.tgt⟩ : Carried c s t d).dl
  cases b with
  | true => exact absurd (hex.mp rfl) hq.nr
  | false =>
    have hg1' : d1.g = d.g := hg1
    refine ⟨{ d1 with maxFlow := d.maxFlow, finished := true }, ?_, rfl, hg1', ?_⟩
    · unfold Dinic.runAgain
      simp only
      rw [if_neg hguard]
      simp only [dinicLoop, hb]
    · exact ⟨⟨hi1.fi, hi1.uq, hi1.rc, hi1.src, hi1.tgt, hi1.psz, hi1.lsz⟩,
        fun hr => hq.nr (by rw [← hg1']; exact hr), rfl⟩

theorem runAgainN_fixed {n : Nat} {c : Fin n → Fin n → ℤ} {s t : Fin n} (hst : s ≠ t) (hN : n + 2 < INV)
    (fuel : Nat) (k : Nat) : ∀ (d : Dinic), Quiet c s t d →
    ∃ d', Dinic.runAgainN (fuel + 1) k d = some d' ∧ d'.maxFlow = d.maxFlow ∧ d'.g = d.g ∧ Quiet c s t d' := by
  induction k with
  | zero => intro d hq; exact ⟨d, rfl, rfl, rfl, hq⟩
  | succ k ih =>
    intro d hq
    obtain ⟨d1, h1, m1, g1, q1⟩ := runAgain_fixed hst hN d hq fuel
    obtain ⟨d2, h2, m2, g2, q2⟩ := ih d1 q1
    refine ⟨d2, ?_, by rw [m2, m1], by rw [g2, g1], q2⟩
    simp only [Dinic.runAgainN, h1]
    exact h2

end Tbx.Flow
