import Tbx.Spec.MergeTree
import Tbx.Proofs.Sorting
/-
The k-way merge iterator over ANY tree satisfying `TreeSpec` yields the sorted multiset union of
sorted runs.  Proof: the iterator state is a function of `P : List (List Int)`, where `P[i]` is what
run i still contributes: the tree holds the heads, the iterators yield the tails (`Rel`).  `new` sets this up for
`P = runs`; `next` removes the head of one `P[i]`, and that head is minimal among everything pending.
-/
namespace Tbx.KWay
open Tbx.Sorting

theorem getD_set {α : Type} (l : List α) (i j : Nat) (a d : α) :
    (l.set i a).getD j d = if i = j ∧ i < l.length then a else l.getD j d := by
  simp only [List.getD_eq_getElem?_getD, List.getElem?_set]
  by_cases h : i = j
  · subst h
    by_cases h2 : i < l.length
    · simp [h2]
    · simp [h2]
  · simp [h]

theorem mem_exists_getD {α : Type} (l : List α) (a d : α) (h : a ∈ l) : ∃ i, l.getD i d = a := by
  obtain ⟨i, hi, rfl⟩ := List.mem_iff_getElem.mp h
  exact ⟨i, by rw [List.getD_eq_getElem?_getD, List.getElem?_eq_getElem hi]; simp⟩

theorem set_getD_self {α : Type} (l : List α) (i : Nat) (d : α) : l.set i (l.getD i d) = l := by
  by_cases h : i < l.length
  · rw [List.getD_eq_getElem?_getD, List.getElem?_eq_getElem h]; exact List.set_getElem_self h
  · exact List.set_eq_of_length_le (Nat.le_of_not_lt h)

theorem getD_map_tail (P : List (List Int)) (i : Nat) : (P.map List.tail).getD i [] = (P.getD i []).tail := by
  simp only [List.getD_eq_getElem?_getD, List.getElem?_map]
  cases P[i]? <;> rfl

theorem flatten_set_perm (P : List (List Int)) (i : Nat) (x : Int) (rest : List Int)
    (hi : i < P.length) (h : P.getD i [] = x :: rest) :
    P.flatten.Perm (x :: (P.set i rest).flatten) := by
  induction P generalizing i with
  | nil => simp at hi
  | cons l L ih =>
    cases i with
    | zero =>
      simp only [List.getD_cons_zero] at h
      subst h
      simp
    | succ i =>
      simp only [List.getD_cons_succ] at h
      simp only [List.length_cons, Nat.add_lt_add_iff_right] at hi
      simp only [List.set_cons_succ, List.flatten_cons]
      exact (List.Perm.append_left l (ih i hi h)).trans List.perm_middle

variable {σ : Type} {T : MTree σ} {cap : Nat}

/-- the iterator state `it` is a function of `P`: slot `i` of the tree holds the head of `P[i]` (so the slots beyond the
    runs are empty), the iterator of run `i` yields its tail -/
structure Rel (S : TreeSpec T cap) (it : Iter σ) (P : List (List Int)) : Prop where
  ok : S.ok it.heap
  lecap : P.length ≤ cap
  slot : ∀ i, S.slot it.heap i = (P.getD i []).head?
  list : it.list = P.map List.tail

theorem Rel.set {S : TreeSpec T cap} {it : Iter σ} {P : List (List Int)} (hR : Rel S it P) (i : Nat)
    (hi : i < P.length) (h' : σ) (l : List Int) (hok : S.ok h')
    (hslot : ∀ j, S.slot h' j = if j = i then l.head? else S.slot it.heap j) :
    Rel S ⟨h', it.list.set i l.tail⟩ (P.set i l) := by
  refine ⟨hok, by rw [List.length_set]; exact hR.lecap, fun j => ?_, by rw [hR.list, List.map_set]⟩
  show S.slot h' j = _
  rw [hslot, getD_set, hR.slot]
  by_cases hji : j = i
  · rw [if_pos hji, if_pos ⟨hji.symm, hi⟩]
  · rw [if_neg hji, if_neg (fun h => hji h.1.symm)]

theorem next_spec (S : TreeSpec T cap) (it : Iter σ) (P : List (List Int)) (hR : Rel S it P)
    (hs : ∀ l ∈ P, Sorted l) :
    ∃ r it', next T it = some (r, it') ∧
      match r with
      | none => P.flatten = []
      | some x => ∃ i rest, i < P.length ∧ P.getD i [] = x :: rest ∧ (∀ y ∈ P.flatten, x ≤ y) ∧
                    Rel S it' (P.set i rest) := by
  obtain ⟨r, s', hpop, hok', hr⟩ := S.pop_ok it.heap hR.ok
  cases r with
  | none =>
    refine ⟨none, { it with heap := s' }, by simp [next, hpop], ?_⟩
    show P.flatten = []
    rw [List.flatten_eq_nil_iff]
    intro l hl
    obtain ⟨i, rfl⟩ := mem_exists_getD P l [] hl
    exact List.head?_eq_none_iff.mp ((hR.slot i).symm.trans (hr.1 i))
  | some e =>
    obtain ⟨hlive, hmin, hslots⟩ := hr
    obtain ⟨rest, hPe⟩ := List.head?_eq_some_iff.mp ((hR.slot e.index).symm.trans hlive)
    have hidx : e.index < P.length := by
      apply Nat.lt_of_not_le
      intro hge
      rw [List.getD_eq_getElem?_getD, List.getElem?_eq_none hge] at hPe
      cases hPe
    have hminP : ∀ y ∈ P.flatten, e.item ≤ y := by
      intro y hy
      obtain ⟨l, hl, hyl⟩ := List.mem_flatten.mp hy
      obtain ⟨z, tl, rfl⟩ := List.exists_cons_of_ne_nil (List.ne_nil_of_mem hyl)
      obtain ⟨j, hj⟩ := mem_exists_getD P _ [] hl
      have hez := hmin j z (by rw [hR.slot j, hj]; rfl)
      rcases List.mem_cons.mp hyl with rfl | hyl
      · exact hez
      · exact Int.le_trans hez ((sorted_cons.mp (hs _ hl)).1 y hyl)
    have hil : e.index < it.list.length := by rw [hR.list, List.length_map]; exact hidx
    have hrest : it.list.getD e.index [] = rest := by rw [hR.list, getD_map_tail, hPe]; rfl
    cases rest with
    | nil =>
      refine ⟨some e.item, { it with heap := s' }, by simp only [next, hpop, if_pos hil, hrest],
        e.index, [], hidx, hPe, hminP, ?_⟩
      have := hR.set e.index hidx s' [] hok' hslots
      rwa [show ([] : List Int).tail = it.list.getD e.index [] from hrest.symm, set_getD_self] at this
    | cons x r =>
      obtain ⟨s'', hpush, hok'', hslots''⟩ :=
        S.push_ok s' ⟨x, e.index⟩ hok' (Nat.lt_of_lt_of_le hidx hR.lecap) (by
          show S.slot s' e.index = none
          rw [hslots, if_pos rfl])
      refine ⟨some e.item, ⟨s'', it.list.set e.index r⟩, by simp only [next, hpop, if_pos hil, hrest, hpush],
        e.index, x :: r, hidx, hPe, hminP, hR.set e.index hidx s'' (x :: r) hok'' (fun j => ?_)⟩
      have : S.slot s'' j = if j = e.index then some x else S.slot s' j := hslots'' j
      rw [this, hslots j]
      by_cases hj : j = e.index
      · rw [if_pos hj, if_pos hj]; rfl
      · rw [if_neg hj, if_neg hj, if_neg hj]

/-- the item `next` yields is the head of the sorted rest (`hsort`), so the loop appends the sorted rest to `acc` -/
theorem collect_spec (S : TreeSpec T cap) (fuel : Nat) (it : Iter σ) (P : List (List Int)) (acc : List Int)
    (hR : Rel S it P) (hs : ∀ l ∈ P, Sorted l) (hf : P.flatten.length + 1 ≤ fuel) :
    collect T fuel it acc = .done (acc ++ isort P.flatten) := by
  induction fuel generalizing it P acc with
  | zero => omega
  | succ fuel ih =>
    obtain ⟨r, it', hnext, hr⟩ := next_spec S it P hR hs
    cases r with
    | none =>
      have hr' : P.flatten = [] := hr
      simp [collect, hnext, hr', isort]
    | some x =>
      obtain ⟨i, rest, hi, hPi, hmin, hR'⟩ := hr
      have hperm := flatten_set_perm P i x rest hi hPi
      have hs' : ∀ l ∈ P.set i rest, Sorted l := by
        intro l hl
        rcases List.mem_or_eq_of_mem_set hl with h | rfl
        · exact hs l h
        · have := hs _ (getD_mem P i [] hi)
          rw [hPi] at this
          exact (sorted_cons.mp this).2
      have hsort : x :: isort (P.set i rest).flatten = isort P.flatten := by
        rw [eq_isort_iff]
        exact ⟨sorted_cons.mpr ⟨fun y hy => hmin y (hperm.symm.subset (List.mem_cons_of_mem _
          ((isort_perm _).subset hy))), isort_sorted _⟩, ((isort_perm _).cons x).trans hperm.symm⟩
      rw [← hsort, List.append_cons, ← ih it' (P.set i rest) (acc ++ [x]) hR' hs'
        (by have := hperm.length_eq; rw [List.length_cons] at this; omega)]
      simp only [collect, hnext]

/-- `new` from run number `i` on, slots `i` and up being free: the head of run `i + m` goes into slot `i + m`, its tail
    stays with the iterator -/
theorem newLoop_spec (S : TreeSpec T cap) (rest : List (List Int)) (i : Nat) (h : σ) (hok : S.ok h)
    (hcap : i + rest.length ≤ cap) (hfree : ∀ j, i ≤ j → S.slot h j = none) :
    ∃ h', newLoop T i rest h = some (h', rest.map List.tail) ∧ S.ok h' ∧
      ∀ j, S.slot h' j = if i ≤ j then (rest.getD (j - i) []).head? else S.slot h j := by
  induction rest generalizing i h with
  | nil =>
    refine ⟨h, rfl, hok, fun j => ?_⟩
    split
    · exact hfree j ‹_›
    · rfl
  | cons run rs ih =>
    simp only [List.length_cons] at hcap
    obtain ⟨h1, hok1, hslot1, hstep⟩ : ∃ h1, S.ok h1 ∧ (∀ j, S.slot h1 j = if j = i then run.head? else S.slot h j) ∧
        ∀ h', newLoop T (i + 1) rs h1 = some (h', rs.map List.tail) →
          newLoop T i (run :: rs) h = some (h', (run :: rs).map List.tail) := by
      cases run with
      | nil =>
        refine ⟨h, hok, fun j => ?_, fun h' hl => by simp only [newLoop, hl, List.map_cons, List.tail_nil]⟩
        split
        · rename_i hj; rw [hj]; exact hfree i (Nat.le_refl _)
        · rfl
      | cons x r =>
        obtain ⟨h1, hpush, hok1, hslot1⟩ :=
          S.push_ok h ⟨x, i⟩ hok (Nat.lt_of_lt_of_le (Nat.lt_add_of_pos_right (Nat.succ_pos _)) hcap)
            (hfree i (Nat.le_refl _))
        exact ⟨h1, hok1, hslot1, fun h' hl => by simp only [newLoop, hpush, hl, List.map_cons, List.tail_cons]⟩
    obtain ⟨h', hl, hok', hs⟩ :=
      ih (i + 1) h1 hok1 (by omega) (fun j hj => by
        rw [hslot1 j, if_neg (by omega)]; exact hfree j (by omega))
    refine ⟨h', hstep h' hl, hok', fun j => ?_⟩
    rw [hs j, hslot1 j]
    by_cases hj : i + 1 ≤ j
    · rw [if_pos hj, if_pos (Nat.le_of_succ_le hj), show j - i = j - (i + 1) + 1 by omega]; rfl
    · rw [if_neg hj]
      by_cases hji : j = i
      · rw [if_pos hji, if_pos (Nat.le_of_eq hji.symm), hji, Nat.sub_self]; rfl
      · rw [if_neg hji, if_neg (by omega)]

theorem merge_eq (S : TreeSpec T cap) (runs : List (List Int)) (s0 : σ)
    (h0 : S.ok s0) (hempty : ∀ j, S.slot s0 j = none) (hk : runs.length ≤ cap)
    (hs : ∀ r ∈ runs, Sorted r) : merge T runs s0 = .done (isort runs.flatten) := by
  obtain ⟨h', hl, hok', hslot⟩ := newLoop_spec S runs 0 s0 h0 (by omega) (fun j _ => hempty j)
  simp only [merge, new, hl]
  exact collect_spec S (runs.flatten.length + 1) ⟨h', runs.map List.tail⟩ runs []
    ⟨hok', hk, fun j => (hslot j).trans (if_pos (Nat.zero_le j)), rfl⟩ hs (Nat.le_refl _)

end Tbx.KWay
