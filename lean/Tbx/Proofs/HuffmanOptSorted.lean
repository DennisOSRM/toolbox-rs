import Tbx.Proofs.HuffmanOptGreedy
/-
Huffman optimality: the two-queue construction on a frequency-sorted table merges two minimum-weight trees
in every iteration.  Invariant (`SInv`): both queues are sorted by weight, and for some `m ≥ 0` (the heavier of the
two trees merged last) every remaining tree weighs at least `m` and every merged node at most `2·m` — so a new merged
node, the sum of two remaining trees, is appended at the right place of the second queue.  Together with the
potential argument of HuffmanOptGreedy this gives `fromSorted_cost`: the code book's weighted length is the greedy
optimum.  Core Lean only.
-/
namespace Tbx.Huffman
open Tbx.Spec.Huff

def SortedF (q : List Tree) : Prop := q.Pairwise fun a b => a.freq ≤ b.freq

structure SInv (q1 q2 : List Tree) : Prop where
  s1 : SortedF q1
  s2 : SortedF q2
  bnd : ∃ m : Int, 0 ≤ m ∧ (∀ t ∈ q1 ++ q2, m ≤ t.freq) ∧ ∀ z ∈ q2, z.freq ≤ 2 * m

theorem minNode_min (q1 q2 : List Tree) (h1 : SortedF q1) (h2 : SortedF q2) (x : Tree) (q1' q2' : List Tree)
    (hm : minNode q1 q2 = some (x, q1', q2')) :
    SortedF q1' ∧ SortedF q2' ∧ (∀ t ∈ q1' ++ q2', x.freq ≤ t.freq) ∧
      (x :: (q1' ++ q2')).Perm (q1 ++ q2) ∧ (∀ z ∈ q2', z ∈ q2) := by
  cases q1 with
  | nil =>
    cases q2 with
    | nil => simp [minNode] at hm
    | cons y q2t =>
      simp only [minNode, Option.some.injEq, Prod.mk.injEq] at hm
      obtain ⟨rfl, rfl, rfl⟩ := hm
      have := List.pairwise_cons.mp h2
      exact ⟨List.Pairwise.nil, this.2, by simpa using this.1, by simp, fun z hz => by simp [hz]⟩
  | cons a q1t =>
    have p1 := List.pairwise_cons.mp h1
    cases q2 with
    | nil =>
      simp only [minNode, Option.some.injEq, Prod.mk.injEq] at hm
      obtain ⟨rfl, rfl, rfl⟩ := hm
      exact ⟨p1.2, List.Pairwise.nil, by simpa using p1.1, by simp, fun z hz => by cases hz⟩
    | cons y q2t =>
      have p2 := List.pairwise_cons.mp h2
      simp only [minNode] at hm
      split at hm
      · rename_i hlt
        simp only [Option.some.injEq, Prod.mk.injEq] at hm
        obtain ⟨rfl, rfl, rfl⟩ := hm
        refine ⟨p1.2, h2, ?_, by simp, fun z hz => hz⟩
        intro t ht
        rcases List.mem_append.mp ht with ht | ht
        · exact p1.1 t ht
        · rcases List.mem_cons.mp ht with rfl | ht
          · omega
          · have := p2.1 t ht; omega
      · rename_i hlt
        simp only [Option.some.injEq, Prod.mk.injEq] at hm
        obtain ⟨rfl, rfl, rfl⟩ := hm
        refine ⟨h1, p2.2, ?_, ?_, fun z hz => by simp [hz]⟩
        · intro t ht
          rcases List.mem_append.mp ht with ht | ht
          · rcases List.mem_cons.mp ht with rfl | ht
            · omega
            · have := p1.1 t ht; omega
          · exact p2.1 t ht
        · exact (List.perm_middle (l₁ := a :: q1t)).symm

theorem sorted_step (q1 q2 : List Tree) (inv : SInv q1 q2) (left right : Tree) (q1a q2a q1b q2b : List Tree)
    (e1 : minNode q1 q2 = some (left, q1a, q2a)) (e2 : minNode q1a q2a = some (right, q1b, q2b)) :
    let c := Tree.node (left.freq + right.freq) left right
    SInv q1b (q2b ++ [c]) ∧ (q1 ++ q2).Perm (left :: right :: (q1b ++ q2b)) ∧ left.freq ≤ right.freq ∧
      (∀ r ∈ q1b ++ q2b, right.freq ≤ r.freq) ∧ (q1b ++ (q2b ++ [c])).Perm (c :: (q1b ++ q2b)) := by
  intro c
  obtain ⟨sa1, sa2, mina, pa, suba⟩ := minNode_min q1 q2 inv.s1 inv.s2 left q1a q2a e1
  obtain ⟨sb1, sb2, minb, pb, subb⟩ := minNode_min q1a q2a sa1 sa2 right q1b q2b e2
  obtain ⟨m, hm0, hlow, hup⟩ := inv.bnd
  have hperm : (q1 ++ q2).Perm (left :: right :: (q1b ++ q2b)) := (pa.symm).trans (List.Perm.cons left pb.symm)
  have hlr : left.freq ≤ right.freq := mina right (pb.mem_iff.mp List.mem_cons_self)
  have hl := hlow left (hperm.mem_iff.mpr List.mem_cons_self)
  have hcf : c.freq = left.freq + right.freq := rfl
  have pc : (q1b ++ (q2b ++ [c])).Perm (c :: (q1b ++ q2b)) := by
    rw [← List.append_assoc]; exact List.perm_append_comm
  have hzc : ∀ z ∈ q2b, z.freq ≤ 2 * m := fun z hz => hup z (suba z (subb z hz))
  refine ⟨⟨sb1, List.pairwise_append.mpr ⟨sb2, List.pairwise_singleton _ _, fun z hz b hb => ?_⟩,
    right.freq, by omega, fun t ht => ?_, fun z hz => ?_⟩, hperm, hlr, minb, pc⟩
  · have := hzc z hz
    rw [List.mem_singleton.mp hb, hcf]; omega
  · rcases List.mem_cons.mp (pc.mem_iff.mp ht) with rfl | ht
    · rw [hcf]; omega
    · exact minb t ht
  · rcases List.mem_append.mp hz with hz | hz
    · have := hzc z hz; omega
    · rw [List.mem_singleton.mp hz, hcf]; omega

theorem fromSorted_cost (v : List (Nat × Int)) (book : Book) (hpos : ∀ e ∈ v, 0 ≤ e.2)
    (hnd : (v.map (·.1)).Nodup) (hs : v.Pairwise fun a b => a.2 ≤ b.2) (h : fromSorted v = some book) :
    cost v book = optCost (v.map (·.2)) := by
  refine bookOf_cost hnd (fun h0 root hr => ?_) (fromSorted_eq v ▸ h)
  -- on a one-symbol table the construction panics: `sortedTree [e]` evaluates to `none`
  have hv : v.length ≠ 1 := fun h1 => by
    match v, h1 with
    | [e], _ => cases hr
  have inv : SInv (leaves v) [] := by
    refine ⟨List.pairwise_map.mpr hs, List.Pairwise.nil, 0, Int.le_refl 0, fun t ht => ?_, fun z hz => nomatch hz⟩
    obtain ⟨e, he, rfl⟩ := List.mem_map.mp (List.append_nil _ ▸ ht)
    exact hpos e he
  obtain ⟨t, et, pt, _, g⟩ := sortedTree_some (fun q1 q2 => SInv q1 q2 ∧ Good v (q1 ++ q2))
    (fun ⟨inv, g⟩ e1 e2 =>
      have ⟨inv', hperm, hlr, hmin, pc⟩ := sorted_step _ _ inv _ _ _ _ _ _ e1 e2
      ⟨inv', g.merge hperm pc hlr hmin⟩)
    v h0 hv ⟨inv, by simpa using Good.init v⟩
  exact Option.some.inj (et.symm.trans hr) ▸ ⟨g, pt⟩

end Tbx.Huffman
