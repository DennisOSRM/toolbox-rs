import Tbx.Proofs.DijkstraBasic
import Tbx.Spec.ShortestPath
import Tbx.Proofs.InsertSort
/-
Renumbering in `BaseCell::process` and `StaticGraph::new`, as far as the searches see them:
the renumbering map is injective with values below its size (`MapOK`), `renumber` always succeeds
and maps every edge through the final map (`mapped`), the adjacency lists of the static graph contain exactly
the given edges, and every endpoint is below the node count (`bounded_static`).  Hence walks of the cell's own graph
(`cellGraph`, over the original ids) and walks of the renumbered static graph are the same between nodes the map knows
(`walk_iff`, `isDist_transfer`, `reachable_transfer`), and a node without out-edge reaches only itself.
-/
namespace Tbx.Dijkstra
open Tbx

structure MapOK (m : List (Nat × Nat)) : Prop where
  rng : ∀ k i, m.lookup k = some i → i < m.length
  inj : ∀ k k' i, m.lookup k = some i → m.lookup k' = some i → k = k'

theorem MapOK.nil : MapOK [] := ⟨by intro k i h; simp at h, by intro k k' i h; simp at h⟩

def Known (seenF : List (Nat × Nat)) (k : Nat) : Prop := ∃ i, seenF.lookup k = some i

theorem orInsert_lookup_self (m : List (Nat × Nat)) (k : Nat) : Known (orInsert m k) k := by
  unfold orInsert
  cases h : m.lookup k with
  | some i => exact ⟨i, h⟩
  | none => exact ⟨m.length, List.lookup_cons_self⟩

theorem orInsert_extends (m : List (Nat × Nat)) (k k' i : Nat) (h : m.lookup k' = some i) :
    (orInsert m k).lookup k' = some i := by
  unfold orInsert
  cases hk : m.lookup k with
  | some _ => exact h
  | none =>
    have : k' ≠ k := by intro e; subst e; rw [hk] at h; cases h
    rw [← h]
    exact (List.lookup_cons).trans (by rw [beq_false_of_ne this])

theorem orInsert_ok (m : List (Nat × Nat)) (k : Nat) (M : MapOK m) : MapOK (orInsert m k) := by
  unfold orInsert
  cases hk : m.lookup k with
  | some _ => exact M
  | none =>
    -- a lookup in the extended map finds the new key with the new value or an old key with an old one
    have key : ∀ k' i, ((k, m.length) :: m).lookup k' = some i →
        if k' = k then i = m.length else m.lookup k' = some i ∧ i < m.length := by
      intro k' i h
      rw [List.lookup_cons] at h
      split at h
      · rename_i e
        rw [if_pos (beq_iff_eq.mp e)]
        exact (Option.some.inj h).symm
      · rename_i e
        rw [if_neg (beq_eq_false_iff_ne.mp e)]
        exact ⟨h, M.rng _ _ h⟩
    refine ⟨fun k' i h => ?_, fun k1 k2 i h1 h2 => ?_⟩
    · have := key k' i h
      rw [List.length_cons]
      split at this
      · omega
      · omega
    · have a := key k1 i h1
      have b := key k2 i h2
      split at a
      · split at b
        · rw [‹k1 = k›, ‹k2 = k›]
        · omega
      · split at b
        · omega
        · exact M.inj _ _ _ a.1 b.1
theorem foldl_orInsert_ok (l : List Nat) (m : List (Nat × Nat)) (M : MapOK m) :
    MapOK (l.foldl orInsert m) ∧ (∀ k i, m.lookup k = some i → (l.foldl orInsert m).lookup k = some i) ∧
    (∀ k ∈ l, Known (l.foldl orInsert m) k) := by
  induction l generalizing m with
  | nil => exact ⟨M, fun _ _ h => h, fun k hk => by cases hk⟩
  | cons a l ih =>
    simp only [List.foldl_cons]
    obtain ⟨h1, h2, h3⟩ := ih (orInsert m a) (orInsert_ok m a M)
    refine ⟨h1, fun k i h => h2 k i (orInsert_extends m a k i h), ?_⟩
    intro k hk
    rcases List.mem_cons.mp hk with rfl | hk
    · obtain ⟨i, hi⟩ := orInsert_lookup_self m k
      exact ⟨i, h2 k i hi⟩
    · exact h3 k hk

def newId (seenF : List (Nat × Nat)) (k : Nat) : Nat := (seenF.lookup k).getD 0

/-- the edge list with both ends renumbered: what `renumber` returns -/
def mapped (es : List Edge) (seenF : List (Nat × Nat)) : List Edge :=
  es.map (fun e => (newId seenF e.1, newId seenF e.2.1, e.2.2))

theorem newId_inj {seenF : List (Nat × Nat)} (M : MapOK seenF) {a b : Nat} (ha : Known seenF a) (hb : Known seenF b)
    (h : newId seenF a = newId seenF b) : a = b := by
  obtain ⟨i, hi⟩ := ha
  obtain ⟨j, hj⟩ := hb
  unfold newId at h
  rw [hi, hj] at h
  simp only [Option.getD_some] at h
  subst h
  exact M.inj a b i hi hj

theorem nodup_map_newId {seenF : List (Nat × Nat)} (M : MapOK seenF) (l : List Nat) (hl : l.Nodup)
    (hk : ∀ k ∈ l, Known seenF k) : (l.map (newId seenF)).Nodup :=
  List.pairwise_map.mpr (hl.imp_of_mem fun ha hb hab e => hab (newId_inj M (hk _ ha) (hk _ hb) e))

theorem renumber_spec (es : List Edge) (seen : List (Nat × Nat)) (M : MapOK seen) :
    ∃ es' seenF, renumber es seen = some (es', seenF) ∧ MapOK seenF ∧
      (∀ k i, seen.lookup k = some i → seenF.lookup k = some i) ∧
      es' = mapped es seenF ∧ (∀ e ∈ es, Known seenF e.1 ∧ Known seenF e.2.1) := by
  induction es generalizing seen with
  | nil => exact ⟨[], seen, rfl, M, fun _ _ h => h, rfl, fun e he => by cases he⟩
  | cons e es ih =>
    obtain ⟨src, hsrc⟩ := orInsert_lookup_self seen e.1
    have M1 := orInsert_ok seen e.1 M
    obtain ⟨tgt, htgt⟩ := orInsert_lookup_self (orInsert seen e.1) e.2.1
    have M2 := orInsert_ok _ e.2.1 M1
    obtain ⟨es', seenF, h1, h2, h3, h4, h5⟩ := ih (orInsert (orInsert seen e.1) e.2.1) M2
    have hsrcF : seenF.lookup e.1 = some src := h3 _ _ (orInsert_extends _ _ _ _ hsrc)
    have htgtF : seenF.lookup e.2.1 = some tgt := h3 _ _ htgt
    refine ⟨(src, tgt, e.2.2) :: es', seenF, ?_, h2, ?_, ?_, ?_⟩
    · simp only [renumber, hsrc, htgt, h1]
    · intro k i h
      exact h3 k i (orInsert_extends _ _ _ _ (orInsert_extends _ _ _ _ h))
    · simp only [mapped, List.map_cons, newId, hsrcF, htgtF, Option.getD_some, h4]
    · intro e' he'
      rcases List.mem_cons.mp he' with rfl | he'
      · exact ⟨⟨src, hsrcF⟩, ⟨tgt, htgtF⟩⟩
      · exact h5 e' he'

theorem lookupAll_eq_some_iff (seen : List (Nat × Nat)) (xs r : List Nat) :
    lookupAll seen xs = some r ↔ (∀ k ∈ xs, Known seen k) ∧ r = xs.map (newId seen) := by
  induction xs generalizing r with
  | nil => simp [lookupAll, eq_comm]
  | cons x xs ih =>
    simp only [lookupAll, List.forall_mem_cons, List.map_cons]
    constructor
    · intro h
      split at h
      · rename_i i r0 h1 h2
        cases h
        obtain ⟨hk, rfl⟩ := (ih r0).mp h2
        exact ⟨⟨⟨i, h1⟩, hk⟩, by rw [newId, h1, Option.getD_some]⟩
      · cases h
    · rintro ⟨⟨⟨i, hi⟩, hk⟩, rfl⟩
      simp only [hi, (ih _).mpr ⟨hk, rfl⟩, newId, Option.getD_some]

theorem mem_insertSorted (e x : Edge) (l : List Edge) : x ∈ insertSorted e l ↔ x = e ∨ x ∈ l :=
  InsertSort.mem_ins insertSorted (fun _ => rfl) (fun _ _ _ => rfl)

theorem mem_sortEdges (x : Edge) (es : List Edge) : x ∈ sortEdges es ↔ x ∈ es := by
  unfold sortEdges
  induction es with
  | nil => simp
  | cons a l ih => simp only [List.foldr_cons, mem_insertSorted, ih, List.mem_cons]

/-- the cell's own graph over the original node ids -/
def cellGraph (es : List Edge) : SP.Adj := fun u => es.filterMap fun e => if e.1 = u then some (e.2.1, e.2.2) else none

theorem mem_cellGraph (es : List Edge) (u v w : Nat) : (v, w) ∈ cellGraph es u ↔ (u, v, w) ∈ es := by
  unfold cellGraph
  rw [List.mem_filterMap]
  constructor
  · rintro ⟨e, he, h⟩
    split at h
    · rename_i hu
      cases h
      obtain ⟨a, b, c⟩ := e
      simp only at hu; subst hu; exact he
    · cases h
  · intro h
    exact ⟨(u, v, w), h, by simp⟩

/-- the static graph lists the same edges, sorted: `staticAdj es` unfolds to `cellGraph (sortEdges es)` -/
theorem mem_staticAdj (es : List Edge) (u v w : Nat) : (v, w) ∈ staticAdj es u ↔ (u, v, w) ∈ es :=
  (mem_cellGraph (sortEdges es) u v w).trans (mem_sortEdges _ es)

theorem foldl_max_ge (es : List Edge) (m0 : Nat) :
    m0 ≤ es.foldl (fun m e => max (max m e.1) e.2.1) m0 ∧
    ∀ e ∈ es, e.1 ≤ es.foldl (fun m e => max (max m e.1) e.2.1) m0 ∧ e.2.1 ≤ es.foldl (fun m e => max (max m e.1) e.2.1) m0 := by
  induction es generalizing m0 with
  | nil => exact ⟨Nat.le_refl _, fun e he => by cases he⟩
  | cons a l ih =>
    simp only [List.foldl_cons]
    obtain ⟨h1, h2⟩ := ih (max (max m0 a.1) a.2.1)
    refine ⟨by omega, ?_⟩
    intro e he
    rcases List.mem_cons.mp he with rfl | he
    · constructor <;> omega
    · exact h2 e he

theorem staticNodes_bound (es : List Edge) (e : Edge) (he : e ∈ es) : e.1 < staticNodes es ∧ e.2.1 < staticNodes es := by
  unfold staticNodes
  have := (foldl_max_ge es 0).2 e he
  omega

theorem bounded_static (es : List Edge) : Bounded (staticAdj es) (staticNodes es) := by
  intro u _ v w h
  rw [mem_staticAdj] at h
  exact (staticNodes_bound es _ h).2

section transfer
variable {es : List Edge} {seenF : List (Nat × Nat)} (M : MapOK seenF)
  (hK : ∀ e ∈ es, Known seenF e.1 ∧ Known seenF e.2.1)

include hK in
theorem walk_fwd {a b d : Nat} (ha : Known seenF a) (hw : SP.Walk (cellGraph es) a b d) :
    Known seenF b ∧ SP.Walk (staticAdj (mapped es seenF)) (newId seenF a) (newId seenF b) d := by
  induction hw with
  | nil => exact ⟨ha, .nil⟩
  | @snoc u v d w _ he ih =>
    have hmem := (mem_cellGraph es u v w).mp he
    refine ⟨(hK _ hmem).2, .snoc ih.2 ?_⟩
    rw [mem_staticAdj]
    exact List.mem_map.mpr ⟨(u, v, w), hmem, rfl⟩

include M hK in
theorem walk_bwd {a b' d : Nat} (ha : Known seenF a)
    (hw : SP.Walk (staticAdj (mapped es seenF)) (newId seenF a) b' d) :
    ∃ b, Known seenF b ∧ newId seenF b = b' ∧ SP.Walk (cellGraph es) a b d := by
  induction hw with
  | nil => exact ⟨a, ha, rfl, .nil⟩
  | @snoc u' v' d w _ he ih =>
    obtain ⟨u, hu, hfu, hwu⟩ := ih
    rw [mem_staticAdj] at he
    obtain ⟨e, hmem, heq⟩ := List.mem_map.mp he
    simp only [Prod.mk.injEq] at heq
    obtain ⟨h1, h2, h3⟩ := heq
    have : e.1 = u := newId_inj M (hK e hmem).1 hu (by rw [h1, hfu])
    refine ⟨e.2.1, (hK e hmem).2, h2, ?_⟩
    rw [← h3]
    apply SP.Walk.snoc hwu
    rw [mem_cellGraph, ← this]
    exact hmem

include M hK in
theorem walk_iff {a b d : Nat} (ha : Known seenF a) (hb : Known seenF b) :
    SP.Walk (staticAdj (mapped es seenF)) (newId seenF a) (newId seenF b) d ↔ SP.Walk (cellGraph es) a b d := by
  refine ⟨fun h => ?_, fun h => (walk_fwd hK ha h).2⟩
  obtain ⟨b0, hb0, hf, hw⟩ := walk_bwd M hK ha h
  exact newId_inj M hb0 hb hf ▸ hw

include M hK in
theorem isDist_transfer {a b d : Nat} (ha : Known seenF a) (hb : Known seenF b) :
    SP.IsDist (staticAdj (mapped es seenF)) (newId seenF a) (newId seenF b) d ↔ SP.IsDist (cellGraph es) a b d := by
  simp only [SP.IsDist, walk_iff M hK ha hb]

include M hK in
theorem reachable_transfer {a b : Nat} (ha : Known seenF a) (hb : Known seenF b) :
    SP.Reachable (staticAdj (mapped es seenF)) (newId seenF a) (newId seenF b) ↔ SP.Reachable (cellGraph es) a b := by
  simp only [SP.Reachable, walk_iff M hK ha hb]

end transfer

theorem walk_isolated {es : List Edge} {a b d : Nat} (hiso : ∀ e ∈ es, e.1 ≠ a) (hw : SP.Walk (cellGraph es) a b d) :
    b = a ∧ d = 0 := by
  induction hw with
  | nil => exact ⟨rfl, rfl⟩
  | @snoc u v d w _ he ih =>
    have hmem := (mem_cellGraph es u v w).mp he
    have := hiso _ hmem
    simp only at this
    exact absurd ih.1 this

end Tbx.Dijkstra
