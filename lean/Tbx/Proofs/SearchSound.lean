import Tbx.Proofs.SearchBasic
import Tbx.Spec.Reach
/-
C15: the parents vector is a forest rooted in the sources whose tree paths are simple paths along existing
unfiltered edges (`Tree`; any pop discipline), and the three path views (`nodePathLoop`, `iterLoop`,
`edgePathLoop`) read exactly that tree path.
-/
namespace Tbx.Search
open Tbx

/-- `Tree … par v l`: `l` is the path source … `v` obtained by following `par` from `v` -/
inductive Tree (g : Graph) (filt : Nat → Bool) (isSrc : Nat → Prop) (par : Nat → Option Nat) :
    Nat → List Nat → Prop where
  | root (s : Nat) : isSrc s → par s = some s → Tree g filt isSrc par s [s]
  | node (v p : Nat) (l : List Nat) : par v = some p → p ≠ v → Tree g filt isSrc par p l → v ∉ l →
      Reach.Edge g filt p v → Tree g filt isSrc par v (l ++ [v])

namespace Tree
variable {g : Graph} {filt : Nat → Bool} {isSrc : Nat → Prop} {par : Nat → Option Nat}

theorem some_of_mem {v : Nat} {l : List Nat} (h : Tree g filt isSrc par v l) :
    ∀ x, x ∈ l → (par x).isSome = true := by
  induction h with
  | root s _ hp => intro x hx; simp only [List.mem_singleton] at hx; subst hx; simp [hp]
  | node v p l hp _ _ _ _ ih =>
    intro x hx
    rcases List.mem_append.mp hx with h1 | h1
    · exact ih x h1
    · simp only [List.mem_singleton] at h1; subst h1; simp [hp]

theorem mono {par' : Nat → Option Nat} {v : Nat} {l : List Nat} (h : Tree g filt isSrc par v l)
    (hm : ∀ x, (par x).isSome = true → par' x = par x) : Tree g filt isSrc par' v l := by
  induction h with
  | root s hs hp => exact .root s hs (by rw [hm s (by simp [hp]), hp])
  | node v p l hp hne _ hnm he ih => exact .node v p l (by rw [hm v (by simp [hp]), hp]) hne ih hnm he

theorem last {v : Nat} {l : List Nat} (h : Tree g filt isSrc par v l) : l.getLast? = some v := by
  cases h <;> simp

theorem first {v : Nat} {l : List Nat} (h : Tree g filt isSrc par v l) : ∃ s, l.head? = some s ∧ isSrc s := by
  induction h with
  | root s hs _ => exact ⟨s, rfl, hs⟩
  | node v p l _ _ _ _ _ ih =>
    obtain ⟨s, h1, h2⟩ := ih
    refine ⟨s, ?_, h2⟩
    cases l with
    | nil => simp at h1
    | cons a as => simpa using h1

theorem nodup {v : Nat} {l : List Nat} (h : Tree g filt isSrc par v l) : l.Nodup := by
  induction h with
  | root s _ _ => simp
  | node v p l _ _ _ hnm _ ih =>
    rw [List.nodup_append]
    refine ⟨ih, by simp, ?_⟩
    intro a ha b hb
    simp only [List.mem_singleton] at hb
    subst hb
    intro e; subst e; exact hnm ha

end Tree

theorem Tree.linked {g : Graph} {filt : Nat → Bool} {isSrc : Nat → Prop} {par : Nat → Option Nat}
    {v : Nat} {l : List Nat} (h : Tree g filt isSrc par v l) : Reach.Linked (Reach.Edge g filt) l := by
  induction h with
  | root s _ _ => trivial
  | node v p l _ _ ht _ he ih => exact Reach.linked_snoc _ l p v ih ht.last he

theorem Tree.valid {g : Graph} {filt : Nat → Bool} {isSrc isT : Nat → Prop} {par : Nat → Option Nat}
    {v : Nat} {l : List Nat} (h : Tree g filt isSrc par v l) (ht : isT v) :
    Reach.ValidPath g filt isSrc isT l :=
  ⟨h.first, ⟨v, h.last, ht⟩, h.nodup, h.linked⟩

/-- pigeonhole: a tree path is no longer than the parents vector -/
theorem Tree.length_le {g : Graph} {filt : Nat → Bool} {isSrc : Nat → Prop} {par : Array (Option Nat)}
    {v : Nat} {l : List Nat} (h : Tree g filt isSrc (gt par) v l) : l.length ≤ par.size := by
  have hsub : l ⊆ List.range par.size := by
    intro x hx
    exact List.mem_range.mpr (marked_lt par x (h.some_of_mem x hx))
  have := h.nodup.length_le_of_subset hsub
  simpa using this

structure SInv (g : Graph) (filt : Nat → Bool) (isSrc : Nat → Prop) (s : S) : Prop where
  tree : ∀ v, marked s.par v → ∃ l, Tree g filt isSrc (gt s.par) v l
  wl   : ∀ x, x ∈ s.wl → marked s.par x

theorem Disc.tree_old {g : Graph} {filt : Nat → Bool} {isSrc : Nat → Prop} {u : Nat} {vs : List (Nat × Nat)}
    {s s' : S} {news : List Nat} (hd : Disc filt u vs s s' news) {v : Nat} {l : List Nat}
    (h : Tree g filt isSrc (gt s.par) v l) : Tree g filt isSrc (gt s'.par) v l :=
  h.mono fun x hx => by
    rw [hd.par x]
    split
    · rename_i hn
      rw [(hd.fresh x hn).1] at hx; cases hx
    · rfl

theorem Disc.tree_new {g : Graph} {filt : Nat → Bool} {isSrc : Nat → Prop} {u : Nat} {s s' : S} {news : List Nat}
    (hd : Disc filt u (g u) s s' news) {lu : List Nat} (hlu : Tree g filt isSrc (gt s.par) u lu)
    {v : Nat} (hv : v ∈ news) : Tree g filt isSrc (gt s'.par) v (lu ++ [v]) := by
  obtain ⟨hnone, _, e, he, hf⟩ := hd.fresh v hv
  refine .node v u lu ?_ ?_ (hd.tree_old hlu) ?_ ⟨e, he, hf⟩
  · rw [hd.par v]; simp [hv]
  · intro e; subst e
    have := hlu.some_of_mem u (by cases hlu <;> simp)
    rw [hnone] at this; cases this
  · intro hm
    have := hlu.some_of_mem v hm
    rw [hnone] at this; cases this

theorem Disc.trees {g : Graph} {filt : Nat → Bool} {isSrc : Nat → Prop} {u : Nat} {s s' : S} {news : List Nat}
    (hd : Disc filt u (g u) s s' news) (ht : ∀ v, marked s.par v → ∃ l, Tree g filt isSrc (gt s.par) v l)
    (hu : marked s.par u) :
    ∀ v, marked s'.par v → ∃ l, Tree g filt isSrc (gt s'.par) v l := by
  obtain ⟨lu, hlu⟩ := ht u hu
  intro v hv
  rcases (hd.marked_iff v).mp hv with h1 | h1
  · exact ⟨lu ++ [v], hd.tree_new hlu h1⟩
  · obtain ⟨l, hl⟩ := ht v h1
    exact ⟨l, hd.tree_old hl⟩

theorem loop_sound (g : Graph) (filt isT : Nat → Bool) (isSrc : Nat → Prop)
    (pop : List Nat → Option (Nat × List Nat)) (hp : PopOK pop)
    (fuel : Nat) (s s' : S) (r : Option Nat) (hi : SInv g filt isSrc s)
    (h : loop g filt isT pop fuel s = .done r s') :
    (∀ v, marked s'.par v → ∃ l, Tree g filt isSrc (gt s'.par) v l) ∧
    (∀ t, r = some t → isT t = true ∧ marked s'.par t) := by
  fun_induction loop g filt isT pop fuel s with
  | case1 | case3 | case4 => cases h
  | case2 => cases h; exact ⟨hi.tree, fun t ht => by cases ht⟩
  | case5 _ s u rest hpop _ _ t _ he =>
    cases h
    have hu : marked s.par u := hi.wl u ((hp.2 _ _ _ hpop u).mpr (Or.inl rfl))
    obtain ⟨news, hd, hmem, hT⟩ := edges_found filt isT u _ (g u) _ _ t he
    refine ⟨hd.trees hi.tree hu, ?_⟩
    intro t' ht'
    cases ht'
    exact ⟨hT, (hd.marked_iff t).mpr (Or.inl hmem)⟩
  | case6 _ s u rest hpop _ _ s1 he ih =>
    have hu : marked s.par u := hi.wl u ((hp.2 _ _ _ hpop u).mpr (Or.inl rfl))
    obtain ⟨news, hd, hw, _, _⟩ := edges_cont filt isT u _ (g u) _ s1 he
    exact ih ⟨hd.trees hi.tree hu, hd.wl_marked hp hpop hw hi.wl⟩ h

theorem init_SInv (g : Graph) (filt : Nat → Bool) (sr : Searcher) (par : Array (Option Nat))
    (h : resetParents sr = some par) :
    SInv g filt (· ∈ sr.sources) { par := par, wl := sr.sources } := by
  obtain ⟨_, _, h3⟩ := resetParents_spec sr par h
  constructor
  · intro v hv
    have hs : v ∈ sr.sources := (init_marked sr par h v).mp hv
    exact ⟨[v], .root v hs (by simp only; rw [h3 v]; simp [hs])⟩
  · intro x hx; exact (init_marked sr par h x).mpr hx

theorem nodePathLoop_tree {g : Graph} {filt : Nat → Bool} {isSrc : Nat → Prop} {par : Array (Option Nat)}
    {v : Nat} {l : List Nat} (h : Tree g filt isSrc (gt par) v l) :
    ∀ fuel acc, l.length ≤ fuel → nodePathLoop par fuel v acc = some (l ++ acc) := by
  induction h with
  | root s _ hp =>
    intro fuel acc hf
    cases fuel with
    | zero => simp at hf
    | succ f =>
      have hlt : s < par.size := lt_of_gt_some hp
      simp only [nodePathLoop, hp]
      simp [Nat.not_le.mpr hlt]
  | node v p l hp hne _ _ _ ih =>
    intro fuel acc hf
    cases fuel with
    | zero => simp at hf
    | succ f =>
      have hlt : v < par.size := lt_of_gt_some hp
      simp only [nodePathLoop, hp]
      simp only [Nat.not_le.mpr hlt, if_false, hne, List.append_assoc, List.singleton_append]
      apply ih
      simp at hf; omega

theorem nodePath_tree {g : Graph} {filt : Nat → Bool} {isSrc : Nat → Prop} {sr : Searcher} {t : Nat} {l : List Nat}
    (ht : sr.target = some t) (h : Tree g filt isSrc (gt sr.parents) t l) : nodePath sr = some l := by
  unfold nodePath nodePathFrom
  rw [ht]
  simpa using nodePathLoop_tree h (sr.parents.size + 1) [] (Nat.le_succ_of_le h.length_le)

theorem iterLoop_tree {g : Graph} {filt : Nat → Bool} {isSrc : Nat → Prop} {par : Array (Option Nat)}
    {v : Nat} {l : List Nat} (h : Tree g filt isSrc (gt par) v l) :
    ∀ fuel, l.length + 1 ≤ fuel → iterLoop par fuel (some v) = some l.reverse := by
  induction h with
  | root s _ hp =>
    intro fuel hf
    have hlt : s < par.size := lt_of_gt_some hp
    match fuel, hf with
    | f + 2, _ =>
      simp only [iterLoop, hp]
      simp [Nat.not_le.mpr hlt, iterLoop]
  | node v p l hp hne _ _ _ ih =>
    intro fuel hf
    have hlt : v < par.size := lt_of_gt_some hp
    cases fuel with
    | zero => simp at hf
    | succ f =>
      have hne' : ¬ (p = v) := hne
      simp only [iterLoop, hp]
      simp only [Nat.not_le.mpr hlt, if_false, beq_iff_eq, Option.some.injEq, hne']
      rw [ih f (by simp at hf; omega)]
      simp

theorem findEdge_some (g : Graph) (filt : Nat → Bool) (p v : Nat) (h : Reach.Edge g filt p v) :
    ∃ e, findEdge g p v = some e ∧ (v, e) ∈ g p := by
  obtain ⟨e0, hm, _⟩ := h
  unfold findEdge
  cases hf : (g p).find? (fun q => q.1 == v) with
  | none =>
    have := List.find?_eq_none.mp hf (v, e0) hm
    simp at this
  | some q =>
    obtain ⟨w, e⟩ := q
    have h1 := List.find?_some hf
    have h2 := List.mem_of_find?_eq_some hf
    simp only [beq_iff_eq] at h1
    subst h1
    exact ⟨e, rfl, h2⟩

theorem edgePathLoop_tree {g : Graph} {filt : Nat → Bool} {isSrc : Nat → Prop} {par : Array (Option Nat)}
    {v : Nat} {l : List Nat} (h : Tree g filt isSrc (gt par) v l) :
    ∀ fuel acc, l.length ≤ fuel →
      ∃ es, edgePathLoop g par fuel v acc = some (es ++ acc) ∧ Reach.EdgesJoin g l es := by
  induction h with
  | root s _ hp =>
    intro fuel acc hf
    cases fuel with
    | zero => simp at hf
    | succ f =>
      have hlt : s < par.size := lt_of_gt_some hp
      refine ⟨[], ?_, trivial⟩
      simp only [edgePathLoop, hp]
      simp [Nat.not_le.mpr hlt]
  | node v p l hp hne ht _ he ih =>
    intro fuel acc hf
    cases fuel with
    | zero => simp at hf
    | succ f =>
      have hlt : v < par.size := lt_of_gt_some hp
      obtain ⟨e, hfe, hme⟩ := findEdge_some g filt p v he
      obtain ⟨es, h1, h2⟩ := ih f (e :: acc) (by simp at hf; omega)
      refine ⟨es ++ [e], ?_, Reach.edgesJoin_snoc g l es p v e h2 ht.last hme⟩
      simp only [edgePathLoop, hp]
      simp only [Nat.not_le.mpr hlt, if_false, hne, hfe, h1, List.append_assoc, List.singleton_append]

theorem Tree.walk {g : Graph} {filt : Nat → Bool} {isSrc : Nat → Prop} {par : Nat → Option Nat}
    {v : Nat} {l : List Nat} (h : Tree g filt isSrc par v l) : Reach.Walk g filt isSrc (l.length - 1) v := by
  induction h with
  | root s hs _ => exact .src s hs
  | node v p l _ _ ht _ he ih =>
    have : 0 < l.length := by cases ht <;> simp
    have e : (l ++ [v]).length - 1 = (l.length - 1) + 1 := by simp; omega
    rw [e]
    exact .step _ p v ih he

theorem Tree.reachable {g : Graph} {filt : Nat → Bool} {isSrc : Nat → Prop} {par : Nat → Option Nat}
    {v : Nat} {l : List Nat} (h : Tree g filt isSrc par v l) : Reach.Reachable g filt isSrc v :=
  (Reach.reachable_iff_walk g filt isSrc v).mpr ⟨_, h.walk⟩

end Tbx.Search
