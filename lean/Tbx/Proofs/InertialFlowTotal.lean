import Tbx.Proofs.InertialFlowStep
import Tbx.Proofs.FlowDinicResume
import Tbx.Proofs.FlowSolvers
/-
C03: the solver call of `sub_step` on the property's quantifier (`Bisection.preOK`) (`solve_spec`): there is
ONE pair (flow, assignment), a canonical minimum cut of the contracted cell graph, that the call yields for every bound
≥ the flow, and for any bound it yields that pair or was aborted; it never panics.  From the total correctness of the
Dinic model (C01/C02: `Tbx.Flow.solvers_return_canonical_cut`) lifted to the bounded phase loop.  The same for the whole
step (`subStepSorted_spec`): ONE result, valid by `BisectionCore.valid_of_mincut`, returned for every bound ≥ its flow,
and for any bound that result or `aborted`.  Without `preOK`: whatever pair the call yields under a non-negative bound
has flow ≤ the bound (`solve_flow_le`).
-/
namespace Tbx.InertialFlow
open Tbx Tbx.Flow Tbx.FlowSpec Tbx.FlowTheory Tbx.Bisection Tbx.BisectionCore Tbx.BisectionTheory

theorem unit_caps_sum (es : List Edge) (h : ∀ e, e ∈ es → e.cap = 1) : (es.map Edge.cap).sum = (es.length : Int) := by
  induction es with
  | nil => rfl
  | cons a l ih =>
    simp only [List.map_cons, List.sum_cons, List.length_cons]
    rw [ih (fun e he => h e (List.mem_cons_of_mem _ he)), h a List.mem_cons_self]
    omega

theorem nNodes_ge2 (es : List E) (hne : es ≠ []) (hl : ∀ e, e ∈ es → e.1 ≠ e.2.1) : 1 < nNodes es := by
  obtain ⟨e, he⟩ := List.exists_mem_of_ne_nil es hne
  have := le_maxId es e he
  have := hl e he
  unfold nNodes; omega

/-- an aborted run leaves `finished` false, so `max_flow()` is `Err` -/
theorem solve_flow_le (p : Prep) (bound : Int) (hb : 0 ≤ bound) (flow : Int) (bits : Array Bool) (b' : Int)
    (h : solve p bound = some (some (flow, bits), b')) : flow ≤ bound := by
  unfold solve at h
  split at h
  · simp only [Option.some.injEq, Prod.mk.injEq] at h
    obtain ⟨⟨rfl, _⟩, _⟩ := h
    exact hb
  · split at h
    · cases h
    · rename_i d hd
      split at h
      · cases h
      · rename_i d' bnd hr
        rcases runBounded_spec d (fromEdgeList_fin _ _ _ _ hd) _ _ _ _ hr with ⟨hf, _⟩ | ⟨hf, _, _, hle⟩
        · have : d'.maxFlow? = .err := by unfold Dinic.maxFlow? maxFlowOut; simp [hf]
          rw [this] at h
          simp at h
        · rw [Dinic.maxFlow?_eq_ok.mpr ⟨hf, rfl⟩] at h
          simp only at h
          split at h
          · simp only [Option.some.injEq, Prod.mk.injEq] at h
            obtain ⟨⟨rfl, _⟩, _⟩ := h
            exact hle hb
          · cases h

theorem solve_of_runBounded {p : Prep} {b b2 : Int} {d d' : Dinic} {bits : Array Bool} (hne : p.edges ≠ [])
    (hd : Dinic.fromEdgeList p.edges 0 1 = some d) (hrb : runBounded d (phaseFuel p) b = some (d', b2))
    (hfin : d'.finished = true) (hbits : d'.assignment? 0 = .ok bits) :
    solve p b = some (some (d'.maxFlow, bits), b2) := by
  unfold solve
  rw [if_neg (by simpa using hne)]
  simp only [hd, hrb, Dinic.maxFlow?_eq_ok.mpr ⟨hfin, rfl⟩, hbits]

section
variable (edges : List (Nat × Nat)) (sorted : List Nat) (k : Nat) (hpre : preOK edges sorted k = true)
  (hsz : 2 * edges.length + 6 < INV)
include hpre hsz

theorem solve_spec : ∃ (x : Int) (bits : Array Bool),
    MinCut edges (prep edges sorted k).table.get x (sideBit bits) ∧
    (∀ b : Int, x ≤ b → solve (prep edges sorted k) b = some (some (x, bits), min b x)) ∧
    ∀ b : Int, ∃ b2, solve (prep edges sorted k) b = some (none, b2) ∨
      solve (prep edges sorted k) b = some (some (x, bits), b2) := by
  obtain ⟨hnd, _, _, hk2, _⟩ := preOK_iff.mp hpre
  obtain ⟨hcap, hN⟩ := prep_solver_pre edges sorted k hpre hsz
  have hdisj := take_drop_disjoint sorted k hnd hk2
  have hedges := prep_edges edges sorted k hdisj
  obtain ⟨hunit, hloop⟩ := prep_edges_unit edges sorted k hdisj
  by_cases hemp : (prep edges sorted k).edges = []
  · -- no solver runs
    have hsolve : ∀ b : Int, solve (prep edges sorted k) b = some (some (0, #[true]), min b 0) := by
      intro b; unfold solve; simp [hemp]
    refine ⟨0, #[true], ?_, fun b _ => hsolve b, fun b => ⟨_, Or.inr (hsolve b)⟩⟩
    apply mincut_of_empty
    · rw [← hedges, hemp]; rfl
    · decide
    · intro p hp
      simp only [sideBit, Bool.and_eq_true, decide_eq_true_eq] at hp
      have : (#[true] : Array Bool).size = 1 := rfl
      omega
  · -- Dinic runs: total by C01/C02
    have hn2 := nNodes_ge2 _ (by simpa using hemp) hloop
    -- the theorem speaks of all three solvers; of each group (run, flow value, assignment) Dinic's member is used
    obtain ⟨bits, x, d, d', _ek, _ff, hd, hrun, _runEK, _runFF, hmf, _mfEK, _mfFF, hbits, _bitsEK, _bitsFF, hsize,
        hcut⟩ :=
      solvers_return_canonical_cut (prep edges sorted k).edges 0 1 hcap (by omega) (by omega) hn2 hN
    obtain ⟨h0, h1, hval, _isMax, hmin, hcan⟩ := hcut
    rw [unit_caps_sum _ hunit, Int.toNat_natCast] at hrun
    have hrun' : d.run (phaseFuel (prep edges sorted k)) = some d' := hrun
    obtain ⟨hfin, rfl⟩ := Dinic.maxFlow?_eq_ok.mp hmf
    have hrb := runBounded_of_run _ 0 1 hcap (by omega) hN d hd _ d' hrun'
    refine ⟨d'.maxFlow, bits, ?_, fun b hb => ?_, fun b => ?_⟩
    · have hsb : sideBit bits = fun p =>
          decide (p < nNodes ((prep edges sorted k).edges.map toE)) && gt bits p := by
        funext p; unfold sideBit; rw [hsize]
      rw [hsb]
      exact mincut_of_finset _ edges _ (fun v => gt bits v) _ hedges.symm (by omega) hn2
        ⟨h0, h1, hval, hmin, hcan⟩
    · obtain ⟨r, hr, heq⟩ := hrb b
      exact solve_of_runBounded hemp hd (heq hb ▸ hr) hfin hbits
    · obtain ⟨⟨d2, b2⟩, hrb, _⟩ := hrb b
      refine ⟨b2, ?_⟩
      rcases runBounded_spec d (fromEdgeList_fin _ _ _ _ hd) _ _ _ _ hrb with ⟨hf, _⟩ | ⟨hf, hr2, _⟩
      · have herr : d2.maxFlow? = .err := by unfold Dinic.maxFlow? maxFlowOut; simp [hf]
        left
        unfold solve
        rw [if_neg (by simpa using hemp)]
        simp only [hd, hrb, herr]
      · -- completed: it is the unbounded run
        obtain rfl : d' = d2 := by rw [hrun'] at hr2; exact Option.some.inj hr2
        exact Or.inr (solve_of_runBounded hemp hd hrb hfin hbits)

theorem subStepSorted_spec : ∃ r : FlowRes, Valid edges sorted k r.flow r.left r.right ∧
    (∀ b : Int, r.flow ≤ b → subStepSortedB edges sorted k b = (.ok r, min b r.flow)) ∧
    ∀ b : Int, subStepSorted edges sorted k b = .ok r ∨ subStepSorted edges sorted k b = .aborted := by
  obtain ⟨x, bits, hm, hge, hall⟩ := solve_spec edges sorted k hpre hsz
  obtain ⟨_, hn, hk1, hk2, _⟩ := preOK_iff.mp hpre
  have hv : Valid edges sorted k x (resOf edges sorted k x bits).left (resOf edges sorted k x bits).right :=
    valid_of_mincut (prep_contr edges sorted k hpre) hm _ _
      (partitionIds_left _ bits sorted) (partitionIds_right _ bits sorted)
  have hok : ∀ b b2 : Int, solve (prep edges sorted k) b = some (some (x, bits), b2) →
      subStepSortedB edges sorted k b = (.ok (resOf edges sorted k x bits), b2) := by
    intro b b2 hs
    -- no panic: the first end is left, the last end is right, so both sides are non-empty
    refine subStepSortedB_of_solve hk1 (by omega) hs ?_ ?_
    · obtain ⟨y, hy⟩ := List.exists_mem_of_ne_nil _ (firstK_ne_nil sorted k hk1 (by omega))
      exact List.ne_nil_of_mem (hv.endsL y hy)
    · obtain ⟨y, hy⟩ := List.exists_mem_of_ne_nil (lastK sorted k)
        (List.ne_nil_of_length_pos (by unfold lastK; rw [List.length_drop]; omega))
      exact List.ne_nil_of_mem (hv.endsR y hy)
  refine ⟨resOf edges sorted k x bits, hv, fun b hb => hok b _ (hge b hb), fun b => ?_⟩
  obtain ⟨b2, hs | hs⟩ := hall b
  · right
    unfold subStepSorted subStepSortedB
    rw [if_neg (by omega)]
    simp only [hs]
  · left
    unfold subStepSorted
    rw [hok b b2 hs]

end

end Tbx.InertialFlow
