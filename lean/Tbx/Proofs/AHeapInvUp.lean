import Tbx.Proofs.AHeapInvDefs
/-
`up_heap`: pointer bookkeeping through `upLoop`, the combined specification of `upHeap` (order part from
`Tbx/Proofs/AHeapOrder.lean`), and what the operations ending in `up_heap` use of it: `upHeap_inv`.
-/
namespace Tbx.AHeap
open Tbx

/-- the pointer half of sift-up (the order half is `upLoop_spec`): the loop is a chain of `PInv.move`s from the parent -/
theorem upLoop_pinv (fuel : Nat) (h : Array Elem) (ns : Array Node) (key : Nat) (w : Int)
    (r x : Nat) (lo : Int) (P : PInv h ns key r x lo) (hs0 : (gt h 0).weight ≤ w)
    {h' : Array Elem} {ns' : Array Node} {key' : Nat} (e : upLoop fuel h ns key w = (h', ns', key')) :
    PInv h' ns' key' r x lo ∧ Frame ns ns' ∧ gt h' 0 = gt h 0 := by
  induction fuel generalizing h ns key with
  | zero => cases e; exact ⟨P, Frame.refl _, rfl⟩
  | succ fuel ih =>
    simp only [upLoop] at e
    split at e
    · rename_i hgt
      have hpos := P.hole_pos
      have hlt := P.hole_lt
      -- the parent is not the sentinel, which is not heavier than `w`
      have hk2 : 1 ≤ key / 2 := by
        apply Nat.pos_of_ne_zero; intro h0
        rw [h0] at hgt
        exact absurd hs0 (Int.not_le.mpr hgt)
      have hp : key / 2 < key := Nat.div_lt_self hpos (by decide)
      have hm := P.move (key / 2) hk2 (Nat.lt_trans hp hlt) (Nat.ne_of_lt hp)
      rw [gt_st_eq _ _ _ hlt] at e
      have h0 := gt_st_ne h key 0 (gt h (key / 2)) (Nat.ne_of_gt hpos)
      obtain ⟨a, b, c⟩ := ih _ _ _ hm.1 (by rw [h0]; exact hs0) e
      exact ⟨a, hm.2.trans b, c.trans h0⟩
    · cases e; exact ⟨P, Frame.refl _, rfl⟩

theorem upLoop_succ (fuel : Nat) (h : Array Elem) (ns : Array Node) (key : Nat) (w : Int) :
    upLoop (fuel + 1) h ns key w =
      if (gt h (key / 2)).weight > w then
        upLoop fuel (st h key (gt h (key / 2)))
          (setKey ns (gt (st h key (gt h (key / 2))) key).index key) (key / 2) w
      else (h, ns, key) := rfl

/-- the fuel `up_heap` passes (`key`) is sufficient: the sentinel stops the loop at the root at the latest -/
theorem upLoop_fuel (fuel : Nat) (h : Array Elem) (ns : Array Node) (key : Nat) (w : Int)
    (hf : key ≤ fuel) (hs0 : (gt h 0).weight ≤ w) :
    upLoop (fuel + 1) h ns key w = upLoop fuel h ns key w := by
  induction fuel generalizing h ns key with
  | zero =>
    have : key = 0 := Nat.le_zero.mp hf
    subst this
    rw [upLoop_succ, if_neg (Int.not_lt.mpr hs0)]
    rfl
  | succ fuel ih =>
    rw [upLoop_succ (fuel + 1) h ns key w, upLoop_succ fuel h ns key w]
    split
    · rename_i hgt
      have hk : key ≠ 0 := fun e => absurd hs0 (Int.not_le.mpr (by rw [e] at hgt; exact hgt))
      exact ih _ _ _ (Nat.le_of_lt_succ (Nat.lt_of_lt_of_le (Nat.div_lt_self (Nat.pos_of_ne_zero hk) (by decide)) hf))
        (by rw [gt_st_ne _ _ _ _ hk]; exact hs0)
    · rfl

theorem upHeap_heap (s : Heap) (key : Nat) :
    (upHeap s key).heap =
      st (upLoop key s.heap s.nodes key (gt s.heap key).weight).1
         (upLoop key s.heap s.nodes key (gt s.heap key).weight).2.2
         ⟨(gt s.heap key).index, (gt s.heap key).weight⟩ := rfl

theorem upHeap_nodes (s : Heap) (key : Nat) :
    (upHeap s key).nodes =
      setKey (upLoop key s.heap s.nodes key (gt s.heap key).weight).2.1 (gt s.heap key).index
         (upLoop key s.heap s.nodes key (gt s.heap key).weight).2.2 := rfl

@[simp] theorem upHeap_idx (s : Heap) (key : Nat) : (upHeap s key).idx = s.idx := rfl
@[simp] theorem upHeap_wmin (s : Heap) (key : Nat) : (upHeap s key).wmin = s.wmin := rfl
@[simp] theorem upHeap_wmax (s : Heap) (key : Nat) : (upHeap s key).wmax = s.wmax := rfl

theorem upHeap_spec (s : Heap) (key x : Nat) (lo : Int)
    (h1 : 1 ≤ key) (h2 : key < s.heap.size)
    (P : PtrX s.heap s.nodes x)
    (hlo : ∀ k, k < s.heap.size → lo ≤ (gt s.heap k).weight)
    (hs0 : (gt s.heap 0).weight ≤ (gt s.heap key).weight)
    (ho : OrdW s.heap key (gt s.heap key).weight) (hb : 2 ≤ key → Below s.heap key) :
    Sifted s (upHeap s key) x lo := by
  unfold Sifted
  rw [upHeap_heap, upHeap_nodes]
  obtain ⟨o1, o2, o3, o4, _⟩ := upLoop_spec key s.heap s.nodes key (gt s.heap key).weight h2
    (Nat.le_refl _) hs0 ho hb
  obtain ⟨p1, p2, p3⟩ := upLoop_pinv key s.heap s.nodes key (gt s.heap key).weight _ x lo
    (PInv.start P key h1 h2 hlo) hs0 rfl
  obtain ⟨c1, c2, c3, c4⟩ := p1.close (gt s.heap key).weight
    ((congrArg PQ.Entry.weight (p2.2 _)).trans (P.back key h1 h2).2.2.2) (hlo key h2)
  exact ⟨(size_st _ _ _).trans o1, close_hole _ _ _ _ (o1 ▸ o2) o3 o4, c1, p2.trans c2,
    fun k hk => c3 k (o1.symm ▸ hk), c4.trans p3⟩

/-- an operation that leaves a state `m` which agrees with a state `s` satisfying the invariant except
for a new or lowered weight `w` in slot `key`, and then calls `up_heap(key)`, re-establishes the invariant -/
theorem upHeap_inv {s m : Heap} (I : Inv s) (key : Nat) (w : Int) (h1 : 1 ≤ key) (h2 : key < m.heap.size)
    (hne : ∀ k, k < m.heap.size → k ≠ key → k < s.heap.size ∧ gt m.heap k = gt s.heap k)
    (hwk : (gt m.heap key).weight = w) (hm : m.wmin = s.wmin) (hw1 : s.wmin ≤ w)
    (hw2 : key < s.heap.size → w ≤ (gt s.heap key).weight)
    (P : PtrX m.heap m.nodes m.nodes.size) (M : IdMap m.idx m.nodes) :
    Inv (upHeap m key) ∧ abs (upHeap m key) = abs m := by
  obtain ⟨ow, ob⟩ := Ord.hole (w := w) I.ord hne hw2
  have hwlo : ∀ k, k < m.heap.size → m.wmin ≤ (gt m.heap k).weight := fun k hk => by
    rw [hm]
    by_cases e : k = key
    · rw [e, hwk]; exact hw1
    · rw [(hne k hk e).2]; exact I.wlo k (hne k hk e).1
  have hsent : (gt m.heap 0).weight = m.wmin := by
    rw [(hne 0 (Nat.lt_of_lt_of_le h1 (Nat.le_of_lt h2)) (Nat.ne_of_lt h1)).2, hm]; exact I.sentinel
  obtain ⟨a1, a2, a3, a4, a5, a6⟩ := upHeap_spec m key m.nodes.size m.wmin h1 h2 P hwlo
    (hsent ▸ hwlo key h2) (hwk ▸ ow) ob
  exact ⟨Inv.of_ptr (a1 ▸ Nat.le_trans h1 (Nat.le_of_lt h2)) (by rw [a6]; exact hsent)
    (fun k hk => a5 k (a1 ▸ hk)) a2 (a4.1 ▸ a3) (M.frame a4.1 a4.id_eq), a4.abs_eq⟩

end Tbx.AHeap
