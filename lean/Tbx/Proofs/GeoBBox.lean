import Tbx.Model.BBox
/-
Bounding boxes: `contains` is betweenness, `extend_with` only grows (and is the componentwise join),
`from_coordinates` yields the tightest box around a non-empty list of i32 coordinates.
-/
namespace Tbx.Geo

theorem boxContains_iff (b : BoxCorners) (q : Coord) : boxContains b q = true ↔ Between b q := by
  simp only [boxContains, Between, Bool.and_eq_true, decide_eq_true_eq, ge_iff_le, and_assoc]

theorem boxExtend_eq_join (b o : BoxCorners) : boxExtend b o = joinCorners b o := rfl

theorem between_extend_left {b o : BoxCorners} {q : Coord} (h : Between b q) : Between (boxExtend b o) q :=
  ⟨Int.le_trans (Int.min_le_left _ _) h.1, Int.le_trans h.2.1 (Int.le_max_left _ _),
    Int.le_trans (Int.min_le_left _ _) h.2.2.1, Int.le_trans h.2.2.2 (Int.le_max_left _ _)⟩

theorem between_extend_right {b o : BoxCorners} {q : Coord} (h : Between o q) : Between (boxExtend b o) q :=
  ⟨Int.le_trans (Int.min_le_right _ _) h.1, Int.le_trans h.2.1 (Int.le_max_right _ _),
    Int.le_trans (Int.min_le_right _ _) h.2.2.1, Int.le_trans h.2.2.2 (Int.le_max_right _ _)⟩

theorem extend_least {b o r : BoxCorners}
    (hb : r.minLat ≤ b.minLat ∧ r.minLon ≤ b.minLon ∧ b.maxLat ≤ r.maxLat ∧ b.maxLon ≤ r.maxLon)
    (ho : r.minLat ≤ o.minLat ∧ r.minLon ≤ o.minLon ∧ o.maxLat ≤ r.maxLat ∧ o.maxLon ≤ r.maxLon) :
    r.minLat ≤ (boxExtend b o).minLat ∧ r.minLon ≤ (boxExtend b o).minLon ∧
    (boxExtend b o).maxLat ≤ r.maxLat ∧ (boxExtend b o).maxLon ≤ r.maxLon :=
  ⟨Int.le_min.mpr ⟨hb.1, ho.1⟩, Int.le_min.mpr ⟨hb.2.1, ho.2.1⟩, Int.max_le.mpr ⟨hb.2.2.1, ho.2.2.1⟩,
    Int.max_le.mpr ⟨hb.2.2.2, ho.2.2.2⟩⟩

theorem min_sel (a b : Int) : min a b = a ∨ min a b = b := by omega
theorem max_sel (a b : Int) : max a b = a ∨ max a b = b := by omega

theorem boxAdd_minLat (b : BoxCorners) (c : Coord) : (boxAdd b c).minLat = min b.minLat c.lat := rfl
theorem boxAdd_minLon (b : BoxCorners) (c : Coord) : (boxAdd b c).minLon = min b.minLon c.lon := rfl
theorem boxAdd_maxLat (b : BoxCorners) (c : Coord) : (boxAdd b c).maxLat = max b.maxLat c.lat := rfl
theorem boxAdd_maxLon (b : BoxCorners) (c : Coord) : (boxAdd b c).maxLon = max b.maxLon c.lon := rfl

theorem boxAdd_invalid {c : Coord} (hc : CoordI32 c) : boxAdd boxInvalid c = ⟨c.lat, c.lon, c.lat, c.lon⟩ := by
  obtain ⟨⟨h1, h2⟩, h3, h4⟩ := hc
  show (⟨min i32Max c.lat, min i32Max c.lon, max i32Min c.lat, max i32Min c.lon⟩ : BoxCorners) = _
  rw [Int.min_eq_right (show c.lat ≤ i32Max from h2), Int.min_eq_right (show c.lon ≤ i32Max from h4),
    Int.max_eq_right (show i32Min ≤ c.lat from h1), Int.max_eq_right (show i32Min ≤ c.lon from h3)]

/-- adding a point to the tightest box of a list gives the tightest box of the longer list -/
theorem isBoxOf_add {b : BoxCorners} {cs : List Coord} (c : Coord) (h : IsBoxOf b cs) :
    IsBoxOf (boxAdd b c) (cs ++ [c]) := by
  obtain ⟨hall, h1, h2, h3, h4⟩ := h
  -- a corner that is the old one or the new point's is attained in the longer list
  have att : ∀ {f : Coord → Int} {m r : Int}, r = m ∨ r = f c → (∃ c' ∈ cs, f c' = m) →
      ∃ c' ∈ cs ++ [c], f c' = r := by
    rintro f m r (rfl | rfl) ⟨c', hc', e⟩
    · exact ⟨c', List.mem_append_left _ hc', e⟩
    · exact ⟨c, List.mem_append_right _ (List.mem_singleton_self c), rfl⟩
  refine ⟨fun c' hc' => ?_, att (min_sel _ _) h1, att (min_sel _ _) h2, att (max_sel _ _) h3, att (max_sel _ _) h4⟩
  rcases List.mem_append.mp hc' with hc' | hc'
  · obtain ⟨a1, a2, a3, a4⟩ := hall c' hc'
    exact ⟨Int.le_trans (Int.min_le_left _ _) a1, Int.le_trans a2 (Int.le_max_left _ _),
      Int.le_trans (Int.min_le_left _ _) a3, Int.le_trans a4 (Int.le_max_left _ _)⟩
  · obtain rfl := List.mem_singleton.mp hc'
    exact ⟨Int.min_le_right _ _, Int.le_max_right _ _, Int.min_le_right _ _, Int.le_max_right _ _⟩

theorem isBoxOf_foldl (cs : List Coord) : ∀ {b : BoxCorners} {pre : List Coord}, IsBoxOf b pre →
    IsBoxOf (cs.foldl boxAdd b) (pre ++ cs) := by
  induction cs with
  | nil => exact fun h => (List.append_nil _).symm ▸ h
  | cons c cs ih => exact fun h => List.append_cons _ c cs ▸ ih (isBoxOf_add c h)

theorem boxFromCoordinates_isBoxOf (cs : List Coord) (hne : cs ≠ []) (hI : ∀ c ∈ cs, CoordI32 c) :
    IsBoxOf (boxFromCoordinates cs) cs := by
  cases cs with
  | nil => exact absurd rfl hne
  | cons c cs =>
    have hc := List.mem_singleton_self c
    refine isBoxOf_foldl cs (pre := [c]) (boxAdd_invalid (hI c List.mem_cons_self) ▸ ⟨fun c' hc' => ?_,
      ⟨c, hc, rfl⟩, ⟨c, hc, rfl⟩, ⟨c, hc, rfl⟩, ⟨c, hc, rfl⟩⟩)
    obtain rfl := List.mem_singleton.mp hc'
    exact ⟨Int.le_refl _, Int.le_refl _, Int.le_refl _, Int.le_refl _⟩

theorem isBoxOf_between_iff {b : BoxCorners} {cs : List Coord} (h : IsBoxOf b cs) (q : Coord) :
    Between b q ↔
      (∃ c ∈ cs, c.lat ≤ q.lat) ∧ (∃ c ∈ cs, q.lat ≤ c.lat) ∧ (∃ c ∈ cs, c.lon ≤ q.lon) ∧ (∃ c ∈ cs, q.lon ≤ c.lon) := by
  obtain ⟨hall, ⟨c1, m1, e1⟩, ⟨c2, m2, e2⟩, ⟨c3, m3, e3⟩, ⟨c4, m4, e4⟩⟩ := h
  constructor
  · intro hb
    exact ⟨⟨c1, m1, Int.le_trans (Int.le_of_eq e1) hb.1⟩, ⟨c3, m3, Int.le_trans hb.2.1 (Int.le_of_eq e3.symm)⟩,
      ⟨c2, m2, Int.le_trans (Int.le_of_eq e2) hb.2.2.1⟩, ⟨c4, m4, Int.le_trans hb.2.2.2 (Int.le_of_eq e4.symm)⟩⟩
  · rintro ⟨⟨a, ma, ha⟩, ⟨b', mb, hb⟩, ⟨c, mc, hc⟩, ⟨d, md, hd⟩⟩
    exact ⟨Int.le_trans (hall a ma).1 ha, Int.le_trans hb (hall b' mb).2.1, Int.le_trans (hall c mc).2.2.1 hc,
      Int.le_trans hd (hall d md).2.2.2⟩

end Tbx.Geo
