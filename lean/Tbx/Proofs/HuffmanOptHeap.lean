import Tbx.Proofs.HuffmanOptGreedy
import Tbx.Model.Arr
/-
The heap model of C20 (Tbx.Huffman.heapPush / heapPop, std's BinaryHeap algorithm with the hole moves written as
swaps) maintains the binary min-heap order `HeapOrd` on `Tree.freq`, and `heapPop` returns a minimum; hence the heap
construction merges two minimum-weight trees per iteration and reaches the greedy optimum (`fromUnsorted_cost`).
`UpInv` / `DownInv` describe the array while the hole moves; the descent of sift_down_to_bottom ends in a childless
position with `UpInv`, so the final sift_up restores `HeapOrd`.
-/
namespace Tbx.Huffman
open Tbx.Spec.Huff

/- The sift loops do not answer `none` when the fuel runs out; once the fuel is at least the number of iterations the
position allows, more fuel changes nothing, so the models never stop early. -/
theorem siftUp_fuel (start : Nat) (e : Nat) : ∀ (f : Nat) (a : Array Tree) (pos : Nat), pos ≤ f →
    siftUp start (f + e) a pos = siftUp start f a pos := by
  intro f
  induction f with
  | zero =>
    intro a pos h
    obtain rfl : pos = 0 := Nat.le_zero.mp h
    cases e with
    | zero => rfl
    | succ e => simp [siftUp]
  | succ f ih =>
    intro a pos h
    rw [Nat.add_right_comm]
    simp only [siftUp]
    split
    · split
      · rfl
      · exact ih _ _ (by omega)
    · rfl

theorem siftDownLoop_fuel (n e : Nat) : ∀ (f : Nat) (a : Array Tree) (pos : Nat), n ≤ pos + f →
    siftDownLoop n (f + e) a pos = siftDownLoop n f a pos := by
  intro f
  induction f with
  | zero =>
    intro a pos h
    cases e with
    | zero => rfl
    | succ e =>
      simp only [siftDownLoop]
      rw [if_neg (by omega), if_neg (by omega)]
  | succ f ih =>
    intro a pos h
    rw [Nat.add_right_comm]
    simp only [siftDownLoop]
    split
    · exact ih _ _ (by split <;> omega)
    · rfl

theorem siftDownLoop_pos (e : Nat) : ∀ (f : Nat) (a : Array Tree) (pos : Nat), pos < e →
    (siftDownLoop e f a pos).2 < e := by
  intro f
  induction f with
  | zero => intro a pos h; simpa [siftDownLoop] using h
  | succ f ih =>
    intro a pos h
    simp only [siftDownLoop]
    split
    · split
      · exact ih _ _ (by omega)
      · exact ih _ _ (by omega)
    · split
      · show 2 * pos + 1 < e
        omega
      · exact h

theorem swp_size (a : Array Tree) (i j : Nat) : (swp a i j).size = a.size := (swp_perm a i j).size_eq

theorem fr_swp_left (a : Array Tree) (i j : Nat) (hi : i < a.size) (hj : j < a.size) :
    fr (swp a i j) i = fr a j := by simp [fr, swp, hi, hj]

theorem fr_swp_right (a : Array Tree) (i j : Nat) (hi : i < a.size) (hj : j < a.size) :
    fr (swp a i j) j = fr a i := by simp [fr, swp, hi, hj]

theorem fr_swp_other (a : Array Tree) (i j k : Nat) (h1 : k ≠ i) (h2 : k ≠ j) : fr (swp a i j) k = fr a k := by
  simp [fr, swp, Array.getD, h1, h2]

/- `fr a i` is `(gt a i).freq`: the access lemmas of Model/Arr apply. -/
theorem fr_push_lt (a : Array Tree) (x : Tree) (i : Nat) (hi : i < a.size) : fr (a.push x) i = fr a i :=
  congrArg Tree.freq (gt_push_lt a x i hi)

/-- `c` is a child of `p` in the implicit binary tree of the array.  The model computes the parent of `c` as
    `(c - 1) / 2` (`child_parent`); everything else is stated through the two linear bounds. -/
structure Child (p c : Nat) : Prop where
  lo : 2 * p + 1 ≤ c
  hi : c ≤ 2 * p + 2

theorem child_parent {c : Nat} (h : 1 ≤ c) : Child ((c - 1) / 2) c := ⟨by omega, by omega⟩

theorem Child.lt {p c : Nat} (h : Child p c) : p < c := by
  obtain ⟨h1, _⟩ := h
  omega

theorem Child.parent_eq {p q c : Nat} (h : Child p c) (h' : Child q c) : q = p := by
  obtain ⟨h1, h2⟩ := h
  obtain ⟨h3, h4⟩ := h'
  omega

theorem Child.eq_or {p c : Nat} (h : Child p c) : c = 2 * p + 1 ∨ c = 2 * p + 1 + 1 := by
  obtain ⟨h1, h2⟩ := h
  omega

/-- binary min-heap with respect to `freq` (what `BinaryHeap<Reverse<node>>` maintains) -/
def HeapOrd (a : Array Tree) : Prop := ∀ p c, Child p c → c < a.size → fr a p ≤ fr a c

theorem heapOrd_empty : HeapOrd #[] := fun _ _ _ hc => absurd hc (Nat.not_lt_zero _)

theorem heapOrd_root_min (a : Array Tree) (h : HeapOrd a) (i : Nat) (hi : i < a.size) : fr a 0 ≤ fr a i := by
  induction i using Nat.strongRecOn with
  | _ i ih =>
    rcases Nat.eq_zero_or_pos i with rfl | h0
    · exact Int.le_refl _
    · have hc := child_parent h0
      exact Int.le_trans (ih _ hc.lt (Nat.lt_trans hc.lt hi)) (h _ i hc hi)

/-- all edges hold except possibly the one into `pos`; the parent of `pos` is below the children of `pos` -/
def UpInv (a : Array Tree) (pos : Nat) : Prop :=
  (∀ p c, Child p c → c < a.size → c ≠ pos → fr a p ≤ fr a c) ∧
  (∀ g c, Child g pos → Child pos c → c < a.size → fr a g ≤ fr a c)

theorem UpInv.heapOrd {a : Array Tree} {pos : Nat} (h : UpInv a pos)
    (hp : ∀ p, Child p pos → fr a p ≤ fr a pos) : HeapOrd a := by
  intro p c hpc hc
  by_cases hcp : c = pos
  · subst hcp; exact hp p hpc
  · exact h.1 p c hpc hc hcp

theorem upInv_step (a : Array Tree) (pos p : Nat) (h : UpInv a pos) (hp : pos < a.size)
    (hpp : Child p pos) (hlt : fr a pos < fr a p) : UpInv (swp a pos p) p := by
  obtain ⟨ha, hb⟩ := h
  have hps : p < a.size := Nat.lt_trans hpp.lt hp
  have eL := fr_swp_left a pos p hp hps
  have eR := fr_swp_right a pos p hp hps
  have eO := fr_swp_other a pos p
  refine ⟨?_, ?_⟩
  · intro q c hqc hc hcp
    rw [swp_size] at hc
    by_cases hcpos : c = pos
    · subst hcpos
      rw [hpp.parent_eq hqc, eL, eR]; exact Int.le_of_lt hlt
    · rw [eO c hcpos hcp]
      by_cases hq1 : q = pos
      · subst hq1
        rw [eL]
        exact hb p c hpp hqc hc
      · by_cases hq2 : q = p
        · subst hq2
          rw [eR]
          exact Int.le_trans (Int.le_of_lt hlt) (ha q c hqc hc hcpos)
        · rw [eO q hq1 hq2]; exact ha q c hqc hc hcpos
  · intro g c hgp hpc hc
    rw [swp_size] at hc
    have hgp' := ha g p hgp hps (Nat.ne_of_lt hpp.lt)
    rw [eO g (Nat.ne_of_lt (Nat.lt_trans hgp.lt hpp.lt)) (Nat.ne_of_lt hgp.lt)]
    by_cases hcpos : c = pos
    · subst hcpos
      rw [eL]
      exact hgp'
    · rw [eO c hcpos (Nat.ne_of_gt hpc.lt)]; exact Int.le_trans hgp' (ha p c hpc hc hcpos)

theorem siftUp_ord : ∀ (fuel : Nat) (a : Array Tree) (pos : Nat), UpInv a pos → pos < a.size → pos ≤ fuel →
    HeapOrd (siftUp 0 fuel a pos) := by
  intro fuel
  induction fuel with
  | zero =>
    intro a pos h _ hf
    exact h.heapOrd fun p hp => absurd hp.lt (by omega)
  | succ fuel ih =>
    intro a pos h hp hf
    simp only [siftUp]
    split
    · next hpos =>
      have hpar := child_parent hpos
      split
      · next hle =>
        refine h.heapOrd fun q hq => ?_
        rwa [hpar.parent_eq hq]
      · next hlt =>
        exact ih _ _ (upInv_step a pos _ h hp hpar (Int.lt_of_not_ge hlt)) (by rw [swp_size]; exact Nat.lt_trans hpar.lt hp)
          (Nat.le_of_lt_succ (Nat.lt_of_lt_of_le hpar.lt hf))
    · next hpos => exact h.heapOrd fun p hp => absurd hp.lt (by omega)

theorem heapPush_ord (a : Array Tree) (x : Tree) (h : HeapOrd a) : HeapOrd (heapPush a x) := by
  refine siftUp_ord _ _ _ ⟨?_, ?_⟩ (by rw [Array.size_push]; exact Nat.lt_succ_self _) (Nat.le_succ _)
  · intro p c hpc hc hcp
    rw [Array.size_push] at hc
    have hc' : c < a.size := by omega
    rw [fr_push_lt a x p (Nat.lt_trans hpc.lt hc'), fr_push_lt a x c hc']
    exact h p c hpc hc'
  · intro g c _ hsc hc
    rw [Array.size_push] at hc
    exact absurd hsc.lt (by omega)

/-- all edges that do not touch `pos` hold; the parent of `pos` is below the children of `pos` -/
def DownInv (a : Array Tree) (pos : Nat) : Prop :=
  (∀ p c, Child p c → c < a.size → c ≠ pos → p ≠ pos → fr a p ≤ fr a c) ∧
  (∀ g c, Child g pos → Child pos c → c < a.size → fr a g ≤ fr a c)

theorem downInv_leaf (a : Array Tree) (pos : Nat) (h : DownInv a pos) (hl : a.size ≤ 2 * pos + 1) :
    UpInv a pos :=
  ⟨fun p c hpc hc hcp => h.1 p c hpc hc hcp fun hp => by have := hpc.lo; omega, h.2⟩

theorem downInv_step (a : Array Tree) (pos c : Nat) (h : DownInv a pos) (hc : c < a.size) (hpc : Child pos c)
    (hmin : ∀ j, Child pos j → j < a.size → fr a c ≤ fr a j) : DownInv (swp a pos c) c := by
  obtain ⟨ha, hb⟩ := h
  have hp : pos < a.size := Nat.lt_trans hpc.lt hc
  have eL := fr_swp_left a pos c hp hc
  have eO := fr_swp_other a pos c
  refine ⟨?_, ?_⟩
  · intro q j hqj hj hjc hqc
    rw [swp_size] at hj
    by_cases hjp : j = pos
    · subst hjp
      rw [eL, eO q (Nat.ne_of_lt hqj.lt) hqc]
      exact hb q c hqj hpc hc
    · rw [eO j hjp hjc]
      by_cases hq : q = pos
      · subst hq
        rw [eL]
        exact hmin j hqj hj
      · rw [eO q hq hqc]; exact ha q j hqj hj hjp hq
  · intro g j hgc hcj hj
    rw [swp_size] at hj
    rw [hpc.parent_eq hgc, eL, eO j (Nat.ne_of_gt (Nat.lt_trans hpc.lt hcj.lt)) (Nat.ne_of_gt hcj.lt)]
    exact ha c j hcj hj (Nat.ne_of_gt (Nat.lt_trans hpc.lt hcj.lt)) (Nat.ne_of_gt hpc.lt)

theorem siftDownLoop_inv (n : Nat) : ∀ (fuel : Nat) (a : Array Tree) (pos : Nat), a.size = n → DownInv a pos →
    pos < n → n ≤ pos + fuel → UpInv (siftDownLoop n fuel a pos).1 (siftDownLoop n fuel a pos).2 := by
  intro fuel
  induction fuel with
  | zero => intro a pos _ _ hp hf; omega
  | succ fuel ih =>
    intro a pos hn h hp hf
    simp only [siftDownLoop]
    split
    · next h2 =>
      -- two children: `c` is the one of smaller frequency (the right one on ties)
      generalize hcdef : (if fr a (2 * pos + 1 + 1) ≤ fr a (2 * pos + 1) then 2 * pos + 1 + 1 else 2 * pos + 1) = c
      have hc : Child pos c ∧ fr a c ≤ fr a (2 * pos + 1) ∧ fr a c ≤ fr a (2 * pos + 1 + 1) := by
        rw [← hcdef]; split
        · next hle => exact ⟨⟨Nat.le_succ _, Nat.le_refl _⟩, hle, Int.le_refl _⟩
        · next hgt => exact ⟨⟨Nat.le_refl _, Nat.le_succ _⟩, Int.le_refl _, Int.le_of_lt (Int.lt_of_not_ge hgt)⟩
      have hcn : c < a.size := by have := hc.1.hi; omega
      refine ih _ c (by rw [swp_size]; exact hn) ?_ (hn ▸ hcn) (by have := hc.1.lo; omega)
      refine downInv_step a pos c h hcn hc.1 fun j hj _ => ?_
      rcases hj.eq_or with rfl | rfl
      · exact hc.2.1
      · exact hc.2.2
    · next h2 =>
      split
      · next h3 =>
        have hcn : 2 * pos + 1 < a.size := by omega
        refine downInv_leaf _ _ ?_ (by rw [swp_size]; omega)
        refine downInv_step a pos _ h hcn ⟨Nat.le_refl _, Nat.le_succ _⟩ fun j hj hjn => ?_
        rcases hj.eq_or with rfl | rfl
        · exact Int.le_refl _
        · omega
      · next h3 =>
        exact downInv_leaf a pos h (by omega)

theorem siftDownToBottom_ord (a : Array Tree) (h : DownInv a 0) (h0 : 0 < a.size) :
    HeapOrd (siftDownToBottom a 0) := by
  unfold siftDownToBottom
  have h2 := siftDownLoop_pos a.size a.size a 0 h0
  exact siftUp_ord _ _ _ (siftDownLoop_inv a.size a.size a 0 rfl h h0 (Nat.le_add_left _ _))
    (by rw [(siftDownLoop_perm _ _ _ _).size_eq]; exact h2) (Nat.le_of_lt h2)

theorem fr_of_lt (a : Array Tree) (i : Nat) (hi : i < a.size) : fr a i = a[i].freq :=
  congrArg Tree.freq (gt_eq_getElem a i hi)

theorem fr_set_ne (a : Array Tree) (x : Tree) (i j : Nat) (hij : i ≠ j) :
    fr (a.setIfInBounds i x) j = fr a j :=
  congrArg Tree.freq (gt_st_ne a i j x hij)

theorem heapPop_ord (a : Array Tree) (x : Tree) (a' : Array Tree) (h : HeapOrd a) (hp : heapPop a = some (x, a')) :
    HeapOrd a' ∧ ∀ z ∈ a.toList, x.freq ≤ z.freq := by
  suffices h' : HeapOrd a' ∧ x.freq = fr a 0 by
    refine ⟨h'.1, fun z hz => ?_⟩
    obtain ⟨i, hi, rfl⟩ := List.getElem_of_mem hz
    rw [h'.2, Array.getElem_toList, ← fr_of_lt a i hi]
    exact heapOrd_root_min a h i hi
  rcases Nat.eq_zero_or_pos a.size with h0 | h0
  · rw [Array.eq_empty_of_size_eq_zero h0] at hp
    cases hp
  · obtain ⟨d, item, rfl⟩ := Array.eq_push_of_size_ne_zero (Nat.ne_of_gt h0)
    rw [heapPop_push] at hp
    by_cases hd : d.size > 0
    · obtain ⟨rfl, rfl⟩ := Prod.mk.inj (Option.some.inj (if_pos hd ▸ hp))
      refine ⟨siftDownToBottom_ord _ ⟨?_, fun g c hg _ => absurd hg.lt (Nat.not_lt_zero _)⟩
        (by rw [Array.size_setIfInBounds]; exact hd), (fr_push_lt d item 0 hd).symm⟩
      intro p c hpc hc hc0 hp0
      rw [Array.size_setIfInBounds] at hc
      rw [fr_set_ne _ _ _ _ (Ne.symm hp0), fr_set_ne _ _ _ _ (Ne.symm hc0),
        ← fr_push_lt d item p (Nat.lt_trans hpc.lt hc), ← fr_push_lt d item c hc]
      exact h p c hpc (by rw [Array.size_push]; exact Nat.lt_succ_of_lt hc)
    · obtain ⟨rfl, rfl⟩ := Prod.mk.inj (Option.some.inj (if_neg hd ▸ hp))
      obtain rfl : d = #[] := Array.eq_empty_of_size_eq_zero (Nat.eq_zero_of_not_pos hd)
      exact ⟨heapOrd_empty, rfl⟩

example : HeapOrd (heapPush (heapPush (heapPush (heapPush #[] (.leaf 0 5)) (.leaf 1 3)) (.leaf 2 9)) (.leaf 3 1)) :=
  heapPush_ord _ _ (heapPush_ord _ _ (heapPush_ord _ _ (heapPush_ord _ _ heapOrd_empty)))

theorem buildHeap_ord (v : List (Nat × Int)) : HeapOrd (buildHeap v) :=
  List.foldlRecOn (motive := HeapOrd) _ _ heapOrd_empty fun a h x _ => heapPush_ord a x h

theorem fromUnsorted_cost (v : List (Nat × Int)) (book : Book) (hnd : (v.map (·.1)).Nodup)
    (h : fromUnsorted v = some book) : cost v book = optCost (v.map (·.2)) := by
  refine bookOf_cost hnd (fun h0 root hr => ?_) (fromUnsorted_eq v ▸ h)
  obtain ⟨t, et, pt, b, ⟨_, g⟩, hb⟩ := unsortedTree_some (fun a => HeapOrd a ∧ Good v a.toList)
    (fun {a a1 a2 x y} ⟨ho, g⟩ e1 e2 p1 p2 =>
      have ⟨ho1, hx⟩ := heapPop_ord a x a1 ho e1
      have ⟨ho2, hy⟩ := heapPop_ord a1 y a2 ho1 e2
      ⟨heapPush_ord _ _ ho2, g.merge ((List.Perm.cons x p2).trans p1).symm (heapPush_perm a2 _)
        (hx y (p1.subset (List.mem_cons_of_mem _ (p2.subset List.mem_cons_self))))
        fun r hr => hy r (p2.subset (List.mem_cons_of_mem _ hr))⟩)
    v h0 ⟨buildHeap_ord v, (Good.init v).perm (buildHeap_perm v).symm⟩
  exact Option.some.inj (et.symm.trans hr) ▸ ⟨hb ▸ g, pt⟩

end Tbx.Huffman
