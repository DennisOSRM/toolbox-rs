import Tbx.Model.InertialFlow
import Tbx.Spec.Bisection
/-
C03: the renumbering table of `sub_step`.

  `TWF t cur S T`   the table maps exactly S to 0, exactly T to 1, every other bound key to a number in
                    [2, cur), injectively
  `renum_spec`      the loop over the edges keeps `TWF`, only ADDS bindings (so the numbers written into
                    the edges earlier stay valid: `ext_get`, 4th conjunct of `renum_spec`), binds exactly the old
                    keys and the end points of the edges, and takes at most two new numbers per edge
-/
namespace Tbx.InertialFlow
open Tbx Tbx.Flow

theorem find_set (t : Table) (k v x : Nat) :
    (t.set k v).find x = if k = x then some v else t.find x := rfl

theorem find_setAll (v : Nat) : ∀ (l : List Nat) (t : Table) (x : Nat),
    (setAll t v l).find x = if x ∈ l then some v else t.find x := by
  intro l
  induction l with
  | nil => intro t x; simp [setAll]
  | cons s rest ih =>
    intro t x
    rw [setAll, ih, find_set]
    by_cases h1 : x ∈ rest
    · simp [h1]
    · by_cases h2 : s = x
      · subst h2; simp
      · have : x ≠ s := fun h => h2 h.symm
        simp [h1, h2, this]

theorem containsKey_iff (t : Table) (x : Nat) : t.containsKey x = true ↔ ∃ p, t.find x = some p := by
  unfold Table.containsKey
  cases t.find x <;> simp

theorem get_of_find {t : Table} {x p : Nat} (h : t.find x = some p) : t.get x = p := by
  unfold Table.get; rw [h]; rfl

theorem find_of_containsKey {t : Table} {x : Nat} (h : t.containsKey x = true) : t.find x = some (t.get x) := by
  obtain ⟨p, hp⟩ := (containsKey_iff t x).mp h
  rw [hp, get_of_find hp]

structure TWF (t : Table) (cur : Nat) (S T : List Nat) : Prop where
  zero : ∀ x, t.find x = some 0 ↔ x ∈ S
  one : ∀ x, t.find x = some 1 ↔ x ∈ T
  lt : ∀ x p, t.find x = some p → p < cur
  inj : ∀ x y p, 2 ≤ p → t.find x = some p → t.find y = some p → x = y
  cur2 : 2 ≤ cur

theorem TWF.containsKey_two {t : Table} {S T : List Nat} (h : TWF t 2 S T) (y : Nat) :
    t.containsKey y = true ↔ y ∈ S ∨ y ∈ T := by
  rw [containsKey_iff, ← h.zero, ← h.one]
  constructor
  · rintro ⟨p, hp⟩
    have := h.lt y p hp
    obtain rfl | rfl : p = 0 ∨ p = 1 := by omega
    · exact Or.inl hp
    · exact Or.inr hp
  · rintro (hp | hp)
    · exact ⟨0, hp⟩
    · exact ⟨1, hp⟩

def Ext (t t' : Table) : Prop := ∀ x p, t.find x = some p → t'.find x = some p

theorem Ext.refl (t : Table) : Ext t t := fun _ _ h => h
theorem Ext.trans {a b c : Table} (h1 : Ext a b) (h2 : Ext b c) : Ext a c :=
  fun x p h => h2 x p (h1 x p h)

/-- the table after the two `for` loops over the contracted ends -/
theorem twf_init (S T : List Nat) (hdisj : ∀ x, x ∈ S → x ∉ T) :
    TWF (setAll (setAll [] 0 S) 1 T) 2 S T := by
  have hf : ∀ x, (setAll (setAll [] 0 S) 1 T).find x =
      if x ∈ T then some 1 else if x ∈ S then some 0 else none := by
    intro x; rw [find_setAll, find_setAll]; rfl
  refine ⟨?_, ?_, ?_, ?_, Nat.le_refl 2⟩
  · intro x; rw [hf]
    by_cases ht : x ∈ T
    · simp only [ht, ↓reduceIte]
      constructor
      · intro h; cases h
      · intro hs; exact absurd ht (hdisj x hs)
    · by_cases hs : x ∈ S <;> simp [ht, hs]
  · intro x; rw [hf]
    by_cases ht : x ∈ T
    · simp [ht]
    · by_cases hs : x ∈ S <;> simp [ht, hs]
  · intro x p; rw [hf]
    by_cases ht : x ∈ T
    · simp only [ht, ↓reduceIte]; intro h; cases h; omega
    · by_cases hs : x ∈ S
      · simp only [ht, hs, ↓reduceIte]; intro h; cases h; omega
      · simp [ht, hs]
  · intro x y p hp hx _
    rw [hf] at hx
    by_cases ht : x ∈ T
    · simp only [ht, ↓reduceIte] at hx; cases hx; omega
    · by_cases hs : x ∈ S
      · simp only [ht, hs, ↓reduceIte] at hx; cases hx; omega
      · simp [ht, hs] at hx

theorem find_set_eq_some {t : Table} {x cur y p : Nat} :
    (t.set x cur).find y = some p ↔ (x = y ∧ cur = p) ∨ (x ≠ y ∧ t.find y = some p) := by
  rw [find_set]
  by_cases h : x = y
  · simp [h]
  · simp [h]

theorem TWF.set_fresh {t : Table} {cur x : Nat} {S T : List Nat} (h : TWF t cur S T) (hnone : t.find x = none) :
    TWF (t.set x cur) (cur + 1) S T := by
  have hcur := h.cur2
  have hne : ∀ y p, t.find y = some p → x ≠ y := fun y p hy e => by rw [← e, hnone] at hy; cases hy
  refine ⟨fun y => ?_, fun y => ?_, fun y p hy => ?_, fun y z p hp hy hz => ?_, by omega⟩
  · rw [find_set_eq_some, ← h.zero y]
    exact ⟨fun h' => h'.elim (fun e => by omega) (·.2), fun h' => Or.inr ⟨hne y 0 h', h'⟩⟩
  · rw [find_set_eq_some, ← h.one y]
    exact ⟨fun h' => h'.elim (fun e => by omega) (·.2), fun h' => Or.inr ⟨hne y 1 h', h'⟩⟩
  · rcases find_set_eq_some.mp hy with ⟨_, rfl⟩ | ⟨_, hy⟩
    · exact Nat.lt_succ_self _
    · exact Nat.lt_succ_of_lt (h.lt y p hy)
  · rcases find_set_eq_some.mp hy with ⟨rfl, rfl⟩ | ⟨_, hy⟩ <;>
      rcases find_set_eq_some.mp hz with ⟨rfl, e⟩ | ⟨_, hz⟩
    · rfl
    · exact absurd (h.lt z _ hz) (Nat.lt_irrefl _)
    · exact absurd (h.lt y _ hy) (by omega)
    · exact h.inj y z p hp hy hz

/-- one `if !contains_key(x) { set(x, current_id); current_id += 1 }` -/
theorem touch_spec (tc : Table × Nat) (S T : List Nat) (x : Nat) (h : TWF tc.1 tc.2 S T) :
    TWF (touch tc x).1 (touch tc x).2 S T ∧ Ext tc.1 (touch tc x).1 ∧
    (∀ y, (touch tc x).1.containsKey y = true ↔ (tc.1.containsKey y = true ∨ y = x)) ∧
    (touch tc x).2 ≤ tc.2 + 1 := by
  by_cases hc : tc.1.containsKey x = true
  · have hpos : touch tc x = tc := by unfold touch; simp [hc]
    rw [hpos]
    exact ⟨h, Ext.refl _, fun y => ⟨Or.inl, fun h' => h'.elim id (· ▸ hc)⟩, Nat.le_succ _⟩
  · have hneg : touch tc x = (tc.1.set x tc.2, tc.2 + 1) := by unfold touch; simp [hc]
    rw [hneg]
    have hnone : tc.1.find x = none := by
      cases hf : tc.1.find x with
      | none => rfl
      | some p => exact absurd ((containsKey_iff _ x).mpr ⟨p, hf⟩) hc
    have hne : ∀ y p, tc.1.find y = some p → x ≠ y := fun y p hy e => by rw [← e, hnone] at hy; cases hy
    refine ⟨h.set_fresh hnone, fun y p hy => find_set_eq_some.mpr (Or.inr ⟨hne y p hy, hy⟩), fun y => ?_,
      Nat.le_refl _⟩
    simp only [containsKey_iff, find_set_eq_some]
    constructor
    · rintro ⟨p, ⟨e, _⟩ | ⟨_, hp⟩⟩
      · exact Or.inr e.symm
      · exact Or.inl ⟨p, hp⟩
    · rintro (⟨p, hp⟩ | rfl)
      · exact ⟨p, Or.inr ⟨hne y p hp, hp⟩⟩
      · exact ⟨tc.2, Or.inl ⟨rfl, rfl⟩⟩

theorem ext_get {t t' : Table} (he : Ext t t') {x : Nat} (hc : t.containsKey x = true) :
    t'.get x = t.get x := by
  obtain ⟨p, hp⟩ := (containsKey_iff t x).mp hc
  rw [get_of_find hp, get_of_find (he x p hp)]

theorem ext_contains {t t' : Table} (he : Ext t t') {x : Nat} (hc : t.containsKey x = true) :
    t'.containsKey x = true := by
  obtain ⟨p, hp⟩ := (containsKey_iff t x).mp hc
  exact (containsKey_iff t' x).mpr ⟨p, he x p hp⟩

theorem renum_spec (S T : List Nat) : ∀ (edges : List (Nat × Nat)) (t : Table) (cur : Nat),
    TWF t cur S T →
    TWF (renumLoop t cur edges).1 (renumLoop t cur edges).2.1 S T ∧
    Ext t (renumLoop t cur edges).1 ∧
    (∀ y, (renumLoop t cur edges).1.containsKey y = true ↔
      (t.containsKey y = true ∨ Bisection.touched edges y = true)) ∧
    (renumLoop t cur edges).2.2 =
      edges.map (fun e => { src := (renumLoop t cur edges).1.get e.1,
                            tgt := (renumLoop t cur edges).1.get e.2, cap := 1 }) ∧
    (renumLoop t cur edges).2.1 ≤ cur + 2 * edges.length := by
  intro edges
  induction edges with
  | nil =>
    intro t cur h
    refine ⟨h, Ext.refl t, ?_, rfl, Nat.le_refl _⟩
    intro y; simp [renumLoop, Bisection.touched]
  | cons e rest ih =>
    intro t cur h
    obtain ⟨u, v⟩ := e
    obtain ⟨w1, e1, d1, l1⟩ := touch_spec (t, cur) S T u h
    obtain ⟨w2, e2, d2, l2⟩ := touch_spec (touch (t, cur) u) S T v w1
    obtain ⟨w3, e3, d3, r3, l3⟩ := ih _ _ w2
    simp only [renumLoop]
    refine ⟨w3, Ext.trans e1 (Ext.trans e2 e3), ?_, ?_, ?_⟩
    · intro y
      rw [d3, d2, d1]
      simp only [Bisection.touched, List.any_cons, Bool.or_eq_true, beq_iff_eq, or_assoc, eq_comm (a := y)]
    · rw [List.map_cons, ← r3, ext_get e3 (ext_contains e2 ((d1 u).mpr (Or.inr rfl))),
        ext_get e3 ((d2 v).mpr (Or.inr rfl))]
    · simp only [List.length_cons]; omega

end Tbx.InertialFlow
