import Tbx.Model.LoserTree
import Tbx.Proofs.SumTo
/-
The tournament invariant of the loser tree (for every number of leaves n ≥ 1, power of two or not):
every internal node holds a leaf of its own subtree that wins the subtree (it is live whenever any
leaf of the subtree is live, with a minimal item).  `rebuild_path` re-establishes it along the path
from a changed leaf to the root.
-/
namespace Tbx.LoserTree
open Tbx

/-- `Anc v u`: node v is u itself or an ancestor of u in the heap numbering (parent of u = (u-1)/2) -/
inductive Anc : Nat → Nat → Prop
  | refl (u : Nat) : Anc u u
  | up {v u : Nat} : 0 < u → Anc v ((u - 1) / 2) → Anc v u

theorem anc_le {v u : Nat} (h : Anc v u) : v ≤ u := by
  induction h with
  | refl => exact Nat.le_refl _
  | up hu _ ih => omega

theorem anc_of_child {p c u : Nat} (hc : c = 2 * p + 1 ∨ c = 2 * p + 2) (h : Anc c u) : Anc p u := by
  induction h with
  | refl =>
    rcases hc with rfl | rfl
    · exact Anc.up (Nat.succ_pos _) (by
        rw [Nat.add_sub_cancel, Nat.mul_div_cancel_left p (by decide)]; exact Anc.refl p)
    · exact Anc.up (Nat.succ_pos _) (by
        rw [show 2 * p + 2 - 1 = 2 * p + 1 from rfl, Nat.mul_add_div (by decide)]; exact Anc.refl p)
  | up hu _ ih => exact Anc.up hu ih

theorem anc_child {p u : Nat} (h : Anc p u) : u = p ∨ Anc (2 * p + 1) u ∨ Anc (2 * p + 2) u := by
  induction h with
  | refl => exact Or.inl rfl
  | @up u hu _ ih =>
    rcases ih with h | h | h
    · -- the parent of u is p: u is one of the two children
      have : u = 2 * p + 1 ∨ u = 2 * p + 2 := by omega
      rcases this with h' | h'
      · right; left; rw [h']; exact Anc.refl _
      · right; right; rw [h']; exact Anc.refl _
    · right; left; exact Anc.up hu h
    · right; right; exact Anc.up hu h

theorem anc_strict {v u : Nat} (h : Anc v u) (hne : u ≠ v) : 2 * v + 1 ≤ u := by
  rcases anc_child h with h | h | h
  · exact absurd h hne
  · exact anc_le h
  · have := anc_le h; omega

theorem anc_root (u : Nat) : Anc 0 u := by
  induction u using Nat.strongRecOn with
  | ind u ih =>
    by_cases h : u = 0
    · subst h; exact Anc.refl 0
    · exact Anc.up (by omega) (ih ((u - 1) / 2) (by omega))

/-- leaf l wins the subtree of node v (n leaves) -/
def Wins (lv : Array (Option Entry)) (n v l : Nat) : Prop :=
  l < n ∧ Anc v (l + (n - 1)) ∧
  ∀ j e, j < n → Anc v (j + (n - 1)) → gt lv j = some e → ∃ e', gt lv l = some e' ∧ e'.item ≤ e.item

/-- node v (internal or leaf) stands for a leaf that wins its subtree -/
def Good (lv : Array (Option Entry)) (ls : Array Nat) (n v : Nat) : Prop :=
  Wins lv n v (nodeVal ls (n - 1) v)

theorem good_leaf (lv : Array (Option Entry)) (ls : Array Nat) (n v : Nat)
    (h1 : n - 1 ≤ v) (h2 : v ≤ 2 * n - 2) (hn : 0 < n) : Good lv ls n v := by
  obtain ⟨j0, rfl⟩ : ∃ j0, v = j0 + (n - 1) := ⟨v - (n - 1), by omega⟩
  unfold Good Wins nodeVal
  rw [if_pos (Nat.le_add_left _ _), Nat.add_sub_cancel]
  refine ⟨by omega, Anc.refl _, ?_⟩
  intro j e hj ha hg
  have : j = j0 := by
    apply Classical.byContradiction
    intro hne
    have := anc_strict ha (fun h => hne (Nat.add_right_cancel h))
    omega
  subst this
  exact ⟨e, hg, Int.le_refl _⟩

theorem wins_match (lv : Array (Option Entry)) (n p c1 c2 l1 l2 : Nat) (hp : p < n - 1)
    (hc : (c1 = 2 * p + 1 ∧ c2 = 2 * p + 2) ∨ (c1 = 2 * p + 2 ∧ c2 = 2 * p + 1))
    (h1 : Wins lv n c1 l1) (h2 : Wins lv n c2 l2) : Wins lv n p (playMatch lv l1 l2) := by
  obtain ⟨hl1, ha1, hw1⟩ := h1
  obtain ⟨hl2, ha2, hw2⟩ := h2
  have hup1 : Anc p (l1 + (n - 1)) := anc_of_child (hc.elim (fun h => .inl h.1) (fun h => .inr h.1)) ha1
  have hup2 : Anc p (l2 + (n - 1)) := anc_of_child (hc.elim (fun h => .inr h.2) (fun h => .inl h.2)) ha2
  have hsplit : ∀ j, j < n → Anc p (j + (n - 1)) → Anc c1 (j + (n - 1)) ∨ Anc c2 (j + (n - 1)) := by
    intro j _ ha
    have h := (anc_child ha).resolve_left (by omega)
    rcases hc with ⟨rfl, rfl⟩ | ⟨rfl, rfl⟩
    · exact h
    · exact h.symm
  unfold playMatch
  cases hg1 : gt lv l1 with
  | none =>
    show Wins lv n p l2
    refine ⟨hl2, hup2, ?_⟩
    intro j e hj ha hg
    rcases hsplit j hj ha with h | h
    · obtain ⟨e', he', _⟩ := hw1 j e hj h hg
      rw [hg1] at he'; cases he'
    · exact hw2 j e hj h hg
  | some v1 =>
    cases hg2 : gt lv l2 with
    | none =>
      show Wins lv n p l1
      refine ⟨hl1, hup1, ?_⟩
      intro j e hj ha hg
      rcases hsplit j hj ha with h | h
      · exact hw1 j e hj h hg
      · obtain ⟨e', he', _⟩ := hw2 j e hj h hg
        rw [hg2] at he'; cases he'
    | some v2 =>
      show Wins lv n p (if v1.item < v2.item then l1 else l2)
      split
      · rename_i hlt
        refine ⟨hl1, hup1, ?_⟩
        intro j e hj ha hg
        refine ⟨v1, hg1, ?_⟩
        rcases hsplit j hj ha with h | h
        · obtain ⟨e', he', hle⟩ := hw1 j e hj h hg
          rw [hg1] at he'; cases he'; exact hle
        · obtain ⟨e', he', hle⟩ := hw2 j e hj h hg
          rw [hg2] at he'; cases he'; omega
      · rename_i hlt
        refine ⟨hl2, hup2, ?_⟩
        intro j e hj ha hg
        refine ⟨v2, hg2, ?_⟩
        rcases hsplit j hj ha with h | h
        · obtain ⟨e', he', hle⟩ := hw1 j e hj h hg
          rw [hg1] at he'; cases he'; omega
        · obtain ⟨e', he', hle⟩ := hw2 j e hj h hg
          rw [hg2] at he'; cases he'; exact hle

theorem nodeVal_st_ne (ls : Array Nat) (internal p w v : Nat) (h : v ≠ p) :
    nodeVal (st ls p w) internal v = nodeVal ls internal v := by
  unfold nodeVal
  split
  · rfl
  · exact gt_st_ne ls p v w (fun h' => h h'.symm)

theorem parent_sibling (i : Nat) (hi : 0 < i) :
    (i = 2 * ((i - 1) / 2) + 1 ∧ (if i % 2 = 0 then i - 1 else i + 1) = 2 * ((i - 1) / 2) + 2) ∨
    (i = 2 * ((i - 1) / 2) + 2 ∧ (if i % 2 = 0 then i - 1 else i + 1) = 2 * ((i - 1) / 2) + 1) := by
  obtain ⟨q, rfl | rfl⟩ : ∃ q, i = 2 * q + 1 ∨ i = 2 * q + 2 := ⟨(i - 1) / 2, by omega⟩
  · rw [if_neg (by omega), Nat.add_sub_cancel, Nat.mul_div_cancel_left q (by decide)]
    exact Or.inl ⟨rfl, rfl⟩
  · rw [if_pos (by omega), show 2 * q + 2 - 1 = 2 * q + 1 from rfl, Nat.mul_add_div (by decide)]
    exact Or.inr ⟨rfl, rfl⟩

/-- the walk from `i` up to the root replays the match at every node it passes.  Entering `i`, every internal node
    is good except possibly the proper ancestors of `i` (`H`); at the root there are none left -/
theorem rebuildLoop_spec (lv : Array (Option Entry)) (n : Nat) (hn : 0 < n) (fuel : Nat) (ls : Array Nat) (i : Nat)
    (hsz : ls.size = n - 1) (hi : i ≤ 2 * n - 2) (hf : i ≤ fuel)
    (H : ∀ v, v < n - 1 → ¬ (Anc v i ∧ v ≠ i) → Good lv ls n v) :
    (rebuildLoop lv (n - 1) fuel ls i).size = n - 1 ∧
    ∀ v, v < n - 1 → Good lv (rebuildLoop lv (n - 1) fuel ls i) n v := by
  have done : ∀ ls : Array Nat, ls.size = n - 1 → (∀ v, v < n - 1 → ¬ (Anc v 0 ∧ v ≠ 0) → Good lv ls n v) →
      ls.size = n - 1 ∧ ∀ v, v < n - 1 → Good lv ls n v := by
    intro ls hsz H
    refine ⟨hsz, fun v hv => H v hv ?_⟩
    rintro ⟨ha, hne⟩
    exact hne (Nat.le_zero.mp (anc_le ha))
  induction fuel generalizing ls i with
  | zero =>
    have hi0 : i = 0 := Nat.le_zero.mp hf
    subst hi0
    exact done ls hsz H
  | succ fuel ih =>
    unfold rebuildLoop
    by_cases hpos : i > 0
    · rw [if_pos hpos]
      have hc := parent_sibling i hpos
      generalize (if i % 2 = 0 then i - 1 else i + 1) = s at hc ⊢
      generalize hpd : (i - 1) / 2 = p at hc ⊢
      have hs3 : ¬ (Anc s i ∧ s ≠ i) := by
        rintro ⟨ha, hne⟩
        have := anc_strict ha (Ne.symm hne)
        have := anc_le ha
        omega
      have hp : p < n - 1 := by omega
      have goodAt : ∀ u, u ≤ 2 * n - 2 → ¬ (Anc u i ∧ u ≠ i) → Good lv ls n u := by
        intro u hu hna
        by_cases hint : u < n - 1
        · exact H u hint hna
        · exact good_leaf lv ls n u (Nat.le_of_not_lt hint) hu hn
      have gp := wins_match lv n p i s _ _ hp hc (goodAt i hi (fun h => h.2 rfl)) (goodAt s (by omega) hs3)
      refine ih (st ls p _) p (by rw [size_st, hsz]) (by omega) (by omega) ?_
      intro v hv hna
      by_cases hvp : v = p
      · subst hvp
        unfold Good nodeVal
        rw [if_neg (Nat.not_le.mpr hp), gt_st_eq _ _ _ (by rw [hsz]; exact hp)]
        exact gp
      · have hold : Good lv ls n v := by
          apply H v hv
          rintro ⟨ha, hne⟩
          cases ha with
          | refl => exact hne rfl
          | up _ hap => rw [hpd] at hap; exact hna ⟨hap, hvp⟩
        unfold Good at hold ⊢
        rw [nodeVal_st_ne _ _ _ _ _ hvp]
        exact hold
    · have hi0 : i = 0 := Nat.eq_zero_of_not_pos hpos
      subst hi0
      rw [if_neg hpos]
      exact done ls hsz H


def cnt (lv : Array (Option Entry)) : Nat → Nat
  | 0 => 0
  | k + 1 => cnt lv k + (if (gt lv k).isSome then 1 else 0)

def live (lv : Array (Option Entry)) : Nat := cnt lv lv.size

theorem cnt_eq (lv : Array (Option Entry)) : ∀ k, cnt lv k = cntTo (fun i => (gt lv i).isSome) k
  | 0 => rfl
  | k + 1 => congrArg (· + _) (cnt_eq lv k)

theorem cnt_st_lt (lv : Array (Option Entry)) (i : Nat) (x : Option Entry) (k : Nat) (h : i < k)
    (hi : i < lv.size) :
    cnt (st lv i x) k + (if (gt lv i).isSome then 1 else 0) = cnt lv k + (if x.isSome then 1 else 0) := by
  rw [cnt_eq, cnt_eq]; exact sumTo_st (fun y => if y.isSome then 1 else 0) lv i x k h hi

theorem cnt_none (lv : Array (Option Entry)) (h : ∀ j, gt lv j = none) (k : Nat) : cnt lv k = 0 := by
  rw [cnt_eq]; exact cntTo_none _ k fun i _ => by rw [h i]; exact Bool.false_ne_true

structure Inv (t : Tree) : Prop where
  npos : 0 < t.leaves.size
  lsz : t.losers.size = t.leaves.size - 1
  good : ∀ v, v < t.leaves.size - 1 → Good t.leaves t.losers t.leaves.size v
  /-- `winner` is live whenever anything is live, with a minimal item -/
  win : t.winner < t.leaves.size ∧
        ∀ j e, gt t.leaves j = some e → ∃ e', gt t.leaves t.winner = some e' ∧ e'.item ≤ e.item
  idx : ∀ j e, gt t.leaves j = some e → e.index = j
  size : t.size = live t.leaves

theorem good_st (lv : Array (Option Entry)) (ls : Array Nat) (n v i : Nat) (x : Option Entry)
    (hg : Good lv ls n v) (hna : ¬ Anc v (i + (n - 1))) : Good (st lv i x) ls n v := by
  obtain ⟨h1, h2, h3⟩ := hg
  refine ⟨h1, h2, ?_⟩
  intro j e hj ha hgj
  have hji : i ≠ j := fun h => hna (h ▸ ha)
  have hli : i ≠ nodeVal ls (n - 1) v := fun h => hna (h ▸ h2)
  rw [gt_st_ne lv i j x hji] at hgj
  rw [gt_st_ne lv i _ x hli]
  exact h3 j e hj ha hgj

theorem lt_size_of_live {lv : Array (Option Entry)} {j : Nat} {e : Entry} (h : gt lv j = some e) : j < lv.size := by
  apply Classical.byContradiction
  intro hn
  rw [gt_of_ge _ _ (Nat.le_of_not_lt hn)] at h
  cases h

theorem rebuildPath_inv (t : Tree) (i : Nat) (hn : 0 < t.leaves.size) (hl : t.losers.size = t.leaves.size - 1)
    (hi : i < t.leaves.size)
    (H : ∀ v, v < t.leaves.size - 1 → ¬ Anc v (i + (t.leaves.size - 1)) → Good t.leaves t.losers t.leaves.size v)
    (hidx : ∀ j e, gt t.leaves j = some e → e.index = j) (hsize : t.size = live t.leaves) :
    Inv (rebuildPath t i) := by
  obtain ⟨hs, hg⟩ := rebuildLoop_spec t.leaves t.leaves.size hn (i + (t.leaves.size - 1)) t.losers
    (i + (t.leaves.size - 1)) hl (by omega) (Nat.le_refl _)
    (fun v hv hna => H v hv (fun ha => hna ⟨ha, Nat.ne_of_lt (Nat.lt_of_lt_of_le hv (Nat.le_add_left _ _))⟩))
  refine ⟨hn, hs, hg, ?_, hidx, hsize⟩
  simp only [rebuildPath]
  generalize rebuildLoop t.leaves (t.leaves.size - 1) (i + (t.leaves.size - 1)) t.losers (i + (t.leaves.size - 1)) = ls' at hs hg ⊢
  by_cases h0 : ls'.size = 0
  · rw [if_pos h0]
    refine ⟨hn, ?_⟩
    intro j e hj
    have : j = 0 := by have := lt_size_of_live hj; omega
    subst this
    exact ⟨e, hj, Int.le_refl _⟩
  · rw [if_neg h0]
    have hpos : 0 < t.leaves.size - 1 := by rw [← hs]; exact Nat.pos_of_ne_zero h0
    have hg0 := hg 0 hpos
    unfold Good nodeVal at hg0
    rw [if_neg (Nat.not_le.mpr hpos)] at hg0
    exact ⟨hg0.1, fun j e hj => hg0.2.2 j e (lt_size_of_live hj) (anc_root _) hj⟩

theorem rebuildPath_with_size (t : Tree) (i k : Nat) :
    rebuildPath { t with size := k } i = { rebuildPath t i with size := k } := rfl

/-- replacing the content of leaf i and rebuilding its path keeps the invariant, when the length is
    adjusted by the change in the number of live leaves -/
theorem rebuild_inv (t : Tree) (hI : Inv t) (i : Nat) (x : Option Entry) (k : Nat) (hi : i < t.leaves.size)
    (hx : ∀ e, x = some e → e.index = i)
    (hk : k + (if (gt t.leaves i).isSome then 1 else 0) = t.size + (if x.isSome then 1 else 0)) :
    Inv (rebuildPath { t with leaves := st t.leaves i x, size := k } i) := by
  have hsz : (st t.leaves i x).size = t.leaves.size := size_st ..
  refine rebuildPath_inv { t with leaves := st t.leaves i x, size := k } i
    (by rw [hsz]; exact hI.npos) (by rw [hsz]; exact hI.lsz) (by rw [hsz]; exact hi)
    (fun v hv hna => by
      rw [hsz] at hv hna ⊢
      exact good_st _ _ _ _ _ _ (hI.good v hv) hna) ?_ ?_
  · intro j e hj
    have hj' : gt (st t.leaves i x) j = some e := hj
    rw [gt_st] at hj'
    split at hj'
    · rename_i h; rw [← h.1]; exact hx e hj'
    · exact hI.idx j e hj'
  · show k = cnt (st t.leaves i x) (st t.leaves i x).size
    have := cnt_st_lt t.leaves i x t.leaves.size hi hi
    have hs : t.size = cnt t.leaves t.leaves.size := hI.size
    rw [hsz]
    omega

/-- `push` sets the length after rebuilding the path, `rebuild_inv` before: `rebuildPath_with_size` moves it across -/
theorem push_spec (t : Tree) (e : Entry) (hI : Inv t) (hi : e.index < t.leaves.size)
    (hfree : gt t.leaves e.index = none) :
    ∃ t', push t e = some t' ∧ Inv t' ∧ t'.leaves = st t.leaves e.index (some e) ∧ t'.size = t.size + 1 :=
  ⟨_, (if_pos hi).trans (congrArg some (rebuildPath_with_size { t with leaves := st t.leaves e.index (some e) }
      e.index (t.size + 1)).symm),
    rebuild_inv t hI e.index (some e) (t.size + 1) hi (fun _ h => by cases h; rfl) (by rw [hfree]; rfl), rfl, rfl⟩

theorem pop_spec (t : Tree) (hI : Inv t) :
    ∃ r t', pop t = some (r, t') ∧ Inv t' ∧
      match r with
      | none => (∀ j, gt t.leaves j = none) ∧ t' = t
      | some e => gt t.leaves e.index = some e ∧ (∀ j e', gt t.leaves j = some e' → e.item ≤ e'.item) ∧
                  t'.leaves = st t.leaves e.index none ∧ t'.size + 1 = t.size := by
  obtain ⟨hw, hmin⟩ := hI.win
  cases hg : gt t.leaves t.winner with
  | none =>
    refine ⟨none, t, by simp only [pop, if_pos hw, hg], hI, ?_, rfl⟩
    intro j
    cases hj : gt t.leaves j with
    | none => rfl
    | some e =>
      obtain ⟨e', he', _⟩ := hmin j e hj
      rw [hg] at he'; cases he'
  | some e =>
    have hidx : e.index = t.winner := hI.idx _ _ hg
    -- the winner is live, so the length is positive
    have hpos : t.size - 1 + 1 = t.size := by
      have := cnt_st_lt t.leaves t.winner none t.leaves.size hw hw
      have hs : t.size = cnt t.leaves t.leaves.size := hI.size
      rw [hg] at this
      simp at this
      omega
    refine ⟨some e, _, by simp only [pop, if_pos hw, hg],
      rebuild_inv t hI t.winner none (t.size - 1) hw (fun _ h => by cases h) (by rw [hg]; exact hpos), ?_⟩
    show gt t.leaves e.index = some e ∧ _
    rw [hidx]
    refine ⟨hg, ?_, rfl, hpos⟩
    intro j e' hj
    obtain ⟨e'', he'', hle⟩ := hmin j e' hj
    rw [hg] at he''; cases he''; exact hle

theorem clear_spec (t : Tree) (hI : Inv t) :
    Inv (clear t) ∧ (∀ j, gt (clear t).leaves j = none) ∧ (clear t).size = 0 ∧
    (clear t).leaves.size = t.leaves.size := by
  have hnone : ∀ j, gt (clear t).leaves j = none := fun j => gt_replicate_default _ j
  refine ⟨⟨?_, ?_, ?_, ?_, ?_, ?_⟩, hnone, rfl, by simp [clear]⟩
  · simp [clear]; exact hI.npos
  · simp [clear]; exact hI.lsz
  · intro v hv
    have hsz : (clear t).leaves.size = t.leaves.size := by simp [clear]
    rw [hsz] at hv ⊢
    obtain ⟨h1, h2, _⟩ := hI.good v hv
    refine ⟨h1, h2, ?_⟩
    intro j e _ _ hj
    rw [hnone j] at hj; cases hj
  · refine ⟨by simp [clear]; exact hI.npos, ?_⟩
    intro j e hj
    rw [hnone j] at hj; cases hj
  · intro j e hj
    rw [hnone j] at hj; cases hj
  · show 0 = live (clear t).leaves
    unfold live
    rw [cnt_none _ hnone]

end Tbx.LoserTree
