import Tbx.Proofs.C16Conn
/-
Graph theory for Kruskal's minimality, phrased with `Conn` only (no explicit paths or cycles).
In a forest `M` connecting `a` and `b`, any equivalence that separates `a` from `b` separates the ends of some
edge `f` of `M` whose removal disconnects `a` from `b` (`crit_cross`); replacing such an `f` by the pair `(a, b)`
gives a forest with the same connectivity (`exchange`, for weighted spanning forests `spanningForest_exchange`).
Hence the cut property (`cut_property`): a spanning forest containing `A` can take in a lightest input edge
between two components of `A` at no higher cost.  Spanning forests are duplicate-free, so they are compared as
sets: one contained in another of the same input has its cost (`subforest_cost`).
-/
namespace Tbx.Comp

theorem acyclic_perm {F F' : Edges} (h : Acyclic F) (hp : F.Perm F') : Acyclic F' := by
  intro e he hc
  have he' : e ∈ F := hp.mem_iff.mpr he
  refine h e he' ?_
  have hpe : (F'.erase e).Perm (F.erase e) := (hp.erase e).symm
  exact hc.mono fun p => hpe.mem_iff.mp

theorem acyclic_erase {M : Edges} (h : Acyclic M) (f : Nat × Nat) : Acyclic (M.erase f) := by
  intro e he hc
  have heM : e ∈ M := List.mem_of_mem_erase he
  refine h e heM (hc.mono ?_)
  intro p hp
  rw [List.erase_comm] at hp
  exact List.mem_of_mem_erase hp

theorem mem_iff_erase_or {M : Edges} {f : Nat × Nat} (hf : f ∈ M) (p : Nat × Nat) : p ∈ M ↔ p ∈ M.erase f ∨ p = f :=
  (List.perm_cons_erase hf).mem_iff.trans (List.mem_cons.trans or_comm)

theorem crit_cross (R : Nat → Nat → Prop) (hr : ∀ x, R x x) (hsym : ∀ {x y}, R x y → R y x)
    (htr : ∀ {x y z}, R x y → R y z → R x z) (M : Edges) (a b : Nat) (hac : Acyclic M) (hc : Conn M a b) (hn : ¬ R a b) :
    ∃ f, f ∈ M ∧ ¬ R f.1 f.2 ∧ ¬ Conn (M.erase f) a b := by
  -- some edge of `M` crosses `R`, or else `R` would contain `Conn M`
  obtain ⟨f, hf, hRf⟩ : ∃ f, f ∈ M ∧ ¬ R f.1 f.2 := Classical.byContradiction fun h =>
    hn (hc.least hr hsym htr fun p hp => Classical.byContradiction fun hp' => h ⟨p, hp, hp'⟩)
  by_cases hab : Conn (M.erase f) a b
  · -- `a` and `b` stay connected without `f`: take the edge `f'` found in the rest; were `a` and `b` connected
    -- without `f'`, it would be through `f` (`hcrit`), which with `hab` connects the ends of `f` without `f`
    obtain ⟨f', hf', hRf', hcrit⟩ := crit_cross R hr hsym htr (M.erase f) a b (acyclic_erase hac f) hab hn
    refine ⟨f', List.mem_of_mem_erase hf', hRf', fun hcon => ?_⟩
    have hne : f ≠ f' := fun h => hac f hf (Conn.of_mem (h ▸ hf'))
    have hsub : ∀ {x y}, Conn ((M.erase f).erase f') x y → Conn (M.erase f) x y :=
      fun h => h.mono fun p hp => List.mem_of_mem_erase hp
    have hq : ∀ p, p ∈ M.erase f' ↔ p ∈ (M.erase f).erase f' ∨ p = (f.1, f.2) :=
      List.erase_comm f' f ▸ mem_iff_erase_or ((List.mem_erase_of_ne hne).mpr hf)
    rw [conn_add hq] at hcon
    rcases hcon with k | ⟨k1, k2⟩ | ⟨k1, k2⟩
    · exact hcrit k
    · exact hac f hf ((hsub k1).symm.trans (hab.trans (hsub k2).symm))
    · exact hac f hf ((hsub k2).trans (hab.symm.trans (hsub k1)))
  · exact ⟨f, hf, hRf, hab⟩
termination_by M.length
decreasing_by
  rw [List.length_erase_of_mem hf]
  exact Nat.sub_lt (List.length_pos_of_mem hf) Nat.one_pos

theorem exchange {M : Edges} {f : Nat × Nat} {a b : Nat} (hac : Acyclic M) (hf : f ∈ M) (hab : Conn M a b)
    (hcrit : ¬ Conn (M.erase f) a b) :
    Acyclic ((a, b) :: M.erase f) ∧ ∀ x y, Conn ((a, b) :: M.erase f) x y ↔ Conn M x y := by
  refine ⟨acyclic_perm (acyclic_snoc (acyclic_erase hac f) hcrit) List.perm_append_comm, ?_⟩
  obtain ⟨c, d⟩ := f
  have hM : ∀ x y, Conn M x y ↔ Join (Conn (M.erase (c, d))) c d x y :=
    fun x y => conn_add (mem_iff_erase_or hf) x y
  have hN : ∀ x y, Conn ((a, b) :: M.erase (c, d)) x y ↔ Join (Conn (M.erase (c, d))) a b x y :=
    fun x y => conn_add (by intro p; simp [or_comm]) x y
  intro x y
  rw [hM, hN]
  rcases (hM a b).mp hab with h | ⟨h1, h2⟩ | ⟨h1, h2⟩
  · exact absurd h hcrit
  · exact (Join.congr_reps (R := Conn (M.erase (c, d))) Conn.symm Conn.trans h1 h2.symm x y).symm
  · exact (Join.congr_reps (R := Conn (M.erase (c, d))) Conn.symm Conn.trans h1 h2.symm x y).symm.trans Join.comm

theorem ends_erase {M : List WEdge} {f : WEdge} (hf : f ∈ M) :
    (ends (M.erase f)).Perm ((ends M).erase (f.1, f.2.1)) :=
  (((List.perm_cons_erase hf).map _).symm.trans (List.perm_cons_erase (mem_ends hf))).cons_inv

theorem cost_erase (M : List WEdge) (f : WEdge) (hf : f ∈ M) : cost (M.erase f) + f.2.2 = cost M :=
  sum_map_erase (fun e : WEdge => e.2.2) M f hf

theorem cost_perm {A B : List WEdge} (h : A.Perm B) : cost A = cost B := by
  have := (h.map (fun e : WEdge => e.2.2)).sum_nat
  simpa [cost] using this

theorem SpanningForest.mem_inp {inp F : List WEdge} (h : SpanningForest inp F) {x : WEdge} (hx : x ∈ F) : x ∈ inp :=
  List.count_pos_iff.mp (Nat.lt_of_lt_of_le (List.count_pos_iff.mpr hx) (h.sub x))

theorem spanningForest_exchange {inp M : List WEdge} {f e : WEdge} (hM : SpanningForest inp M) (he : e ∈ inp)
    (hf : f ∈ M) (hcrit : ¬ Conn ((ends M).erase (f.1, f.2.1)) e.1 e.2.1) :
    SpanningForest inp (e :: M.erase f) ∧ cost (e :: M.erase f) + f.2.2 = cost M + e.2.2 := by
  have hab : Conn (ends M) e.1 e.2.1 := (hM.spans _ _).mpr (Conn.of_mem (mem_ends he))
  obtain ⟨x1, x2⟩ := exchange hM.acyclic (mem_ends hf) hab hcrit
  have hp : (ends (e :: M.erase f)).Perm ((e.1, e.2.1) :: (ends M).erase (f.1, f.2.1)) := (ends_erase hf).cons _
  have hac := acyclic_perm x1 hp.symm
  refine ⟨⟨subMulti_of_acyclic (fun x hx => ?_) hac, hac, fun a b =>
    ⟨fun h => (hM.spans a b).mp ((x2 a b).mp (h.mono fun _ => hp.mem_iff.mp)),
     fun h => ((x2 a b).mpr ((hM.spans a b).mpr h)).mono fun _ => hp.mem_iff.mpr⟩⟩, ?_⟩
  · rcases List.mem_cons.mp hx with rfl | hx
    · exact he
    · exact hM.mem_inp (List.mem_of_mem_erase hx)
  · show e.2.2 + cost (M.erase f) + f.2.2 = cost M + e.2.2
    rw [Nat.add_assoc, cost_erase M f hf, Nat.add_comm]

/-- the edge of `F` that makes way for `e` is one between two components of `A` whose removal separates the ends of
    `e` (`crit_cross`); it is `e` itself if `e` is in `F` -/
theorem cut_property {inp F A : List WEdge} {e : WEdge} (hF : SpanningForest inp F) (hA : ∀ x, x ∈ A → x ∈ F)
    (he : e ∈ inp) (hn : ¬ Conn (ends A) e.1 e.2.1)
    (hlight : ∀ f, f ∈ inp → ¬ Conn (ends A) f.1 f.2.1 → e.2.2 ≤ f.2.2) :
    ∃ F', SpanningForest inp F' ∧ cost F' ≤ cost F ∧ ∀ x, x ∈ A ++ [e] → x ∈ F' := by
  have hab : Conn (ends F) e.1 e.2.1 := (hF.spans _ _).mpr (Conn.of_mem (mem_ends he))
  obtain ⟨f', hf', hRf, hcrit⟩ := crit_cross (Conn (ends A)) (Conn.refl _) Conn.symm Conn.trans (ends F) e.1 e.2.1
    hF.acyclic hab hn
  obtain ⟨f, hfF, rfl⟩ := List.mem_map.mp hf'
  obtain ⟨hF', hcost⟩ := spanningForest_exchange hF he hfF hcrit
  have hle := hlight f (hF.mem_inp hfF) hRf
  refine ⟨e :: F.erase f, hF', Nat.le_of_add_le_add_right (hcost ▸ Nat.add_le_add_left hle _), fun x hx => ?_⟩
  rcases List.mem_append.mp hx with hx | hx
  · have hne : x ≠ f := fun h => hRf (h ▸ Conn.of_mem (mem_ends hx))
    exact List.mem_cons_of_mem _ ((List.mem_erase_of_ne hne).mpr (hA x hx))
  · exact List.mem_singleton.mp hx ▸ List.mem_cons_self

theorem subforest_cost {inp T M : List WEdge} (hT : SpanningForest inp T) (hM : SpanningForest inp M)
    (hsub : ∀ x, x ∈ T → x ∈ M) : cost T = cost M := by
  refine cost_perm ((List.perm_ext_iff_of_nodup hT.acyclic.nodup_of_ends hM.acyclic.nodup_of_ends).mpr
    fun x => ⟨hsub x, fun hxM => ?_⟩)
  -- an edge of `M` outside `T` would close a cycle with `T`
  refine Decidable.byContradiction fun hxT => ?_
  have hconn : Conn (ends T) x.1 x.2.1 := (hT.spans _ _).mpr (Conn.of_mem (mem_ends (hM.mem_inp hxM)))
  have hc2 : Conn (ends (M.erase x)) x.1 x.2.1 := hconn.mono fun p hp => by
    obtain ⟨y, hy, rfl⟩ := List.mem_map.mp hp
    exact mem_ends ((List.mem_erase_of_ne fun (h : y = x) => hxT (h ▸ hy)).mpr (hsub y hy))
  exact hM.acyclic _ (mem_ends hxM) (hc2.mono fun _ => (ends_erase hxM).mem_iff.mp)

end Tbx.Comp
