import Tbx.Proofs.C16Arr
import Tbx.Model.UnionFind
import Tbx.Proofs.C16Conn
/-
Union-find (`Model/UnionFind.lean`) refines the equivalence closure of the union pairs.

`RootOf par i r` follows parent pointers from `i` to the root `r`; two elements are in one class (`Cls`) when
they have the same root.  Ranks strictly increase along parent edges (`Ranked`) and `rank + numSets ≤ len` bounds
them, so `find` arrives at a root within its fuel (`findLoop_spec`), and every element has one (`exists_root`).
`RootOf` is thus a total function, and to compare it before and after a write one inclusion is enough
(`RootOf.of_imp`).  A shortcut inside a tree, as path halving makes, changes no root (`compress_imp`, `SameRoots`);
pointing one root to another moves one tree below the other (`link_rootOf`), which merges exactly the two
classes (`link_cls`) and removes one root.
-/
namespace Tbx.UF
open Tbx Tbx.Comp

inductive RootOf (par : Array Nat) : Nat → Nat → Prop where
  | root {i : Nat} : i < par.size → gt par i = i → RootOf par i i
  | step {i r : Nat} : i < par.size → gt par i ≠ i → RootOf par (gt par i) r → RootOf par i r

theorem RootOf.lt {par : Array Nat} {i r : Nat} (h : RootOf par i r) : i < par.size := by
  cases h <;> assumption

theorem RootOf.is_root {par : Array Nat} {i r : Nat} (h : RootOf par i r) : r < par.size ∧ gt par r = r := by
  induction h with
  | root hi hr => exact ⟨hi, hr⟩
  | step _ _ _ ih => exact ih

theorem RootOf.functional {par : Array Nat} {i r r' : Nat} (h1 : RootOf par i r) (h2 : RootOf par i r') : r = r' := by
  induction h1 with
  | root hi hr =>
    cases h2 with
    | root => rfl
    | step _ hne _ => exact absurd hr hne
  | step hi hne _ ih =>
    cases h2 with
    | root _ hr => exact absurd hr hne
    | step _ _ h => exact ih h

theorem rootOf_self_iff {par : Array Nat} {i : Nat} (hi : i < par.size) : RootOf par i i ↔ gt par i = i :=
  ⟨fun h => h.is_root.2, .root hi⟩

theorem RootOf.root_self {par : Array Nat} {i r : Nat} (h : RootOf par i r) : RootOf par r r :=
  .root h.is_root.1 h.is_root.2

theorem RootOf.of_root {par : Array Nat} {i r : Nat} (hr : gt par i = i) (h : RootOf par i r) : r = i := by
  cases h with
  | root => rfl
  | step _ hne _ => exact absurd hr hne

structure Ranked (par rk : Array Nat) : Prop where
  par_lt : ∀ i, i < par.size → gt par i < par.size
  rank_lt : ∀ i, i < par.size → gt par i ≠ i → gt rk i < gt rk (gt par i)

/-- `rk'`: meanwhile ranks may grow at roots (`union` bumps one) -/
theorem Ranked.st {par rk rk' : Array Nat} (h : Ranked par rk) {p v : Nat} (hp : p < par.size) (hv : v < par.size)
    (hmono : ∀ i, gt rk i ≤ gt rk' i) (hsame : ∀ i, gt par i ≠ i → gt rk' i = gt rk i) (hlt : gt rk' p < gt rk' v) :
    Ranked (st par p v) rk' := by
  constructor
  · intro i hi
    rw [size_st] at hi ⊢
    rw [gt_st_lt _ _ _ _ hp]
    split
    · exact hv
    · exact h.par_lt i hi
  · intro i hi
    rw [size_st] at hi
    rw [gt_st_lt _ _ _ _ hp]
    split
    · rename_i hip; exact fun _ => hip ▸ hlt
    · exact fun hne => hsame i hne ▸ Nat.lt_of_lt_of_le (h.rank_lt i hi hne) (hmono _)

theorem RootOf.of_parent {par : Array Nat} {i r : Nat} (hi : i < par.size) (h : RootOf par (gt par i) r) :
    RootOf par i r := by
  by_cases hr : gt par i = i
  · rwa [hr] at h
  · exact .step hi hr h

/-- one step up the forest uses up fuel: the rank grows and stays below the bound `R` -/
theorem sub_rank_lt {R a b f : Nat} (hab : a < b) (hb : b ≤ R) (hf : R - a < f + 1) : R - b < f :=
  Nat.lt_of_lt_of_le (Nat.sub_lt_sub_left (Nat.lt_of_lt_of_le hab hb) hab) (Nat.le_of_lt_succ hf)

theorem RootOf.of_imp {par par' : Array Nat} (htot : ∀ j, j < par'.size → ∃ r, RootOf par j r)
    (h : ∀ j r, RootOf par j r → RootOf par' j r) {j r : Nat} (h' : RootOf par' j r) : RootOf par j r := by
  obtain ⟨r0, h0⟩ := htot j h'.lt
  exact (h j r0 h0).functional h' ▸ h0

/-- in path halving `v` is the grandparent; path splitting or full compression fit as well -/
theorem compress_imp {par : Array Nat} {p v : Nat} (hp : p < par.size) (hvp : v ≠ p)
    (hv : ∀ r, RootOf par v r → RootOf par p r) {j r : Nat} (h : RootOf (st par p v) j r) : RootOf par j r := by
  induction h with
  | @root j hj hr =>
    rw [size_st] at hj
    by_cases hjp : j = p
    · subst hjp; rw [gt_st_eq _ _ _ hp] at hr; exact absurd hr hvp
    · rw [gt_st_ne _ _ _ _ (Ne.symm hjp)] at hr; exact .root hj hr
  | @step j r hj hne _ ih =>
    rw [size_st] at hj
    by_cases hjp : j = p
    · subst hjp
      rw [gt_st_eq _ _ _ hp] at ih
      exact hv r ih
    · rw [gt_st_ne _ _ _ _ (Ne.symm hjp)] at ih hne
      exact .step hj hne ih

theorem findLoop_spec {rk : Array Nat} (R : Nat) :
    ∀ (f : Nat) (par : Array Nat) (p : Nat), Ranked par rk → (∀ i, i < par.size → gt rk i ≤ R) →
      p < par.size → R - gt rk p < f →
      ∃ par' r, findLoop f par p = some (par', r) ∧ par'.size = par.size ∧ Ranked par' rk ∧ RootOf par p r ∧
        (∀ j r', RootOf par' j r' → RootOf par j r') := by
  intro f
  induction f with
  | zero => exact fun par p _ _ _ hf => absurd hf (Nat.not_lt_zero _)
  | succ f ih =>
    intro par p hrk hR hp hf
    unfold findLoop
    rw [if_neg (Nat.not_le.mpr hp)]
    by_cases hne : gt par p ≠ p
    · rw [if_pos hne]
      have hpp := hrk.par_lt p hp
      rw [if_neg (Nat.not_le.mpr hpp)]
      have h1 := hrk.rank_lt p hp hne
      have h2 : gt rk (gt par p) ≤ gt rk (gt par (gt par p)) := by
        by_cases hroot : gt par (gt par p) = gt par p
        · rw [hroot]; exact Nat.le_refl _
        · exact Nat.le_of_lt (hrk.rank_lt _ hpp hroot)
      have hg : gt par (gt par p) ≠ p := by
        intro h; rw [h] at h2; exact absurd h1 (Nat.not_lt.mpr h2)
      have hgl := hrk.par_lt _ hpp
      have hrk1 : Ranked (st par p (gt par (gt par p))) rk :=
        hrk.st hp hgl (fun _ => Nat.le_refl _) (fun _ _ => rfl) (Nat.lt_of_lt_of_le h1 h2)
      simp only [gt_st_eq _ _ _ hp]
      obtain ⟨par', r, hfl, hsz, hrk', hroot, himp⟩ :=
        ih (st par p (gt par (gt par p))) (gt par (gt par p)) hrk1 (by rw [size_st]; exact hR)
          (by rw [size_st]; exact hgl) (sub_rank_lt (Nat.lt_of_lt_of_le h1 h2) (hR _ hgl) hf)
      have hv : ∀ r, RootOf par (gt par (gt par p)) r → RootOf par p r := fun r h => (h.of_parent hpp).of_parent hp
      exact ⟨par', r, hfl, by rw [hsz, size_st], hrk', hv r (compress_imp hp hg hv hroot),
        fun j r' h => compress_imp hp hg hv (himp j r' h)⟩
    · rw [if_neg hne]
      have hroot : gt par p = p := Decidable.not_not.mp hne
      exact ⟨par, p, rfl, rfl, hrk, .root hp hroot, fun _ _ h => h⟩

theorem exists_root {par rk : Array Nat} (h : Ranked par rk) (R : Nat) (hR : ∀ i, i < par.size → gt rk i ≤ R) (i : Nat)
    (hi : i < par.size) : ∃ r, RootOf par i r := by
  obtain ⟨_, r, _, _, _, hr, _⟩ := findLoop_spec R _ par i h hR hi (Nat.lt_succ_self _)
  exact ⟨r, hr⟩

def countRoots (par : Array Nat) : Nat := (List.range par.size).countP (fun i => gt par i == i)

structure Inv (u : UF) : Prop where
  sizeR : u.rank.size = u.parent.size
  ranked : Ranked u.parent u.rank
  rank_bd : ∀ i, i < u.parent.size → gt u.rank i + u.numSets ≤ u.parent.size
  nsets : u.numSets = countRoots u.parent

def Cls (par : Array Nat) (i j : Nat) : Prop := ∃ r, RootOf par i r ∧ RootOf par j r

theorem Inv.exists_root {u : UF} (h : Inv u) (i : Nat) (hi : i < u.parent.size) : ∃ r, RootOf u.parent i r :=
  UF.exists_root h.ranked (u.parent.size - u.numSets) (fun i hi => Nat.le_sub_of_add_le (h.rank_bd i hi)) i hi

theorem Cls.refl {u : UF} (h : Inv u) (i : Nat) (hi : i < u.parent.size) : Cls u.parent i i := by
  obtain ⟨r, hr⟩ := h.exists_root i hi
  exact ⟨r, hr, hr⟩

theorem RootOf.cls {par : Array Nat} {i r : Nat} (h : RootOf par i r) : Cls par i r := ⟨r, h, h.root_self⟩

theorem Inv.cls_of_numSets_le_one {u : UF} (h : Inv u) (h1 : u.numSets ≤ 1) {i j : Nat} (hi : i < u.parent.size)
    (hj : j < u.parent.size) : Cls u.parent i j := by
  obtain ⟨r1, hr1⟩ := h.exists_root i hi
  obtain ⟨r2, hr2⟩ := h.exists_root j hj
  obtain rfl := countP_range_unique (fun i => gt u.parent i == i) u.parent.size r1 r2 hr1.is_root.1 hr2.is_root.1
    (by simp [hr1.is_root.2]) (by simp [hr2.is_root.2]) (Nat.le_trans (Nat.le_of_eq h.nsets.symm) h1)
  exact ⟨r1, hr1, hr2⟩

theorem Cls.symm {par : Array Nat} {i j : Nat} (h : Cls par i j) : Cls par j i := by
  obtain ⟨r, h1, h2⟩ := h
  exact ⟨r, h2, h1⟩

theorem Cls.trans {par : Array Nat} {i j k : Nat} (h1 : Cls par i j) (h2 : Cls par j k) : Cls par i k := by
  obtain ⟨r, a, b⟩ := h1
  obtain ⟨r', c, d⟩ := h2
  have := b.functional c
  subst this
  exact ⟨r, a, d⟩

theorem gt_range {n i : Nat} (hi : i < n) : gt (Array.range n) i = i := by
  simp [gt, hi]

theorem new_inv (n : Nat) : Inv (new n) := by
  have hz : ∀ i, i < n → gt (Array.replicate n 0) i = 0 := by
    intro i hi
    simp [gt, hi]
  constructor
  · simp [new]
  · constructor
    · intro i hi
      simp only [new, Array.size_range] at hi ⊢
      rw [gt_range hi]; exact hi
    · intro i hi hne
      simp only [new, Array.size_range] at hi hne
      exact absurd (gt_range hi) hne
  · intro i hi
    simp only [new, Array.size_range] at hi ⊢
    rw [hz i hi]; exact Nat.le_of_eq (Nat.zero_add n)
  · simp only [new, countRoots, Array.size_range]
    symm
    have : (List.range n).countP (fun i => gt (Array.range n) i == i) = (List.range n).length :=
      List.countP_eq_length.mpr (by intro i hi; simp [gt_range (List.mem_range.mp hi)])
    simpa using this

theorem new_cls (n i j : Nat) : Cls (new n).parent i j ↔ (i = j ∧ i < n) := by
  constructor
  · rintro ⟨r, h1, h2⟩
    have hi := h1.lt
    have hj := h2.lt
    simp only [new, Array.size_range] at hi hj
    have e1 := h1.of_root (gt_range hi)
    have e2 := h2.of_root (gt_range hj)
    exact ⟨e1.symm.trans e2, hi⟩
  · rintro ⟨rfl, hi⟩
    exact ⟨i, .root (by simpa [new] using hi) (gt_range hi), .root (by simpa [new] using hi) (gt_range hi)⟩

/-- `u'` is `u` after path halving -/
structure SameRoots (u u' : UF) : Prop where
  size : u'.parent.size = u.parent.size
  numSets : u'.numSets = u.numSets
  rootOf : ∀ j r, RootOf u'.parent j r ↔ RootOf u.parent j r

theorem SameRoots.trans {u u1 u2 : UF} (h1 : SameRoots u u1) (h2 : SameRoots u1 u2) : SameRoots u u2 :=
  ⟨h2.size.trans h1.size, h2.numSets.trans h1.numSets,
    fun j r => (h2.rootOf j r).trans (h1.rootOf j r)⟩

theorem SameRoots.cls {u u' : UF} (h : SameRoots u u') (i j : Nat) : Cls u'.parent i j ↔ Cls u.parent i j := by
  simp only [Cls, h.rootOf]

theorem find_spec {u : UF} (h : Inv u) (x : Nat) (hx : x < u.parent.size) :
    ∃ u' r, find u x = some (u', r) ∧ Inv u' ∧ SameRoots u u' ∧ RootOf u.parent x r := by
  have hR : ∀ i, i < u.parent.size → gt u.rank i ≤ u.parent.size - u.numSets :=
    fun i hi => Nat.le_sub_of_add_le (h.rank_bd i hi)
  obtain ⟨par', r, hfl, hsz, hrk, hroot, himp⟩ :=
    findLoop_spec (u.parent.size - u.numSets) (u.parent.size + 1) u.parent x h.ranked hR hx
      (Nat.lt_succ_of_le (Nat.le_trans (Nat.sub_le _ _) (Nat.sub_le _ _)))
  have hiff : ∀ j r, RootOf par' j r ↔ RootOf u.parent j r := fun j r =>
    ⟨himp j r, RootOf.of_imp (hsz ▸ exists_root hrk _ (hsz.symm ▸ hR)) himp⟩
  refine ⟨{ u with parent := par' }, r, by simp only [find, hfl], ⟨?_, hrk, ?_, ?_⟩, ⟨hsz, rfl, hiff⟩, hroot⟩
  · simp only [hsz]; exact h.sizeR
  · simp only [hsz]; exact h.rank_bd
  · simp only [countRoots, hsz]
    rw [h.nsets, countRoots]
    exact countP_range_congr _ _ _ fun i hi => by
      rw [Bool.eq_iff_iff, beq_iff_eq, beq_iff_eq, ← rootOf_self_iff hi, ← rootOf_self_iff (hsz ▸ hi), hiff]

theorem link_rootOf {par : Array Nat} {a b : Nat} (hb : b < par.size) (hra : gt par a = a)
    (hrb : gt par b = b) (hab : a ≠ b) {j r : Nat} (h : RootOf par j r) :
    RootOf (st par a b) j (if r = a then b else r) := by
  induction h with
  | @root j hj hr =>
    by_cases hja : j = a
    · subst hja
      rw [if_pos rfl]
      refine .step (by rw [size_st]; exact hj) (by rw [gt_st_eq _ _ _ hj]; exact Ne.symm hab) ?_
      rw [gt_st_eq _ _ _ hj]
      exact .root (by rw [size_st]; exact hb) (by rw [gt_st_ne _ _ _ _ hab]; exact hrb)
    · rw [if_neg hja]
      exact .root (by rw [size_st]; exact hj) (by rw [gt_st_ne _ _ _ _ (Ne.symm hja)]; exact hr)
  | @step j r hj hne _ ih =>
    have hja : a ≠ j := fun h => hne (h ▸ hra)
    refine .step (by rw [size_st]; exact hj) (by rw [gt_st_ne _ _ _ _ hja]; exact hne) ?_
    rw [gt_st_ne _ _ _ _ hja]
    exact ih

theorem link_cls {par : Array Nat} (htot : ∀ j, j < par.size → ∃ r, RootOf par j r) {x y a b : Nat}
    (hx : RootOf par x a) (hy : RootOf par y b) (hab : a ≠ b) (i j : Nat) :
    Cls (st par a b) i j ↔ Join (Cls par) x y i j := by
  unfold Join
  have L : ∀ {z r}, RootOf par z r → RootOf (st par a b) z (if r = a then b else r) :=
    link_rootOf hy.is_root.1 hx.is_root.2 hy.is_root.2 hab
  constructor
  · rintro ⟨r, h1, h2⟩
    obtain ⟨ri, hi⟩ := htot i (size_st par .. ▸ h1.lt)
    obtain ⟨rj, hj⟩ := htot j (size_st par .. ▸ h2.lt)
    have e := ((L hi).functional h1).trans ((L hj).functional h2).symm
    by_cases hia : ri = a <;> by_cases hja : rj = a
    · exact Or.inl ⟨a, hia ▸ hi, hja ▸ hj⟩
    · rw [if_pos hia, if_neg hja] at e
      exact Or.inr (Or.inl ⟨⟨a, hia ▸ hi, hx⟩, ⟨b, hy, e ▸ hj⟩⟩)
    · rw [if_neg hia, if_pos hja] at e
      exact Or.inr (Or.inr ⟨⟨b, e ▸ hi, hy⟩, ⟨a, hx, hja ▸ hj⟩⟩)
    · rw [if_neg hia, if_neg hja] at e
      exact Or.inl ⟨rj, e ▸ hi, hj⟩
  · have LA : ∀ {z}, RootOf par z a → RootOf (st par a b) z b := fun h => by simpa only [if_pos] using L h
    have LB : ∀ {z}, RootOf par z b → RootOf (st par a b) z b := fun h => by simpa only [if_neg (Ne.symm hab)] using L h
    rintro (⟨r, hi, hj⟩ | ⟨⟨r, hi, hxr⟩, ⟨r', hyr, hj⟩⟩ | ⟨⟨r, hi, hyr⟩, ⟨r', hxr, hj⟩⟩)
    · exact ⟨_, L hi, L hj⟩
    · cases hxr.functional hx; cases hyr.functional hy
      exact ⟨b, LA hi, LB hj⟩
    · cases hxr.functional hx; cases hyr.functional hy
      exact ⟨b, LB hi, LA hj⟩

theorem countRoots_link {par : Array Nat} {a b : Nat} (ha : a < par.size) (hra : gt par a = a) (hab : a ≠ b) :
    countRoots (st par a b) + 1 = countRoots par := by
  simp only [countRoots, size_st]
  apply countP_range_update _ _ a (by simp [hra]) (by simp [gt_st_eq _ _ _ ha, Ne.symm hab]) _ _ ha
  intro i hi
  rw [gt_st_ne _ _ _ _ (Ne.symm hi)]

/-- `rk'`: the ranks with `b`'s possibly bumped -/
theorem link_inv {u : UF} (h : Inv u) {a b : Nat} {rk' : Array Nat} (ha : a < u.parent.size) (hb : b < u.parent.size)
    (hra : gt u.parent a = a) (hrb : gt u.parent b = b) (hab : a ≠ b)
    (hsz : rk'.size = u.rank.size) (hmono : ∀ i, gt u.rank i ≤ gt rk' i) (hsame : ∀ i, i ≠ b → gt rk' i = gt u.rank i)
    (hlt : gt u.rank a < gt rk' b) (hbd : gt rk' b + (u.numSets - 1) ≤ u.parent.size) :
    Inv { parent := st u.parent a b, rank := rk', numSets := u.numSets - 1 } := by
  constructor
  · simp only [size_st]; rw [hsz]; exact h.sizeR
  · exact h.ranked.st ha hb hmono (fun i hne => hsame i fun hh => hne (hh ▸ hrb)) (hsame a hab ▸ hlt)
  · intro i hi
    simp only [size_st] at hi ⊢
    by_cases hib : i = b
    · subst hib; exact hbd
    · rw [hsame i hib]; exact Nat.le_trans (Nat.add_le_add_left (Nat.sub_le _ _) _) (h.rank_bd i hi)
  · show u.numSets - 1 = countRoots (st u.parent a b)
    rw [h.nsets, ← countRoots_link (b := b) ha hra hab, Nat.add_sub_cancel]

theorem union_spec {u : UF} (h : Inv u) (x y : Nat) (hx : x < u.parent.size) (hy : y < u.parent.size) :
    ∃ u', union u x y = some u' ∧ Inv u' ∧ u'.parent.size = u.parent.size ∧
      (∀ i j, Cls u'.parent i j ↔ Join (Cls u.parent) x y i j) ∧
      (Cls u.parent x y → u'.numSets = u.numSets) ∧ (¬ Cls u.parent x y → u'.numSets + 1 = u.numSets) := by
  obtain ⟨u1, xs, hf1, hi1, hS1, hxs⟩ := find_spec h x hx
  obtain ⟨u2, ys, hf2, hi2, hS2, hys1⟩ := find_spec hi1 y (by rw [hS1.size]; exact hy)
  have hS := hS1.trans hS2
  have hys : RootOf u.parent y ys := (hS1.rootOf _ _).mp hys1
  have hxs2 := (hS.rootOf _ _).mpr hxs
  have hys2 := (hS.rootOf _ _).mpr hys
  simp only [union, hf1, hf2]
  by_cases he : xs = ys
  · rw [if_pos he]
    subst he
    have hxy : Cls u.parent x y := ⟨xs, hxs, hys⟩
    refine ⟨u2, rfl, hi2, hS.size, fun i j => ?_, fun _ => hS.numSets, fun hn => absurd hxy hn⟩
    rw [hS.cls]
    refine ⟨Or.inl, ?_⟩
    rintro (h | ⟨h1, h2⟩ | ⟨h1, h2⟩)
    · exact h
    · exact h1.trans (hxy.trans h2)
    · exact h1.trans (hxy.symm.trans h2)
  · rw [if_neg he]
    have hnxy : ¬ Cls u.parent x y := fun ⟨r, a, b⟩ => he ((a.functional hxs).symm.trans (b.functional hys))
    obtain ⟨hxl, hxr⟩ := hxs2.is_root
    obtain ⟨hyl, hyr⟩ := hys2.is_root
    have hpos : 1 ≤ u2.numSets := by
      rw [hi2.nsets]; exact countP_range_pos _ _ xs hxl (by simp [hxr])
    rw [if_neg (Nat.ne_of_gt hpos)]
    -- whichever root goes below the other, the classes of `x` and `y` are merged
    have e1 : ∀ i j, Cls (st u2.parent xs ys) i j ↔ Join (Cls u.parent) x y i j :=
      fun i j => (link_cls hi2.exists_root hxs2 hys2 he i j).trans (Join.congr hS.cls)
    have e2 : ∀ i j, Cls (st u2.parent ys xs) i j ↔ Join (Cls u.parent) x y i j :=
      fun i j => (link_cls hi2.exists_root hys2 hxs2 (Ne.symm he) i j).trans (Join.comm.trans (Join.congr hS.cls))
    have hbd := hi2.rank_bd
    have done : ∀ {a b : Nat} {rk' : Array Nat}, Inv ⟨u2.numSets - 1, st u2.parent a b, rk'⟩ →
        (∀ i j, Cls (st u2.parent a b) i j ↔ Join (Cls u.parent) x y i j) →
        ∃ u', some (⟨u2.numSets - 1, st u2.parent a b, rk'⟩ : UF) = some u' ∧ Inv u' ∧
          u'.parent.size = u.parent.size ∧ (∀ i j, Cls u'.parent i j ↔ Join (Cls u.parent) x y i j) ∧
          (Cls u.parent x y → u'.numSets = u.numSets) ∧ (¬ Cls u.parent x y → u'.numSets + 1 = u.numSets) :=
      fun hi hc => ⟨_, rfl, hi, (size_st _ _ _).trans hS.size, hc, fun hc => absurd hc hnxy,
        fun _ => (Nat.sub_add_cancel hpos).trans hS.numSets⟩
    by_cases hlt : gt u2.rank xs < gt u2.rank ys
    · rw [if_pos hlt]
      exact done (link_inv hi2 hxl hyl hxr hyr he rfl (fun _ => Nat.le_refl _) (fun _ _ => rfl) hlt
        (Nat.le_trans (Nat.add_le_add_left (Nat.sub_le _ _) _) (hbd ys hyl))) e1
    · rw [if_neg hlt]
      by_cases hgt : gt u2.rank xs > gt u2.rank ys
      · rw [if_pos hgt]
        exact done (link_inv hi2 hyl hxl hyr hxr (Ne.symm he) rfl (fun _ => Nat.le_refl _) (fun _ _ => rfl) hgt
          (Nat.le_trans (Nat.add_le_add_left (Nat.sub_le _ _) _) (hbd xs hxl))) e2
      · rw [if_neg hgt]
        have hxr' : xs < u2.rank.size := by rw [hi2.sizeR]; exact hxl
        refine done (link_inv hi2 hyl hxl hyr hxr (Ne.symm he) (size_st _ _ _) (fun i => ?_)
          (fun i hix => gt_st_ne _ _ _ _ (Ne.symm hix)) ?_ ?_) e2
        · by_cases hix : i = xs
          · subst hix; rw [gt_st_eq _ _ _ hxr']; exact Nat.le_succ _
          · rw [gt_st_ne _ _ _ _ (Ne.symm hix)]; exact Nat.le_refl _
        · rw [gt_st_eq _ _ _ hxr']; exact Nat.lt_succ_of_le (Nat.le_of_not_lt hlt)
        · rw [gt_st_eq _ _ _ hxr', Nat.add_assoc, Nat.add_sub_cancel' hpos]
          exact hbd xs hxl

/-- the states reachable from `new n` by `find` and `union` on elements `< n`, with the union pairs so far -/
inductive Reachable (n : Nat) : UF → Edges → Prop where
  | new : Reachable n (new n) []
  | find {u : UF} {ps : Edges} {x : Nat} {u' : UF} {r : Nat} :
      Reachable n u ps → x < n → find u x = some (u', r) → Reachable n u' ps
  | union {u : UF} {ps : Edges} {x y : Nat} {u' : UF} :
      Reachable n u ps → x < n → y < n → union u x y = some u' → Reachable n u' (ps ++ [(x, y)])

theorem reachable_refines {n : Nat} {u : UF} {ps : Edges} (h : Reachable n u ps) :
    Inv u ∧ u.parent.size = n ∧ ∀ i j, i < n → j < n → (Cls u.parent i j ↔ Conn ps i j) := by
  induction h with
  | new =>
    refine ⟨new_inv n, by simp [new], ?_⟩
    intro i j hi _
    rw [new_cls, conn_nil]
    exact ⟨fun h => h.1, fun h => ⟨h, hi⟩⟩
  | @find u ps x u' r _ hx hf ih =>
    obtain ⟨hinv, hsz, hcls⟩ := ih
    obtain ⟨u'', r', hf', hinv', hS, _⟩ := find_spec hinv x (hsz ▸ hx)
    rw [hf] at hf'
    cases hf'
    exact ⟨hinv', hS.size.trans hsz, fun i j hi hj => (hS.cls i j).trans (hcls i j hi hj)⟩
  | @union u ps x y u' _ hx hy hu ih =>
    obtain ⟨hinv, hsz, hcls⟩ := ih
    obtain ⟨u'', hu', hinv', hsz', hm, _, _⟩ := union_spec hinv x y (hsz ▸ hx) (hsz ▸ hy)
    rw [hu] at hu'
    cases hu'
    refine ⟨hinv', hsz'.trans hsz, ?_⟩
    intro i j hi hj
    rw [hm, conn_snoc]
    simp only [Join, hcls i j hi hj, hcls i x hi hx, hcls y j hy hj, hcls i y hi hy, hcls x j hx hj]

end Tbx.UF
