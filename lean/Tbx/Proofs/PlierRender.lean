import Tbx.Model.GraphFiles
import Tbx.Spec.GraphText
/-
Which token-level lines count as a rendering of an abstract file item (`*LineOf` relations), and what the parser
loops return on any rendering: `dimacsGraphRaw_render` with the second pass `shiftAll_rawArcs`, `metisLine_render` /
`metisLoop_render`, `ddsgLoop_render`, each one case split per item under `Forall2.ind`.  The theorems
`parse (any rendering of F) = the edge list F describes` are stated and assembled from these in Props/C07.lean; for the
DIMACS coordinate file the loop is the whole parser, so `dimacs_coords_parse_render` is proved there by the same case
split and only its relation `DimacsCoLineOf` stands here.

The relations constrain only the views the format defines (e.g. a DIMACS comment is any line whose
first character is `c`; an arc line is `a` followed by three tokens that parse to u, v, w); everything
else about the line is arbitrary, so the theorems cover every concrete spelling (spacing, signs,
leading zeros, comment text) whose tokens parse to the stated numbers.
At the end: the described lists are no longer than the files and fit the Rust types (`*_length_le`, `*_fits`), which
the end-to-end theorems of C07 need for the Vec length prefix and the varints.
-/
namespace Tbx.PlierRender
open Tbx.Bincode Tbx.GraphFiles Tbx.GraphSpec

def Forall2 {α β : Type} (R : α → β → Prop) : List α → List β → Prop
  | [], [] => True
  | a :: as, b :: bs => R a b ∧ Forall2 R as bs
  | _, _ => False

theorem Forall2.ind {α β : Type} {R : α → β → Prop} {P : List α → List β → Prop} (nil : P [] [])
    (cons : ∀ a as b bs, R a b → Forall2 R as bs → P as bs → P (a :: as) (b :: bs)) :
    ∀ {as : List α} {bs : List β}, Forall2 R as bs → P as bs
  | [], [], _ => nil
  | a :: as, b :: bs, h => cons a as b bs h.1 h.2 (Forall2.ind nil cons h.2)
  | [], _ :: _, h => h.elim
  | _ :: _, [], h => h.elim

def NatTok (n : Nat) (t : Tok) : Prop := t.nat? = some n

def DimacsLineOf : DimacsItem → Line → Prop
  | .comment, l => l.first = some 'c'
  | .problem n _, l =>
    l.first = some 'p' ∧ ∃ t0 t1 a b rest, l.toks = t0 :: t1 :: a :: b :: rest ∧ a.nat? = some n
  | .arc u v w, l =>
    l.first = some 'a' ∧ ∃ a b d, l.rest2 = [a, b, d] ∧ a.nat? = some u ∧ b.nat? = some v ∧ d.nat? = some w

/-- the arcs that survive the self-loop filter, ids still 1-based -/
def rawArcs : List DimacsItem → List InputEdge
  | [] => []
  | .arc u v w :: r => if u = v then rawArcs r else ⟨u, v, w⟩ :: rawArcs r
  | _ :: r => rawArcs r

theorem dimacsGraphRaw_render : ∀ {F : List DimacsItem} {ls : List Line}, Forall2 DimacsLineOf F ls →
    dimacsGraphRaw ls = some (rawArcs F) := by
  refine @Forall2.ind _ _ _ _ rfl ?_
  intro it F l ls hl _ ih'
  cases it with
  | comment =>
    simp only [DimacsLineOf] at hl
    simp [dimacsGraphRaw, hl, ih', rawArcs]
  | problem n m =>
    obtain ⟨hf, t0, t1, a, b, rest, ht, ha⟩ := hl
    simp [dimacsGraphRaw, hf, ht, ha, ih', rawArcs]
  | arc u v w =>
    obtain ⟨hf, a, b, d, ht, ha, hb, hd⟩ := hl
    by_cases huv : u = v
    · simp [dimacsGraphRaw, hf, ht, ha, hb, huv, ih', rawArcs]
    · simp [dimacsGraphRaw, hf, ht, ha, hb, hd, huv, ih', rawArcs, consO]

theorem shiftAll_rawArcs (F : List DimacsItem) (hwf : DimacsWF F) :
    shiftAll (rawArcs F) = some (dimacsEdges F) := by
  induction F with
  | nil => rfl
  | cons it F ih =>
    have hwf' : DimacsWF F := fun u v w hm => hwf u v w (List.mem_cons_of_mem _ hm)
    have ih' := ih hwf'
    cases it with
    | comment => simpa [rawArcs, dimacsEdges] using ih'
    | problem n m => simpa [rawArcs, dimacsEdges] using ih'
    | arc u v w =>
      have h1 := hwf u v w List.mem_cons_self
      by_cases huv : u = v
      · simpa [rawArcs, dimacsEdges, huv] using ih'
      · have hu : ¬ (u = 0 ∨ v = 0) := by omega
        simp [rawArcs, dimacsEdges, huv, shiftAll, hu, ih', consO]

def DimacsCoLineOf : DimacsCoItem → Line → Prop
  | .comment, l => l.first = some 'c'
  | .problem n, l => l.first = some 'p' ∧ l.tail12 = some n
  | .vertex id lon lat, l =>
    l.first = some 'v' ∧ ∃ a b d rest, l.rest2 = a :: b :: d :: rest ∧
      a.nat? = some id ∧ b.i32? = some lon ∧ d.i32? = some lat

def MetisHeaderOf (n : Nat) (l : Line) : Prop := ∃ t rest, l.toks = t :: rest ∧ t.nat? = some n

def AdjLineOf (nbrs : List Nat) (l : Line) : Prop := Forall2 NatTok nbrs l.toks

theorem metisLine_render (n i : Nat) : ∀ {nbrs : List Nat} {toks : List Tok}, Forall2 NatTok nbrs toks →
    (∀ t ∈ nbrs, 1 ≤ t ∧ t ≤ n) →
    metisLine n i toks = some ((nbrs.filter (fun t => t - 1 ≠ i)).map (fun t => ⟨i, t - 1, 1⟩)) := by
  refine @Forall2.ind _ _ _ _ (fun _ => rfl) ?_
  intro x nbrs t ts ht _ ih hr
  have ih' := ih (fun t ht => hr t (List.mem_cons_of_mem _ ht))
  have hx := hr x List.mem_cons_self
  have hx0 : x ≠ 0 := by omega
  have hxn : x - 1 < n := by omega
  unfold NatTok at ht
  by_cases hs : i = x - 1
  · simp [metisLine, ht, hx0, hxn, hs]
    simpa [hs] using ih'
  · have h2 : x - 1 ≠ i := Ne.symm hs
    simp [metisLine, ht, hx0, hxn, hs, h2, ih', consO]

theorem metisLoop_render (n : Nat) : ∀ {adj : List (List Nat)} {ls : List Line}, Forall2 AdjLineOf adj ls →
    ∀ i, i + adj.length ≤ n → (∀ nbrs ∈ adj, ∀ t ∈ nbrs, 1 ≤ t ∧ t ≤ n) →
    metisLoop n i ls = some (metisEdgesFrom i adj) := by
  refine @Forall2.ind _ _ _ _ (fun _ _ _ => rfl) ?_
  intro nbrs adj l ls hl _ ih i hlen hr
  simp only [List.length_cons] at hlen
  have hi : i < n := by omega
  have ih' := ih (i + 1) (by omega) (fun nb hnb => hr nb (List.mem_cons_of_mem _ hnb))
  have hline := metisLine_render n i hl (hr nbrs List.mem_cons_self)
  simp [metisLoop, hi, hline, ih', appendO, metisEdgesFrom]

def DdsgArcOf (a : DdsgArc) (l : Line) : Prop :=
  ∃ t1 t2 t3 t4, l.toks = [t1, t2, t3, t4] ∧ t1.nat? = some a.u ∧ t2.nat? = some a.v ∧
    t3.nat? = some a.w ∧ t4.i32? = some (Int.ofNat a.dir)

theorem ddsgExpand_spec (a : DdsgArc) (hd : a.dir ≤ 3) (huv : a.u ≠ a.v) :
    ddsgExpand a.u a.v a.w (Int.ofNat a.dir) = some (ddsgArcEdges a) := by
  unfold ddsgExpand ddsgArcEdges
  simp only [Int.ofNat_eq_natCast, huv, if_false]
  have : a.dir = 0 ∨ a.dir = 1 ∨ a.dir = 2 ∨ a.dir = 3 := by omega
  rcases this with h | h | h | h <;> simp [h]

theorem ddsgLoop_render : ∀ {arcs : List DdsgArc} {ls : List Line}, Forall2 DdsgArcOf arcs ls →
    DdsgWF arcs → ddsgLoop ls = some (ddsgEdges arcs) := by
  refine @Forall2.ind _ _ _ _ (fun _ => rfl) ?_
  intro a arcs l ls hl _ ih hwf
  have ih' := ih (fun b hb => hwf b (List.mem_cons_of_mem _ hb))
  obtain ⟨t1, t2, t3, t4, ht, h1, h2, h3, h4⟩ := hl
  by_cases huv : a.u = a.v
  · simp [ddsgLoop, ht, h1, h2, huv, ih', ddsgEdges, ddsgArcEdges]
  · have hx := ddsgExpand_spec a (hwf a List.mem_cons_self) huv
    simp only [ddsgLoop, ht, h1, h2, h3, h4, huv, if_false, hx, ih', appendO, ddsgEdges]

theorem dimacsEdges_length_le (F : List DimacsItem) : (dimacsEdges F).length ≤ F.length := by
  induction F with
  | nil => simp [dimacsEdges]
  | cons it F ih =>
    cases it with
    | comment => simp [dimacsEdges]; omega
    | problem n m => simp [dimacsEdges]; omega
    | arc u v w =>
      simp only [dimacsEdges]
      split <;> simp <;> omega

theorem forall_mem_ite {α : Type} {p : α → Prop} {c : Prop} [Decidable c] {l₁ l₂ : List α}
    (h₁ : ∀ e ∈ l₁, p e) (h₂ : ∀ e ∈ l₂, p e) : ∀ e ∈ (if c then l₁ else l₂), p e := by
  split <;> assumption

theorem dimacsEdges_fits (F : List DimacsItem)
    (hf : ∀ u v w, DimacsItem.arc u v w ∈ F →
      u < 18446744073709551616 ∧ v < 18446744073709551616 ∧ w < 18446744073709551616) :
    ∀ e ∈ dimacsEdges F, EdgeFits e := by
  induction F with
  | nil => exact fun _ he => nomatch he
  | cons it F ih =>
    have ih' := ih (fun u v w hm => hf u v w (List.mem_cons_of_mem _ hm))
    cases it with
    | comment => exact ih'
    | problem n m => exact ih'
    | arc u v w =>
      have h1 := hf u v w List.mem_cons_self
      exact forall_mem_ite ih' (List.forall_mem_cons.2
        ⟨⟨Nat.lt_of_le_of_lt (Nat.sub_le _ _) h1.1, Nat.lt_of_le_of_lt (Nat.sub_le _ _) h1.2.1, h1.2.2⟩, ih'⟩)

theorem dimacsCoords_length_le (G : List DimacsCoItem) : (GraphSpec.dimacsCoords G).length ≤ G.length := by
  induction G with
  | nil => simp [GraphSpec.dimacsCoords]
  | cons it G ih =>
    cases it <;> simp [GraphSpec.dimacsCoords] <;> omega

theorem dimacsCoords_fits (G : List DimacsCoItem)
    (hf : ∀ id lon lat, DimacsCoItem.vertex id lon lat ∈ G → I32 lon ∧ I32 lat) :
    ∀ c ∈ GraphSpec.dimacsCoords G, CoordFits c := by
  induction G with
  | nil => intro c hc; simp [GraphSpec.dimacsCoords] at hc
  | cons it G ih =>
    have ih' := ih (fun id lon lat hm => hf id lon lat (List.mem_cons_of_mem _ hm))
    cases it with
    | comment => simpa [GraphSpec.dimacsCoords] using ih'
    | problem n => simpa [GraphSpec.dimacsCoords] using ih'
    | vertex id lon lat =>
      have h1 := hf id lon lat List.mem_cons_self
      intro c hc
      simp only [GraphSpec.dimacsCoords, List.mem_cons] at hc
      rcases hc with hc | hc
      · subst hc; exact ⟨h1.2, h1.1⟩
      · exact ih' c hc

theorem metisEdgesFrom_fits (n i : Nat) (adj : List (List Nat)) (hn : n < 18446744073709551616)
    (hlen : i + adj.length ≤ n) (hr : ∀ nbrs ∈ adj, ∀ t ∈ nbrs, 1 ≤ t ∧ t ≤ n) :
    ∀ e ∈ metisEdgesFrom i adj, EdgeFits e := by
  induction adj generalizing i with
  | nil => intro e he; simp [metisEdgesFrom] at he
  | cons nbrs adj ih =>
    simp only [List.length_cons] at hlen
    intro e he
    simp only [metisEdgesFrom, List.mem_append, List.mem_map, List.mem_filter] at he
    rcases he with ⟨t, ⟨ht, _⟩, rfl⟩ | he
    · have := hr nbrs List.mem_cons_self t ht
      unfold EdgeFits; simp only; omega
    · exact ih (i + 1) (by omega) (fun nb hnb => hr nb (List.mem_cons_of_mem _ hnb)) e he

theorem ddsgEdges_fits (arcs : List DdsgArc)
    (hf : ∀ a ∈ arcs, a.u < 18446744073709551616 ∧ a.v < 18446744073709551616 ∧ a.w < 18446744073709551616) :
    ∀ e ∈ ddsgEdges arcs, EdgeFits e := by
  induction arcs with
  | nil => exact fun _ he => nomatch he
  | cons a arcs ih =>
    obtain ⟨hu, hv, hw⟩ := hf a List.mem_cons_self
    have fwd : EdgeFits ⟨a.u, a.v, a.w⟩ := ⟨hu, hv, hw⟩
    have bwd : EdgeFits ⟨a.v, a.u, a.w⟩ := ⟨hv, hu, hw⟩
    have none : ∀ e ∈ ([] : List InputEdge), EdgeFits e := fun _ he => nomatch he
    have one : ∀ {x : InputEdge}, EdgeFits x → ∀ e ∈ [x], EdgeFits e := fun hx => List.forall_mem_cons.2 ⟨hx, none⟩
    intro e he
    rcases List.mem_append.mp he with he | he
    · exact forall_mem_ite none (forall_mem_ite (List.forall_mem_cons.2 ⟨fwd, one bwd⟩)
        (forall_mem_ite (one fwd) (forall_mem_ite (one bwd) none))) e he
    · exact ih (fun b hb => hf b (List.mem_cons_of_mem _ hb)) e he

end Tbx.PlierRender
