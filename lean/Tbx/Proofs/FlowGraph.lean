import Tbx.Model.Flow
import Tbx.Proofs.Offsets
/-
Structure of the CSR residual graph of the flow models (core Lean only): only nodes have edge ranges (`InRange.src_lt`);
well-formedness `WF`, under which an edge id lies in the range of at most one node (`WF.owner_unique`) and below
`tgt.size` (`WF.inRange_lt`); positive edges `PosEdge` and reachability along them `ReachG`; the residual
function `rOf g u v` (sum of the capacities of the parallel edges u→v) and how it changes when one capacity is
overwritten (`rOf_st`); `Uniq` (one edge per pair, so `findEdge` is a function and `rOf` one capacity) and `RevClosed`
(every edge has its reverse), which depend on `first` / `tgt` only.
-/
namespace Tbx.Flow
open Tbx

structure WF (g : Graph) : Prop where
  pos   : 0 < g.first.size
  mono  : ∀ i, i < g.numNodes → gt g.first i ≤ gt g.first (i + 1)
  last  : gt g.first g.numNodes = g.tgt.size
  capsz : g.cap.size = g.tgt.size
  tgtOK : ∀ e, e < g.tgt.size → gt g.tgt e < g.numNodes

def InRange (g : Graph) (u e : Nat) : Prop := g.beginEdges u ≤ e ∧ e < g.beginEdges u + g.deg u

/-- by definition `Heads g (0 < gt g.cap ·) (g.beginEdges u) (g.deg u) v` (FlowScan.lean), the form in which the sweep
    of `assignment` meets it -/
def PosEdge (g : Graph) (u v : Nat) : Prop :=
  ∃ e, g.beginEdges u ≤ e ∧ e < g.beginEdges u + g.deg u ∧ gt g.tgt e = v ∧ 0 < gt g.cap e

inductive ReachG (g : Graph) (s : Nat) : Nat → Prop where
  | refl : ReachG g s s
  | step {u v : Nat} : ReachG g s u → PosEdge g u v → ReachG g s v

theorem ReachG.head {g : Graph} {v w t : Nat} (he : PosEdge g v w) (h : ReachG g w t) : ReachG g v t := by
  induction h with
  | refl => exact ReachG.step ReachG.refl he
  | step _ he' ih => exact ReachG.step ih he'

/-- heads of positive edges are nodes (part of `check_integrity`) -/
def TargetsOK (g : Graph) : Prop := ∀ e, 0 < gt g.cap e → gt g.tgt e < g.numNodes

def NonNeg (g : Graph) : Prop := ∀ e, 0 ≤ gt g.cap e

theorem WF.mono_le {g : Graph} (h : WF g) : ∀ i j, i ≤ j → j ≤ g.numNodes → gt g.first i ≤ gt g.first j := by
  intro i j hij hj
  induction j with
  | zero => have : i = 0 := by omega
            subst this; exact Nat.le_refl _
  | succ j ih =>
    by_cases e : i = j + 1
    · subst e; exact Nat.le_refl _
    · have := ih (by omega) (by omega)
      have := h.mono j (by omega)
      omega

theorem WF.end_eq {g : Graph} (h : WF g) (u : Nat) (hu : u < g.numNodes) :
    g.beginEdges u + g.deg u = g.endEdges u := by
  have := h.mono u hu
  unfold Graph.deg Graph.beginEdges Graph.endEdges at *; omega

theorem WF.end_le {g : Graph} (h : WF g) (u : Nat) (hu : u < g.numNodes) : g.endEdges u ≤ g.tgt.size := by
  have := h.mono_le (u + 1) g.numNodes (by omega) (Nat.le_refl _)
  rw [h.last] at this; exact this

/-- only nodes have edges (no well-formedness needed: reads past the end of `first` give 0) -/
theorem deg_zero_of_ge {g : Graph} {u : Nat} (hu : g.numNodes ≤ u) : g.deg u = 0 := by
  unfold Graph.deg Graph.endEdges
  rw [gt_of_ge g.first (u + 1) (by unfold Graph.numNodes at hu; omega)]
  exact Nat.zero_sub _

theorem InRange.src_lt {g : Graph} {u e : Nat} (h : InRange g u e) : u < g.numNodes :=
  Nat.lt_of_not_le fun hge => by
    rw [InRange, deg_zero_of_ge hge] at h; exact Nat.lt_irrefl _ (Nat.lt_of_lt_of_le h.2 h.1)

theorem WF.inRange_lt {g : Graph} (h : WF g) {u e : Nat} (hr : InRange g u e) : e < g.tgt.size := by
  have := h.end_eq u hr.src_lt; have := h.end_le u hr.src_lt
  unfold InRange at hr; omega

theorem WF.owner_unique {g : Graph} (h : WF g) {u u' e : Nat} (h1 : InRange g u e) (h2 : InRange g u' e) :
    u = u' := by
  have hu := h1.src_lt; have hu' := h2.src_lt
  have e1 := h.end_eq u hu; have e2 := h.end_eq u' hu'
  unfold InRange at h1 h2
  rcases Nat.lt_trichotomy u u' with hlt | heq | hlt
  · have : g.endEdges u ≤ g.beginEdges u' := h.mono_le (u + 1) u' hlt (Nat.le_of_lt hu')
    omega
  · exact heq
  · have : g.endEdges u' ≤ g.beginEdges u := h.mono_le (u' + 1) u hlt (Nat.le_of_lt hu)
    omega

theorem findEdge_spec (g : Graph) (s t x : Nat) (h : g.findEdge s t = some x) :
    s < g.numNodes ∧ InRange g s x ∧ gt g.tgt x = t := by
  unfold Graph.findEdge at h
  split at h
  · cases h
  · obtain ⟨a, b, c, _⟩ :=
      Offsets.find_some (find := fun k e => g.findFrom t e k) (fun _ => rfl) (fun _ _ => rfl) h
    exact ⟨by omega, ⟨a, b⟩, c⟩

/-- an edge `s → t` in range is found (possibly an earlier parallel one) -/
theorem findEdge_some_of_edge (g : Graph) (s t e : Nat) (hr : InRange g s e) (ht : gt g.tgt e = t) :
    ∃ x, g.findEdge s t = some x := by
  unfold Graph.findEdge
  rw [if_neg (Nat.not_le_of_lt hr.src_lt)]
  cases hf : g.findFrom t (g.beginEdges s) (g.deg s) with
  | some x => exact ⟨x, rfl⟩
  | none =>
    exact absurd ht ((Offsets.find_none (find := fun k e => g.findFrom t e k) (fun _ => rfl) (fun _ _ => rfl)).mp hf
      e hr.1 hr.2)

theorem findEdge_of_eq {g g' : Graph} (h1 : g'.first = g.first) (h2 : g'.tgt = g.tgt) (a b : Nat) :
    g'.findEdge a b = g.findEdge a b := by
  have hf : ∀ k e, g'.findFrom b e k = g.findFrom b e k := by
    intro k; induction k with
    | zero => intro e; rfl
    | succ k ih => intro e; simp only [Graph.findFrom]; rw [ih, h2]
  unfold Graph.findEdge Graph.numNodes Graph.beginEdges Graph.deg Graph.endEdges Graph.beginEdges
  rw [h1, hf]

theorem findEdge_cap_irrel (g : Graph) (c : Array Int) (s t : Nat) :
    ({ g with cap := c } : Graph).findEdge s t = g.findEdge s t :=
  findEdge_of_eq (g := g) (g' := { g with cap := c }) rfl rfl s t

def rowSum (g : Graph) (v : Nat) : Nat → Nat → Int
  | _, 0 => 0
  | e, k + 1 => (if gt g.tgt e = v then gt g.cap e else 0) + rowSum g v (e + 1) k

def rOf (g : Graph) (u v : Nat) : Int := rowSum g v (g.beginEdges u) (g.deg u)

theorem rowSum_st (g : Graph) (x : Nat) (val : Int) (hx : x < g.cap.size) (v : Nat) (k : Nat) :
    ∀ e, rowSum { g with cap := st g.cap x val } v e k =
      rowSum g v e k + (if e ≤ x ∧ x < e + k ∧ gt g.tgt x = v then val - gt g.cap x else 0) := by
  induction k with
  | zero =>
    intro e
    rw [if_neg fun h => Nat.lt_irrefl _ (Nat.lt_of_lt_of_le h.2.1 h.1)]; exact (Int.add_zero _).symm
  | succ k ih =>
    intro e
    simp only [rowSum]
    rw [ih (e + 1)]
    by_cases hex : x = e
    · subst hex
      have c1 : ¬ (x + 1 ≤ x ∧ x < x + 1 + k ∧ gt g.tgt x = v) := fun h => absurd h.1 (Nat.not_succ_le_self x)
      have c2 : (x ≤ x ∧ x < x + (k + 1) ∧ gt g.tgt x = v) ↔ gt g.tgt x = v :=
        ⟨fun h => h.2.2, fun h => ⟨Nat.le_refl _, Nat.lt_add_of_pos_right (Nat.succ_pos k), h⟩⟩
      rw [show gt (st g.cap x val) x = val from gt_st_eq _ _ _ hx, if_neg c1]
      simp only [c2]
      split <;> omega
    · rw [show gt (st g.cap x val) e = gt g.cap e from gt_st_ne _ _ _ _ hex]
      have : (e + 1 ≤ x ∧ x < e + 1 + k ∧ gt g.tgt x = v) ↔ (e ≤ x ∧ x < e + (k + 1) ∧ gt g.tgt x = v) :=
        and_congr ⟨Nat.le_of_succ_le, fun h => Nat.lt_of_le_of_ne h (Ne.symm hex)⟩
          (by rw [Nat.add_right_comm e 1 k]; exact Iff.rfl)
      simp only [this]; omega

theorem rOf_st {g : Graph} (h : WF g) (a b x : Nat) (val : Int) (hr : InRange g a x) (hb : gt g.tgt x = b)
    (u v : Nat) :
    rOf { g with cap := st g.cap x val } u v =
      rOf g u v + (if u = a ∧ v = b then val - gt g.cap x else 0) := by
  -- the slot `x` lies in the range of `u` and leads to `v` iff `(u, v)` is its own pair `(a, b)`
  have hc : (g.beginEdges u ≤ x ∧ x < g.beginEdges u + g.deg u ∧ gt g.tgt x = v) ↔ (u = a ∧ v = b) := by
    constructor
    · rintro ⟨h1, h2, h3⟩
      exact ⟨h.owner_unique ⟨h1, h2⟩ hr, h3.symm.trans hb⟩
    · rintro ⟨rfl, rfl⟩; exact ⟨hr.1, hr.2, hb⟩
  show rowSum { g with cap := st g.cap x val } v (g.beginEdges u) (g.deg u) = _
  rw [rowSum_st g x val (h.capsz ▸ h.inRange_lt hr)]
  simp only [hc]; rfl

theorem rowSum_nonneg (g : Graph) (hnn : NonNeg g) (v k : Nat) : ∀ e, 0 ≤ rowSum g v e k := by
  induction k with
  | zero => intro e; simp [rowSum]
  | succ k ih =>
    intro e; simp only [rowSum]
    refine Int.add_nonneg ?_ (ih (e + 1))
    split
    · exact hnn e
    · exact Int.le_refl 0

theorem cap_le_rowSum (g : Graph) (hnn : NonNeg g) (v k : Nat) :
    ∀ e x, e ≤ x → x < e + k → gt g.tgt x = v → gt g.cap x ≤ rowSum g v e k := by
  induction k with
  | zero => intro e x h1 h2; exact absurd (Nat.lt_of_lt_of_le h2 h1) (Nat.lt_irrefl _)
  | succ k ih =>
    intro e x h1 h2 h3
    simp only [rowSum]
    by_cases hx : x = e
    · subst hx; rw [if_pos h3]; exact Int.le_add_of_nonneg_right (rowSum_nonneg g hnn v k (x + 1))
    · refine Int.le_trans (ih (e + 1) x (Nat.lt_of_le_of_ne h1 (Ne.symm hx)) (Nat.add_right_comm e 1 k ▸ h2) h3)
        (Int.le_add_of_nonneg_left ?_)
      split
      · exact hnn e
      · exact Int.le_refl 0

theorem rowSum_pos_edge (g : Graph) (v k : Nat) :
    ∀ e, 0 < rowSum g v e k → ∃ x, e ≤ x ∧ x < e + k ∧ gt g.tgt x = v ∧ 0 < gt g.cap x := by
  induction k with
  | zero => intro e h; simp [rowSum] at h
  | succ k ih =>
    intro e h
    simp only [rowSum] at h
    by_cases hc : gt g.tgt e = v ∧ 0 < gt g.cap e
    · exact ⟨e, Nat.le_refl _, Nat.lt_add_of_pos_right (Nat.succ_pos k), hc.1, hc.2⟩
    · have : 0 < rowSum g v (e + 1) k := by
        split at h
        · rename_i hv
          have : ¬ 0 < gt g.cap e := fun hp => hc ⟨hv, hp⟩
          omega
        · omega
      obtain ⟨x, a, b, c, d⟩ := ih (e + 1) this
      exact ⟨x, Nat.le_of_succ_le a, Nat.add_right_comm e 1 k ▸ b, c, d⟩

theorem rOf_pos_iff (g : Graph) (hnn : NonNeg g) (u v : Nat) : 0 < rOf g u v ↔ PosEdge g u v := by
  unfold rOf PosEdge
  constructor
  · intro h; exact rowSum_pos_edge g v _ _ h
  · rintro ⟨x, a, b, c, d⟩; exact Int.lt_of_lt_of_le d (cap_le_rowSum g hnn v _ _ x a b c)

theorem rOf_nonneg (g : Graph) (hnn : NonNeg g) (u v : Nat) : 0 ≤ rOf g u v :=
  rowSum_nonneg g hnn v _ _

theorem WF.targetsOK {g : Graph} (h : WF g) : TargetsOK g := by
  intro e hpos
  rcases Nat.lt_or_ge e g.cap.size with hlt | hge
  · exact h.tgtOK e (by rw [← h.capsz]; exact hlt)
  · rw [gt_of_ge _ _ hge] at hpos; exact absurd hpos (by decide)

theorem WF.withCap {g : Graph} (h : WF g) (c : Array Int) (hc : c.size = g.cap.size) :
    WF { g with cap := c } :=
  ⟨h.pos, h.mono, h.last, by show c.size = g.tgt.size; rw [hc, h.capsz], h.tgtOK⟩

def Uniq (g : Graph) : Prop :=
  ∀ u e1 e2, InRange g u e1 → InRange g u e2 → gt g.tgt e1 = gt g.tgt e2 → e1 = e2

def RevClosed (g : Graph) : Prop :=
  ∀ u e, u < g.numNodes → InRange g u e → ∃ e', InRange g (gt g.tgt e) e' ∧ gt g.tgt e' = u

theorem Uniq.withCap {g : Graph} (h : Uniq g) (c : Array Int) : Uniq { g with cap := c } := h
theorem RevClosed.withCap {g : Graph} (h : RevClosed g) (c : Array Int) : RevClosed { g with cap := c } := h

theorem uniq_of_eq {g g' : Graph} (h : Uniq g) (h1 : g'.first = g.first) (h2 : g'.tgt = g.tgt) : Uniq g' := by
  intro u e1 e2 r1 r2 ht
  unfold InRange Graph.beginEdges Graph.deg Graph.endEdges Graph.beginEdges at r1 r2
  rw [h1] at r1 r2; rw [h2] at ht
  exact h u e1 e2 r1 r2 ht

theorem revClosed_of_eq {g g' : Graph} (h : RevClosed g) (h1 : g'.first = g.first) (h2 : g'.tgt = g.tgt) :
    RevClosed g' := by
  intro u e hu r
  unfold InRange Graph.beginEdges Graph.deg Graph.endEdges Graph.beginEdges at r
  unfold Graph.numNodes at hu
  rw [h1] at r hu; rw [h2]
  obtain ⟨e', a, b⟩ := h u e hu r
  refine ⟨e', ?_, b⟩
  unfold InRange Graph.beginEdges Graph.deg Graph.endEdges Graph.beginEdges
  rw [h1]; exact a

theorem findEdge_eq_of_uniq {g : Graph} (hu : Uniq g) (u v e : Nat) (hr : InRange g u e) (ht : gt g.tgt e = v) :
    g.findEdge u v = some e := by
  obtain ⟨x, hx⟩ := findEdge_some_of_edge g u v e hr ht
  obtain ⟨_, hrx, htx⟩ := findEdge_spec g u v x hx
  rw [hx, hu u x e hrx hr (by rw [htx, ht])]

def sumIdx (f : Nat → Int) : Nat → Nat → Int
  | _, 0 => 0
  | e, k + 1 => f e + sumIdx f (e + 1) k

theorem rowSum_eq_sumIdx (g : Graph) (v : Nat) (k : Nat) : ∀ e,
    rowSum g v e k = sumIdx (fun x => if gt g.tgt x = v then gt g.cap x else 0) e k := by
  induction k with
  | zero => intro e; rfl
  | succ k ih => intro e; simp only [rowSum, sumIdx]; rw [ih]

theorem sumIdx_add (f : Nat → Int) (k1 k2 : Nat) : ∀ e,
    sumIdx f e (k1 + k2) = sumIdx f e k1 + sumIdx f (e + k1) k2 := by
  induction k1 with
  | zero => intro e; simp [sumIdx]
  | succ k1 ih =>
    intro e
    have : k1 + 1 + k2 = (k1 + k2) + 1 := by omega
    rw [this]; simp only [sumIdx]; rw [ih (e + 1)]
    have : e + 1 + k1 = e + (k1 + 1) := by omega
    rw [this]; omega

theorem sumIdx_zero (f : Nat → Int) (k : Nat) : ∀ e, (∀ x, e ≤ x → x < e + k → f x = 0) → sumIdx f e k = 0 := by
  induction k with
  | zero => intro e _; rfl
  | succ k ih =>
    intro e h
    simp only [sumIdx]
    rw [h e (Nat.le_refl _) (by omega), ih (e + 1) (fun x h1 h2 => h x (by omega) (by omega))]; rfl

theorem sumIdx_congr (f f' : Nat → Int) (k : Nat) : ∀ e, (∀ x, e ≤ x → x < e + k → f x = f' x) →
    sumIdx f e k = sumIdx f' e k := by
  induction k with
  | zero => intro e _; rfl
  | succ k ih =>
    intro e h
    simp only [sumIdx]
    rw [h e (Nat.le_refl _) (by omega), ih (e + 1) (fun x h1 h2 => h x (by omega) (by omega))]

theorem sumIdx_restrict (f : Nat → Int) (s n a k : Nat) (h1 : s ≤ a) (h2 : a + k ≤ s + n)
    (h0 : ∀ x, s ≤ x → x < s + n → ¬ (a ≤ x ∧ x < a + k) → f x = 0) : sumIdx f s n = sumIdx f a k := by
  -- `[s, s + n)` is `p` indices before `a`, the `k` of the sub-range and `m` after it; the outer two stretches sum to 0
  obtain ⟨p, rfl⟩ : ∃ p, a = s + p := ⟨a - s, (Nat.add_sub_cancel' h1).symm⟩
  rw [Nat.add_assoc] at h2
  obtain ⟨m, rfl⟩ : ∃ m, n = p + k + m := ⟨n - (p + k), (Nat.add_sub_cancel' (Nat.le_of_add_le_add_left h2)).symm⟩
  rw [Nat.add_assoc p k m, sumIdx_add, sumIdx_add,
    sumIdx_zero f p s fun x hx1 hx2 => h0 x hx1 (Nat.lt_of_lt_of_le hx2
        (Nat.add_le_add_left (Nat.le_trans (Nat.le_add_right p k) (Nat.le_add_right _ m)) s))
      fun h => Nat.lt_irrefl _ (Nat.lt_of_lt_of_le hx2 h.1),
    sumIdx_zero f m (s + p + k) fun x hx1 hx2 => h0 x (Nat.le_trans (Nat.le_add_right s (p + k)) (Nat.add_assoc s p k ▸ hx1))
      (by rwa [Nat.add_assoc s p k, Nat.add_assoc s (p + k) m] at hx2) fun h => Nat.lt_irrefl _ (Nat.lt_of_lt_of_le h.2 hx1),
    Int.zero_add, Int.add_zero]

theorem rOf_eq_cap {g : Graph} (hu : Uniq g) (u v e : Nat) (hr : InRange g u e) (ht : gt g.tgt e = v) :
    rOf g u v = gt g.cap e := by
  unfold rOf
  have h0 : ∀ x, g.beginEdges u ≤ x → x < g.beginEdges u + g.deg u → ¬ (e ≤ x ∧ x < e + 1) →
      (if gt g.tgt x = v then gt g.cap x else 0) = 0 := fun x h1 h2 hx => if_neg fun (hv : gt g.tgt x = v) =>
    hx (hu u x e ⟨h1, h2⟩ hr (hv.trans ht.symm) ▸ ⟨Nat.le_refl _, Nat.lt_succ_self _⟩)
  rw [rowSum_eq_sumIdx, sumIdx_restrict _ _ _ e 1 hr.1 hr.2 h0]
  show (if gt g.tgt e = v then gt g.cap e else 0) + 0 = _
  rw [if_pos ht, Int.add_zero]

end Tbx.Flow
