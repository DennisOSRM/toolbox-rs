import Tbx.Proofs.Fenwick
/-
`update` preserves the Fenwick invariant, `from_values` (the linear-time construction) and
`with_size` establish it.
-/
namespace Tbx.Fenwick
open Tbx
open Tbx.PrefixSum (pre)

/-- the upward walk adds x to exactly the nodes whose interval contains q.  At node c: `J2` the nodes below c
    already have their final value, `J3` the nodes from c on are untouched, `J4` from c on a node covers q
    exactly if it covers c -/
theorem upLoop_spec (t0 : Array Int) (x : Int) (q : Nat) (hq : 0 < q) (fuel c : Nat) (t : Array Int)
    (hsz : t.size = t0.size) (hc : q ≤ c) (hf : t0.size ≤ fuel + c)
    (J2 : ∀ p, p < c → gt t p = gt t0 p + (if p - lsb p < q ∧ q ≤ p then x else 0))
    (J3 : ∀ p, c ≤ p → gt t p = gt t0 p)
    (J4 : ∀ r, c ≤ r → ((r - lsb r < q ∧ q ≤ r) ↔ (r - lsb r < c ∧ c ≤ r))) :
    (upLoop x fuel c t).size = t0.size ∧
    ∀ p, p < t0.size → gt (upLoop x fuel c t) p = gt t0 p + (if p - lsb p < q ∧ q ≤ p then x else 0) := by
  induction fuel generalizing c t with
  | zero => exact ⟨hsz, fun p hp => J2 p (by omega)⟩
  | succ fuel ih =>
    unfold upLoop
    by_cases hlt : c < t.size
    · rw [if_pos hlt]
      have hcpos : 0 < c := Nat.lt_of_lt_of_le hq hc
      have hl := lsb_pos c hcpos
      have hlt' : c < c + lsb c := Nat.lt_add_of_pos_right hl
      apply ih
      · rw [size_st, hsz]
      · exact Nat.le_trans hc (Nat.le_add_right _ _)
      · omega
      · intro p hp
        by_cases hpc : p < c
        · rw [gt_st_ne _ _ _ _ (Nat.ne_of_gt hpc)]; exact J2 p hpc
        · by_cases hpe : p = c
          · subst hpe
            rw [gt_st_eq _ _ _ hlt, J3 p (Nat.le_refl _),
              if_pos ((J4 p (Nat.le_refl _)).mpr ⟨Nat.sub_lt hcpos hl, Nat.le_refl _⟩)]
          · have hcp : c < p := by omega
            rw [gt_st_ne _ _ _ _ (Nat.ne_of_lt hcp), J3 p (Nat.le_of_lt hcp)]
            have hnc : ¬ (p - lsb p < q ∧ q ≤ p) := by
              intro h
              have h1 := (J4 p (Nat.le_of_lt hcp)).mp h
              have h2 := (cover_step c p hcpos hcp).mp h1.1
              omega
            rw [if_neg hnc, Int.add_zero]
      · intro p hp
        have hcp : c < p := Nat.lt_of_lt_of_le hlt' hp
        rw [gt_st_ne _ _ _ _ (Nat.ne_of_lt hcp)]; exact J3 p (Nat.le_of_lt hcp)
      · intro r hr
        have hcr : c < r := Nat.lt_of_lt_of_le hlt' hr
        rw [J4 r (Nat.le_of_lt hcr)]
        have hcs := cover_step c r hcpos hcr
        constructor
        · intro h; exact ⟨(hcs.mp h.1).2, hr⟩
        · intro h; exact ⟨hcs.mpr ⟨hr, h.1⟩, Nat.le_of_lt hcr⟩
    · rw [if_neg hlt]
      exact ⟨hsz, fun p hp => J2 p (by omega)⟩

theorem update_spec (t : Array Int) (v : List Int) (hI : FwInv t v) (index : Nat) (x : Int) :
    (index ≥ v.length → Fenwick.update ⟨t⟩ index x = none) ∧
    (index < v.length → ∃ t', Fenwick.update ⟨t⟩ index x = some ⟨t'⟩ ∧ FwInv t' (PrefixSum.update v index x)) := by
  unfold Fenwick.update len
  simp only [hI.size, Nat.add_sub_cancel]
  constructor
  · intro h; rw [if_pos h]
  · intro h
    rw [if_neg (Nat.not_le.mpr h)]
    refine ⟨_, rfl, ?_⟩
    obtain ⟨h1, h2⟩ := upLoop_spec t x (index + 1) (Nat.succ_pos _) (v.length + 1) (index + 1) t rfl
      (Nat.le_refl _) (by rw [hI.size]; exact Nat.le_add_right _ _)
      (fun p hp => by
        rw [if_neg (fun h => Nat.lt_irrefl _ (Nat.lt_of_lt_of_le hp h.2)), Int.add_zero])
      (fun _ _ => rfl) (fun _ _ => Iff.rfl)
    rw [hI.size] at h1 h2
    refine ⟨by rw [h1, length_update], ?_⟩
    intro p hp1 hp2
    rw [length_update] at hp2
    rw [h2 p (Nat.lt_succ_of_le hp2), hI.node p hp1 hp2, pre_update v index x p h,
      pre_update v index x (p - lsb p) h]
    by_cases ha : index < p
    · by_cases hb : index < p - lsb p
      · rw [if_neg (fun h => Nat.lt_irrefl _ (Nat.lt_of_lt_of_le hb (Nat.le_of_lt_succ h.1))), if_pos ha, if_pos hb]
        omega
      · rw [if_pos ⟨Nat.lt_succ_of_le (Nat.le_of_not_lt hb), ha⟩, if_pos ha, if_neg hb]
        omega
    · rw [if_neg (fun h => ha h.2), if_neg ha, if_neg (fun h => ha (Nat.lt_of_lt_of_le h (Nat.sub_le _ _)))]
      omega

/-- `bd p k`: the largest child c < k of p (c + lsb c = p), or the left end p − lsb p if there is none;
    after the first k−1 rounds of the construction, tree[p] covers (p − lsb p, bd p k] and {p} -/
def bd (p : Nat) : Nat → Nat
  | 0 => p - lsb p
  | k + 1 => if k + lsb k = p then k else bd p k

theorem bd_skip (p m k : Nat) (hmk : m ≤ k) (h : ∀ c, m ≤ c → c < k → c + lsb c ≠ p) : bd p k = bd p m := by
  induction k with
  | zero => have : m = 0 := by omega
            subst this; rfl
  | succ k ih =>
    by_cases hm : m = k + 1
    · subst hm; rfl
    · have hne := h k (by omega) (by omega)
      simp only [bd, if_neg hne]
      exact ih (by omega) (fun c h1 h2 => h c h1 (by omega))

theorem bd_of_child (p k c : Nat) (hck : c < k) (hc : c + lsb c = p)
    (h : ∀ c', c < c' → c' < k → c' + lsb c' ≠ p) : bd p k = c := by
  rw [bd_skip p (c + 1) k hck h]
  exact if_pos hc

/-- no child of p below k: only children above the left end of p need to be excluded, there are no others
    (`child_above`) -/
theorem bd_of_none (p k : Nat) (hp : 0 < p) (h : ∀ c, p - lsb p < c → c < k → c + lsb c ≠ p) :
    bd p k = p - lsb p := by
  rw [bd_skip p 0 k (Nat.zero_le _) (fun c _ h2 heq => by
    by_cases hc0 : c = 0
    · subst hc0; rw [lsb_zero] at heq; omega
    · have := child_above c (by omega)
      rw [heq] at this
      exact h c this h2 heq)]
  rfl

theorem bd_child (k : Nat) (hk : 0 < k) : bd (k + lsb k) k = k - lsb k := by
  have hl := lsb_pos k hk
  have hl2 := lsb_le k
  have hgap : ∀ c, k - lsb k < c → c < k → c + lsb c ≠ k + lsb k := fun c h1 h2 heq => by
    have := child_gap k c (by omega) h2 heq
    omega
  rcases child_prev k hk with h | h
  · exact bd_of_child _ k _ (by omega) h hgap
  · rw [h]
    exact bd_of_none _ k (by omega) (fun c h1 => hgap c (by omega))

theorem bd_full (p k : Nat) (hp : 0 < p) (hpk : p ≤ k) : bd p k = p - 1 := by
  have hch : ∀ c, p - 1 < c → c < k → c + lsb c ≠ p := fun c h1 _ heq => by
    have := lsb_pos c (by omega)
    omega
  obtain ⟨a, rfl | rfl⟩ := binary_cases p
  · -- p − 1 is odd, hence a child of p
    refine bd_of_child _ k _ (by omega) ?_ hch
    rw [lsb_odd (2 * a - 1) (by omega)]
    omega
  · -- p is odd: its left end is p − 1
    have e : 2 * a + 1 - 1 = 2 * a + 1 - lsb (2 * a + 1) := by rw [lsb_two_mul_add_one]
    rw [e] at hch ⊢
    exact bd_of_none _ k hp hch

theorem gt_cons_values (v : List Int) (p : Nat) (hp : 1 ≤ p) :
    gt ((#[0] : Array Int) ++ v.toArray) p = v.getD (p - 1) 0 := by
  simp only [gt, Array.getD_eq_getD_getElem?, Array.getElem?_append, List.getElem?_toArray,
    List.getD_eq_getElem?_getD]
  have : ¬ (p < (#[0] : Array Int).size) := by simp; omega
  rw [if_neg this]
  simp

theorem fvLoop_spec (v : List Int) (fuel k : Nat) (t : Array Int) (hk : 1 ≤ k)
    (hsz : t.size = v.length + 1) (hf : v.length + 1 ≤ fuel + k)
    (K : ∀ p, 1 ≤ p → p ≤ v.length → gt t p = v.getD (p - 1) 0 + (pre v (bd p k) - pre v (p - lsb p))) :
    FwInv (fvLoop fuel k t) v := by
  have finish : ∀ (t : Array Int) (k : Nat), t.size = v.length + 1 → v.length + 1 ≤ k →
      (∀ p, 1 ≤ p → p ≤ v.length → gt t p = v.getD (p - 1) 0 + (pre v (bd p k) - pre v (p - lsb p))) →
      FwInv t v := by
    intro t k hsz hk K
    refine ⟨hsz, ?_⟩
    intro p hp1 hp2
    rw [K p hp1 hp2, bd_full p k hp1 (Nat.le_trans hp2 (Nat.le_of_succ_le hk)), pre_pred v p hp1]
    omega
  induction fuel generalizing k t with
  | zero => exact finish t k hsz (by omega) K
  | succ fuel ih =>
    unfold fvLoop
    by_cases hlt : k < t.size
    · rw [if_pos hlt]
      have hkn : k ≤ v.length := Nat.le_of_lt_succ (Nat.lt_of_lt_of_eq hlt hsz)
      have hl := lsb_pos k hk
      -- tree[k] is final when its round starts
      have hfin : gt t k = pre v k - pre v (k - lsb k) := by
        rw [K k hk hkn, bd_full k k hk (Nat.le_refl _), pre_pred v k hk]
        omega
      dsimp only
      by_cases hpar : k + lsb k < t.size
      · rw [if_pos hpar]
        apply ih
        · exact Nat.le_add_left 1 k
        · rw [size_st, hsz]
        · omega
        · intro p hp1 hp2
          by_cases hpp : p = k + lsb k
          · subst hpp
            rw [gt_st_eq _ _ _ hpar, K _ hp1 hp2, hfin, bd_child k hk]
            simp only [bd, if_true]
            omega
          · rw [gt_st_ne _ _ _ _ (fun h => hpp h.symm), K p hp1 hp2]
            have : ¬ (k + lsb k = p) := fun h => hpp h.symm
            simp only [bd, if_neg this]
      · rw [if_neg hpar]
        apply ih
        · exact Nat.le_add_left 1 k
        · exact hsz
        · omega
        · intro p hp1 hp2
          rw [K p hp1 hp2]
          have : ¬ (k + lsb k = p) := by omega
          simp only [bd, if_neg this]
    · rw [if_neg hlt]
      exact finish t k hsz (by omega) K

theorem fromValues_spec (v : List Int) : FwInv (fromValues v).tree v := by
  unfold fromValues
  have hsz : ((#[0] : Array Int) ++ v.toArray).size = v.length + 1 := by simp
  apply fvLoop_spec v _ 1 _ (Nat.le_refl _) hsz (by rw [hsz]; omega)
  intro p hp1 _
  rw [gt_cons_values v p hp1]
  have : bd p 1 = p - lsb p := by
    simp only [bd]
    have : ¬ (0 + lsb 0 = p) := by rw [lsb_zero]; omega
    rw [if_neg this]
  rw [this]
  omega

theorem withSize_spec (n : Nat) : FwInv (withSize n).tree (List.replicate n 0) := by
  refine ⟨by simp [withSize], ?_⟩
  intro p _ _
  have h0 : ∀ k, pre (List.replicate n (0 : Int)) k = 0 := by
    intro k
    induction k with
    | zero => exact pre_zero _
    | succ k ih =>
      rw [pre_succ, ih, List.getD_eq_getElem?_getD]
      by_cases hk : k < n
      · simp [hk]
      · simp [hk]
  rw [h0, h0]
  exact gt_replicate_default (n + 1) p

end Tbx.Fenwick
