import Tbx.Proofs.AHeapInvUp
import Tbx.Proofs.AHeapInvDown
/-
C10: what `insert`, `decrease_key`, `data_mut`, `decrease_key_and_update_data`, `delete_min` write: for each its equation
(the state just before `up_heap` is `insertPre` / `decPre`; `delete_min` goes through `delHeap` and `delMid`) and that
the constants `wmin`, `wmax` stay (`*_params`: the only lemmas of the heap proofs that the search proofs of C08/C09 use
beside the interface `HeapLaws`).
-/
namespace Tbx.AHeap
open Tbx

theorem lookup_cons_eq (idx : List (Int × Nat)) (id : Int) (n : Nat) (id' : Int) :
    lookup ((id, n) :: idx) id' = if id' = id then some n else lookup idx id' := by
  unfold lookup
  rw [List.lookup_cons]
  by_cases h : id' = id
  · simp [h]
  · have : (id' == id) = false := by simp [h]
    rw [this]; simp [h]

/-- the state of `insert` just before `up_heap` -/
def insertPre (s : Heap) (id w d : Int) : Heap :=
  { s with heap := s.heap.push ⟨s.nodes.size, w⟩,
           nodes := s.nodes.push ⟨id, s.heap.size, w, d⟩,
           idx := (id, s.nodes.size) :: s.idx }

theorem insert_eq (s : Heap) (id w d : Int) : insert s id w d = upHeap (insertPre s id w d) s.heap.size := rfl

theorem insert_params (s : Heap) (id w d : Int) :
    (insert s id w d).wmin = s.wmin ∧ (insert s id w d).wmax = s.wmax :=
  ⟨upHeap_wmin _ _, upHeap_wmax _ _⟩

theorem PtrX.push {h : Array Elem} {ns : Array Node} (P : PtrX h ns ns.size) (id w d : Int) :
    PtrX (h.push ⟨ns.size, w⟩) (ns.push ⟨id, h.size, w, d⟩) (ns.push ⟨id, h.size, w, d⟩).size := by
  refine ⟨?_, ?_⟩
  · intro k k1 k2
    rw [Array.size_push] at k2 ⊢
    by_cases e : k = h.size
    · rw [e, gt_push_eq, gt_push_eq]
      exact ⟨Nat.lt_succ_self _, Nat.ne_of_lt (Nat.lt_succ_self _), rfl, rfl⟩
    · have k3 : k < h.size := Nat.lt_of_le_of_ne (Nat.le_of_lt_succ k2) e
      rw [gt_push_lt _ _ _ k3]
      obtain ⟨a, _, b, c⟩ := P.back k k1 k3
      rw [gt_push_lt _ _ _ a]
      exact ⟨Nat.lt_succ_of_lt a, Nat.ne_of_lt (Nat.lt_succ_of_lt a), b, c⟩
  · intro i i1 _ i3
    rw [Array.size_push] at i1 ⊢
    by_cases e : i = ns.size
    · rw [e, gt_push_eq, gt_push_eq]
      exact ⟨Nat.lt_succ_self _, rfl⟩
    · have i2 : i < ns.size := Nat.lt_of_le_of_ne (Nat.le_of_lt_succ i1) e
      rw [gt_push_lt _ _ _ i2] at i3 ⊢
      obtain ⟨a, b⟩ := P.fwd i i2 e i3
      rw [gt_push_lt _ _ _ a]
      exact ⟨Nat.lt_succ_of_lt a, b⟩

theorem IdMap.push {idx : List (Int × Nat)} {ns : Array Node} (M : IdMap idx ns) (id : Int) (n : Node)
    (hn : n.id = id) (hfresh : lookup idx id = none) : IdMap ((id, ns.size) :: idx) (ns.push n) := by
  intro id' i
  rw [lookup_cons_eq, Array.size_push]
  by_cases e2 : i = ns.size
  · rw [e2, gt_push_eq, hn]
    by_cases e : id' = id
    · rw [if_pos e, e]; exact ⟨fun _ => ⟨Nat.lt_succ_self _, rfl⟩, fun _ => rfl⟩
    · rw [if_neg e, M id' ns.size]
      exact ⟨fun h => absurd h.1 (Nat.lt_irrefl _), fun h => absurd h.2.symm e⟩
  · by_cases e : id' = id
    · rw [if_pos e, e]
      refine ⟨fun h => absurd (Option.some.inj h).symm e2, fun h => ?_⟩
      have i2 : i < ns.size := Nat.lt_of_le_of_ne (Nat.le_of_lt_succ h.1) e2
      rw [gt_push_lt _ _ _ i2] at h
      have := (M id i).2 ⟨i2, h.2⟩
      rw [hfresh] at this; cases this
    · rw [if_neg e, M id' i]
      constructor
      · rintro ⟨h1, h2⟩
        rw [gt_push_lt _ _ _ h1]; exact ⟨Nat.lt_succ_of_lt h1, h2⟩
      · rintro ⟨h1, h2⟩
        have i2 : i < ns.size := Nat.lt_of_le_of_ne (Nat.le_of_lt_succ h1) e2
        rw [gt_push_lt _ _ _ i2] at h2; exact ⟨i2, h2⟩

/-- the state of `decrease_key` just before `up_heap` -/
def decPre (s : Heap) (index : Nat) (w : Int) : Heap :=
  { s with heap := st s.heap (gt s.nodes index).key { gt s.heap (gt s.nodes index).key with weight := w },
           nodes := st s.nodes index { gt s.nodes index with weight := w } }

theorem decreaseKey_eq (s : Heap) (id w : Int) :
    decreaseKey s id w = (lookup s.idx id).map fun i => upHeap (decPre s i w) (gt s.nodes i).key := by
  unfold decreaseKey; cases lookup s.idx id <;> rfl

theorem decreaseKey_params {s s' : Heap} {id w : Int} (h : decreaseKey s id w = some s') :
    s'.wmin = s.wmin ∧ s'.wmax = s.wmax := by
  rw [decreaseKey_eq] at h
  obtain ⟨i, _, rfl⟩ := Option.map_eq_some_iff.mp h
  exact ⟨upHeap_wmin _ _, upHeap_wmax _ _⟩

theorem PtrX.setWeight {h : Array Elem} {ns : Array Node} {x i : Nat} (P : PtrX h ns x) (hi : i < ns.size)
    (hx : i ≠ x) (hk : (gt ns i).key ≠ 0) (w : Int) :
    PtrX (st h (gt ns i).key { gt h (gt ns i).key with weight := w }) (st ns i { gt ns i with weight := w })
      x := by
  obtain ⟨f1, f2⟩ := P.fwd i hi hx hk
  refine P.of_cols (size_st _ _ _) (size_st _ _ _) (fun k => gt_st_field Elem.index _ _ _ _ rfl)
    (fun j => gt_st_field Node.key _ _ _ _ rfl) fun k k1 k2 => ?_
  obtain ⟨_, _, c3, c4⟩ := P.back k k1 k2
  by_cases e : k = (gt ns i).key
  · rw [e, f2, gt_st_eq _ _ _ hi, gt_st_eq _ _ _ f1]
  · rw [gt_st_ne _ _ _ _ (Ne.symm e), gt_st_ne _ _ _ _ (fun e' => e (by rw [← c3, ← e']))]
    exact c4

theorem setData_eq (s : Heap) (id d : Int) :
    setData s id d =
      (lookup s.idx id).map fun i => { s with nodes := st s.nodes i { gt s.nodes i with data := d } } := by
  unfold setData; cases lookup s.idx id <;> rfl

theorem setData_params {s s' : Heap} {id d : Int} (h : setData s id d = some s') :
    s'.wmin = s.wmin ∧ s'.wmax = s.wmax := by
  rw [setData_eq] at h
  obtain ⟨i, _, rfl⟩ := Option.map_eq_some_iff.mp h
  exact ⟨rfl, rfl⟩

theorem decreaseKeyData_params {s s' : Heap} {id w d : Int} (h : decreaseKeyData s id w d = some s') :
    s'.wmin = s.wmin ∧ s'.wmax = s.wmax := by
  unfold decreaseKeyData at h
  cases h1 : decreaseKey s id w with
  | none => rw [h1] at h; cases h
  | some s1 =>
    rw [h1] at h
    have a := decreaseKey_params h1
    have b := setData_params h
    exact ⟨b.1.trans a.1, b.2.trans a.2⟩

/-- heap array of `delete_min` after `swap(1, last); pop()` -/
def delHeap (s : Heap) : Array Elem := (st s.heap 1 (gt s.heap (s.heap.size - 1))).pop

/-- state of `delete_min` after the optional `down_heap(1)` -/
def delMid (s : Heap) : Heap :=
  if (delHeap s).size > 1 then downHeap { s with heap := delHeap s } 1 else { s with heap := delHeap s }

theorem deleteMin_eq (s : Heap) :
    deleteMin s = if s.heap.size ≤ 1 then none else
      some ({ delMid s with nodes := setKey (delMid s).nodes (gt s.heap 1).index 0 },
        (gt (setKey (delMid s).nodes (gt s.heap 1).index 0) (gt s.heap 1).index).id) := rfl

theorem delMid_params (s : Heap) :
    (delMid s).idx = s.idx ∧ (delMid s).wmin = s.wmin ∧ (delMid s).wmax = s.wmax := by
  unfold delMid
  split
  · exact ⟨downHeap_idx _ _, downHeap_wmin _ _, downHeap_wmax _ _⟩
  · exact ⟨rfl, rfl, rfl⟩

theorem deleteMin_params {s s' : Heap} {u : Int} (h : deleteMin s = some (s', u)) :
    s'.wmin = s.wmin ∧ s'.wmax = s.wmax := by
  rw [deleteMin_eq] at h
  by_cases hs : s.heap.size ≤ 1
  · rw [if_pos hs] at h; cases h
  · rw [if_neg hs] at h
    obtain ⟨rfl, -⟩ := Prod.mk.inj (Option.some.inj h)
    exact (delMid_params s).2

end Tbx.AHeap
