import Tbx.Proofs.AHeapInvDel
import Tbx.Proofs.AHeapInvObs
/-
C10: the preconditions of the operations read on the reference state, and the vocabulary of histories in which
Props/C10 states the refinement.
-/
namespace Tbx.AHeap
open Tbx

theorem inserted_abs (s : Heap) (I : Inv s) (id : Int) : PQ.inserted (abs s) id = (lookup s.idx id).isSome := by
  unfold PQ.inserted
  rw [find_abs s I.idmap, Option.isSome_map]

theorem lookup_of_contains (s : Heap) (I : Inv s) (id : Int) (h : PQ.contains (abs s) id = true) :
    ∃ i, lookup s.idx id = some i ∧ (gt s.nodes i).key ≠ 0 ∧
      PQ.weight (abs s) s.wmax id = (gt s.nodes i).weight := by
  unfold PQ.contains at h
  unfold PQ.weight
  rw [find_abs s I.idmap] at h ⊢
  cases hl : lookup s.idx id with
  | none => rw [hl] at h; cases h
  | some i => rw [hl] at h; exact ⟨i, rfl, by simpa [ent] using h, rfl⟩

theorem flush_post (s : Heap) (I : Inv s) :
    len (flush s) = 0 ∧
    ∀ id, contains (flush s) id = false ∧ (inserted s id = true → removed (flush s) id = true) ∧
      inserted (flush s) id = inserted s id ∧ weight (flush s) id = weight s id := by
  obtain ⟨I', _, hs⟩ := flush_spec s I
  refine ⟨by unfold len; omega, fun id => ?_⟩
  have hidx : (flush s).idx = s.idx := rfl
  unfold contains removed inserted weight
  rw [hidx]
  cases hl : lookup s.idx id with
  | none => simp; rfl
  | some i => simp [flush_nodes s I i ((I.idmap id i).1 hl).1]

inductive Op where
  | ins (id w d : Int) | dec (id w : Int) | decd (id w d : Int) | del | flush | clear | setd (id d : Int)
deriving Repr, DecidableEq

/-- one step of the model; `none` where the Rust would panic; the second component is the id
returned by `delete_min` -/
def step (s : Heap) : Op → Option (Heap × Option Int)
  | .ins id w d => some (insert s id w d, none)
  | .dec id w => (decreaseKey s id w).map fun s' => (s', none)
  | .decd id w d => (decreaseKeyData s id w d).map fun s' => (s', none)
  | .del => (deleteMin s).map fun r => (r.1, some r.2)
  | .flush => some (flush s, none)
  | .clear => some (clear s, none)
  | .setd id d => (setData s id d).map fun s' => (s', none)

/-- the precondition of an operation, read in the reference state (the property's quantifier:
fresh ids, decreases of contained ids to a weight not larger, delete_min on a non-empty queue;
weights not below `Weight::min_value()`) -/
def Pre (wmin wmax : Int) (q : PQ.Q) : Op → Prop
  | .ins id w _ => PQ.inserted q id = false ∧ wmin ≤ w
  | .dec id w => PQ.contains q id = true ∧ wmin ≤ w ∧ w ≤ PQ.weight q wmax id
  | .decd id w _ => PQ.contains q id = true ∧ wmin ≤ w ∧ w ≤ PQ.weight q wmax id
  | .del => PQ.len q ≠ 0
  | .flush => True
  | .clear => True
  | .setd id _ => PQ.inserted q id = true

/-- the reference queue's step relation: `delete_min` may return any contained id of minimal weight -/
def SpecStep (q : PQ.Q) : Op → Option Int → PQ.Q → Prop
  | .ins id w d, r, q' => r = none ∧ q' = PQ.insert q id w d
  | .dec id w, r, q' => r = none ∧ q' = PQ.decreaseKey q id w
  | .decd id w d, r, q' => r = none ∧ q' = PQ.setData (PQ.decreaseKey q id w) id d
  | .del, r, q' => ∃ id, r = some id ∧ PQ.IsMin q id ∧ q' = PQ.remove q id
  | .flush, r, q' => r = none ∧ q' = PQ.flush q
  | .clear, r, q' => r = none ∧ q' = PQ.clear q
  | .setd id d, r, q' => r = none ∧ q' = PQ.setData q id d

def run (s : Heap) : List Op → Option (Heap × List (Option Int))
  | [] => some (s, [])
  | op :: ops =>
    match step s op with
    | none => none
    | some (s', r) =>
      match run s' ops with
      | none => none
      | some (t, rs) => some (t, r :: rs)

def SpecRun : PQ.Q → List Op → List (Option Int) → PQ.Q → Prop
  | q, [], [], q' => q' = q
  | q, op :: ops, r :: rs, q' => ∃ q1, SpecStep q op r q1 ∧ SpecRun q1 ops rs q'
  | _, _ :: _, [], _ => False
  | _, [], _ :: _, _ => False

/-- in-domain history: every precondition holds in the reference state (`abs`) the model has reached -/
def ValidFrom (s : Heap) : List Op → Prop
  | [] => True
  | op :: ops => Pre s.wmin s.wmax (abs s) op ∧ ∀ s' r, step s op = some (s', r) → ValidFrom s' ops

/-- purely reference-level validity: every precondition holds whichever minima are removed -/
def Valid (wmin wmax : Int) : PQ.Q → List Op → Prop
  | _, [] => True
  | q, op :: ops => Pre wmin wmax q op ∧ ∀ r q', SpecStep q op r q' → Valid wmin wmax q' ops

end Tbx.AHeap
