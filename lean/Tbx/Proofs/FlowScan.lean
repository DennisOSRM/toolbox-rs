import Tbx.Model.Flow
import Tbx.Proofs.SumTo
/-
One pop-and-scan of a worklist search over a CSR graph, stated once.  A marking is an array `a` (entry `v` is marked
iff `p (gt a v)`, unmarked iff `q (gt a v)`), the worklist a list `wl`, `adm` the test an edge has to pass.
`Scan p q n (Heads g adm e k) a wl a' wl'` says what scanning the edges `[e, e + k)` does to marking and worklist;
it is built edge by edge (`edge_nil`, `edge_skip`, `edge_mark`: one per branch of an edge loop).  `Scan.closed` is the
closure argument of the surrounding loop.  The two instances are the sweep of `assignment` (FlowSweep.lean), which
also reads the other fields, `meas` being its termination measure (`cntP q a n` counts the entries below `n` with
property `q`), and Dinic's `dfs` up to its first augmentation (FlowDinicPhase.lean), which reads `Scan.closed` only:
its measure has to survive augmentations too and is carried by the loop itself, over `unm` (the instance of `cntP`
for parent / level arrays, whose marked entries, `Marked`, are those other than `INVALID_NODE_ID`).
-/
namespace Tbx.Flow
open Tbx

section
variable {α : Type} [Inhabited α] (p : α → Prop) [DecidablePred p]

def cntP (a : Array α) : Nat → Nat
  | 0 => 0
  | k + 1 => cntP a k + (if p (gt a k) then 1 else 0)

theorem cntP_eq (a : Array α) : ∀ k, cntP p a k = cntTo (fun i => p (gt a i)) k
  | 0 => rfl
  | k + 1 => congrArg (· + _) (cntP_eq a k)

theorem cntP_congr {a b : Array α} (h : ∀ i, p (gt a i) ↔ p (gt b i)) (k : Nat) : cntP p a k = cntP p b k := by
  rw [cntP_eq, cntP_eq]; exact cntTo_congr _ _ k fun i _ => h i

theorem cntP_st_mark (a : Array α) (v : Nat) (x : α) (k : Nat) (hv : v < k) (hsz : v < a.size)
    (hI : p (gt a v)) (hx : ¬ p x) : cntP p (st a v x) k + 1 = cntP p a k := by
  rw [cntP_eq, cntP_eq]; exact cntTo_st_unset p a v x k hv hsz hI hx

theorem cntP_st_same (a : Array α) (v : Nat) (x : α) (k : Nat) (h : p x ↔ p (gt a v)) :
    cntP p (st a v x) k = cntP p a k := by
  refine cntP_congr p (fun i => ?_) k
  rw [gt_st]
  split
  · rename_i hh; rw [← hh.1]; exact h
  · exact Iff.rfl

theorem cntP_replicate (c : α) (hc : p c) (n k : Nat) (hk : k ≤ n) : cntP p (Array.replicate n c) k = k := by
  rw [cntP_eq]; exact cntTo_all _ k fun i hi => (gt_replicate n c i (Nat.lt_of_lt_of_le hi hk)).symm ▸ hc

end

/-- number of indices `i < k` whose entry is `INV`: `cntP (· = INV)` written out (`unm_eq_cntP`).  Trap: Lean compiles
    this `match` with the auxiliary matcher of `cntP` above (definitions of one module that match alike share one),
    so what `unm` unfolds to depends on `cntP` being a definition of this module that stands before it. -/
def unm (a : Array Nat) : Nat → Nat
  | 0 => 0
  | k + 1 => unm a k + (if gt a k = INV then 1 else 0)

theorem unm_eq_cntP (a : Array Nat) (k : Nat) : unm a k = cntP (· = INV) a k := by
  induction k with
  | zero => rfl
  | succ k ih => simp only [unm, cntP, ih]

theorem unm_le (a : Array Nat) (k : Nat) : unm a k ≤ k := by
  rw [unm_eq_cntP, cntP_eq]; exact cntTo_le _ k

theorem unm_st_mark (a : Array Nat) (v x k : Nat) (hv : v < k) (hsz : v < a.size) (hI : gt a v = INV)
    (hx : x ≠ INV) : unm (st a v x) k + 1 = unm a k := by
  rw [unm_eq_cntP, unm_eq_cntP]; exact cntP_st_mark _ a v x k hv hsz hI hx

theorem unm_st_remark (a : Array Nat) (v x k : Nat) (hI : gt a v ≠ INV) (hx : x ≠ INV) :
    unm (st a v x) k = unm a k := by
  rw [unm_eq_cntP, unm_eq_cntP]
  exact cntP_st_same _ a v x k ⟨fun h => absurd h hx, fun h => absurd h hI⟩

theorem unm_congr {a b : Array Nat} (h : ∀ x, gt a x = gt b x) (k : Nat) : unm a k = unm b k := by
  rw [unm_eq_cntP, unm_eq_cntP]; exact cntP_congr _ (fun i => by rw [h i]) k

theorem unm_replicate (n k : Nat) (hk : k ≤ n) : unm (Array.replicate n INV) k = k := by
  rw [unm_eq_cntP]; exact cntP_replicate (· = INV) INV rfl n k hk

def Marked (ps : Array Nat) (v : Nat) : Prop := gt ps v ≠ INV

theorem marked_st_mono (ps : Array Nat) (v node x : Nat) (hnode : node ≠ INV) (h : Marked ps x) :
    Marked (st ps v node) x := by
  unfold Marked at *
  rw [gt_st]; split
  · exact hnode
  · exact h

section
variable {α : Type} [Inhabited α] (p : α → Prop)

theorem marked_st (a : Array α) {x : Nat} {y : α} (hx : x < a.size) (hy : p y) (v : Nat) :
    p (gt (st a x y) v) ↔ p (gt a v) ∨ v = x := by
  rw [gt_st_lt _ _ _ _ hx]
  split
  · rename_i h; exact ⟨fun _ => Or.inr h, fun _ => hy⟩
  · rename_i h; exact ⟨Or.inl, fun h' => h'.resolve_right h⟩

variable (q : α → Prop) [DecidablePred q]

structure Scan (n : Nat) (A : Nat → Prop) (a : Array α) (wl : List Nat) (a' : Array α) (wl' : List Nat) : Prop where
  size : a'.size = a.size
  mono : ∀ v, p (gt a v) → p (gt a' v)
  keep : ∀ v, v ∈ wl → v ∈ wl'
  all  : ∀ v, A v → p (gt a' v)
  new  : ∀ v, p (gt a' v) → p (gt a v) ∨ (v ∈ wl' ∧ A v)
  onWl : ∀ v, v ∈ wl' → v ∈ wl ∨ p (gt a' v)
  meas : wl'.length + cntP q a' n = wl.length + cntP q a n

end

def Heads (g : Graph) (adm : Nat → Prop) (e k v : Nat) : Prop :=
  ∃ e', e ≤ e' ∧ e' < e + k ∧ gt g.tgt e' = v ∧ adm e'

variable {g : Graph} {adm : Nat → Prop} {e k : Nat}

theorem Heads.succ {v : Nat} : Heads g adm e (k + 1) v ↔ (gt g.tgt e = v ∧ adm e) ∨ Heads g adm (e + 1) k v := by
  constructor
  · rintro ⟨e', h1, h2, h3⟩
    by_cases he : e' = e
    · exact Or.inl (he ▸ h3)
    · exact Or.inr ⟨e', Nat.lt_of_le_of_ne h1 (Ne.symm he), Nat.add_right_comm e 1 k ▸ h2, h3⟩
  · rintro (h | ⟨e', h1, h2, h3⟩)
    · exact ⟨e, Nat.le_refl _, Nat.lt_add_of_pos_right (Nat.succ_pos k), h⟩
    · exact ⟨e', Nat.le_of_succ_le h1, Nat.add_right_comm e 1 k ▸ h2, h3⟩

variable {α : Type} [Inhabited α] {p q : α → Prop} [DecidablePred q] {n : Nat} {a a' : Array α} {wl wl1 wl' : List Nat}

theorem Scan.edge_nil : Scan p q n (Heads g adm e 0) a wl a wl :=
  ⟨rfl, fun _ h => h, fun _ h => h, fun _ ⟨_, h1, h2, _⟩ => absurd (Nat.lt_of_lt_of_le h2 h1) (Nat.lt_irrefl _),
    fun _ h => Or.inl h, fun _ h => Or.inl h, rfl⟩

theorem Scan.edge_skip (h : Scan p q n (Heads g adm (e + 1) k) a wl a' wl') (hs : adm e → p (gt a (gt g.tgt e))) :
    Scan p q n (Heads g adm e (k + 1)) a wl a' wl' :=
  ⟨h.size, h.mono, h.keep, fun v hv => (Heads.succ.mp hv).elim (fun hh => h.mono v (hh.1 ▸ hs hh.2)) (h.all v),
    fun v hv => (h.new v hv).imp_right fun hh => ⟨hh.1, Heads.succ.mpr (Or.inr hh.2)⟩, h.onWl, h.meas⟩

theorem Scan.edge_mark {y : α} (h : Scan p q n (Heads g adm (e + 1) k) (st a (gt g.tgt e) y) wl1 a' wl') (ha : adm e)
    (hn : gt g.tgt e < n) (hx : gt g.tgt e < a.size) (hq : q (gt a (gt g.tgt e))) (hy : p y) (hqy : ¬ q y)
    (hl : wl1.length = wl.length + 1) (hW : ∀ v, v ∈ wl1 ↔ v ∈ wl ∨ v = gt g.tgt e) :
    Scan p q n (Heads g adm e (k + 1)) a wl a' wl' := by
  have hM := marked_st p a hx hy
  have hx' : p (gt a' (gt g.tgt e)) ∧ gt g.tgt e ∈ wl' :=
    ⟨h.mono _ ((hM _).mpr (Or.inr rfl)), h.keep _ ((hW _).mpr (Or.inr rfl))⟩
  refine ⟨h.size.trans (size_st ..), fun v hv => h.mono v ((hM v).mpr (Or.inl hv)),
    fun v hv => h.keep v ((hW v).mpr (Or.inl hv)),
    fun v hv => (Heads.succ.mp hv).elim (fun hh => hh.1 ▸ hx'.1) (h.all v), fun v hv => ?_,
    fun v hv => (h.onWl v hv).elim (fun h1 => ((hW v).mp h1).imp_right fun (hh : v = gt g.tgt e) => hh ▸ hx'.1) Or.inr,
    ?_⟩
  · rcases h.new v hv with h1 | h1
    · exact ((hM v).mp h1).imp_right fun (hh : v = gt g.tgt e) => ⟨hh ▸ hx'.2, Heads.succ.mpr (Or.inl ⟨hh.symm, ha⟩)⟩
    · exact Or.inr ⟨h1.1, Heads.succ.mpr (Or.inr h1.2)⟩
  · rw [h.meas, hl, ← cntP_st_mark q a _ y n hn hx hq hqy, Nat.add_right_comm, Nat.add_assoc]

def WClosed (E : Nat → Nat → Prop) (M W : Nat → Prop) : Prop := ∀ v, M v → W v ∨ ∀ w, E v w → M w

theorem Scan.closed {E : Nat → Nat → Prop} {wl0 : List Nat} {u : Nat} (h : Scan p q n (E u) a wl a' wl')
    (hc : WClosed E (p <| gt a ·) (· ∈ wl0)) (hpop : ∀ v, v ∈ wl0 → v = u ∨ v ∈ wl) :
    WClosed E (p <| gt a' ·) (· ∈ wl') := by
  intro v hv
  rcases h.new v hv with h1 | h1
  · rcases hc v h1 with h2 | h2
    · rcases hpop v h2 with rfl | h3
      · exact Or.inr h.all
      · exact Or.inl (h.keep v h3)
    · exact Or.inr fun w hw => h.mono w (h2 w hw)
  · exact Or.inl h1.1

end Tbx.Flow
