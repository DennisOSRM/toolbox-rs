import Tbx.Proofs.FlowScan
import Tbx.Proofs.FlowGraph
/-
C02 `assign_closure`: the stack sweep of `assignment` marks exactly the nodes reachable from the source
through residual edges of positive capacity (DESIGN.md Appendix A.4 specialised to the array model).
Core Lean only.
-/
namespace Tbx.Flow
open Tbx

theorem gt_replicate_false (n v : Nat) : gt (Array.replicate n false) v = false :=
  gt_replicate_default n v

theorem sweepEdges_mark (g : Graph) (e k : Nat) (reach : Array Bool) (stack : List Nat)
    (h1 : gt reach (gt g.tgt e) = false) (h2 : 0 < gt g.cap e) :
    sweepEdges g e (k + 1) reach stack =
      sweepEdges g (e + 1) k (st reach (gt g.tgt e) true) (gt g.tgt e :: stack) := by
  rw [sweepEdges, if_pos]
  simp only [h1, Bool.not_false, Bool.true_and, decide_eq_true_eq]; exact h2

theorem sweepEdges_skip (g : Graph) (e k : Nat) (reach : Array Bool) (stack : List Nat)
    (h : ¬ (gt reach (gt g.tgt e) = false ∧ 0 < gt g.cap e)) :
    sweepEdges g e (k + 1) reach stack = sweepEdges g (e + 1) k reach stack := by
  rw [sweepEdges, if_neg]
  simp only [Bool.and_eq_true, Bool.not_eq_eq_eq_not, Bool.not_true, decide_eq_true_eq]; exact h

theorem sweepEdges_spec (g : Graph) (n : Nat) (hT : ∀ e, 0 < gt g.cap e → gt g.tgt e < n) (k : Nat) :
    ∀ (e : Nat) (reach : Array Bool) (stack : List Nat), reach.size = n →
    Scan (· = true) (· = false) n (Heads g (0 < gt g.cap ·) e k) reach stack
      (sweepEdges g e k reach stack).1 (sweepEdges g e k reach stack).2 := by
  induction k with
  | zero => intro e reach stack _; exact Scan.edge_nil
  | succ k ih =>
    intro e reach stack hsz
    by_cases hc : gt reach (gt g.tgt e) = false ∧ 0 < gt g.cap e
    · rw [sweepEdges_mark g e k reach stack hc.1 hc.2]
      exact (ih (e + 1) _ _ ((size_st ..).trans hsz)).edge_mark hc.2 (hT e hc.2) (hsz ▸ hT e hc.2) hc.1 rfl
        nofun rfl fun _ => List.mem_cons.trans or_comm
    · rw [sweepEdges_skip g e k reach stack hc]
      refine (ih (e + 1) reach stack hsz).edge_skip fun hp => ?_
      cases hm : gt reach (gt g.tgt e)
      · exact absurd ⟨hm, hp⟩ hc
      · rfl

structure SweepInv (g : Graph) (src : Nat) (reach : Array Bool) (stack : List Nat) : Prop where
  hsize   : reach.size = g.numNodes
  hsrc    : gt reach src = true
  hclosed : WClosed (PosEdge g) (gt reach · = true) (· ∈ stack)
  hsound  : ∀ v, gt reach v = true → ReachG g src v
  honStk  : ∀ v, v ∈ stack → gt reach v = true

theorem sweepLoop_run (g : Graph) (src : Nat) (hT : TargetsOK g) (fuel : Nat) :
    ∀ (reach : Array Bool) (stack : List Nat), SweepInv g src reach stack →
    stack.length + cntP (· = false) reach g.numNodes < fuel →
    ∃ r, sweepLoop g fuel reach stack = some r ∧ r.size = g.numNodes ∧ gt r src = true ∧
      (∀ v, gt r v = true → ∀ w, PosEdge g v w → gt r w = true) ∧ (∀ v, gt r v = true → ReachG g src v) := by
  induction fuel with
  | zero => intro _ _ _ h; exact absurd h (Nat.not_lt_zero _)
  | succ fuel ih =>
    intro reach stack hi hm
    cases stack with
    | nil =>
      exact ⟨reach, rfl, hi.hsize, hi.hsrc, fun v hv => (hi.hclosed v hv).resolve_left List.not_mem_nil, hi.hsound⟩
    | cons node rest =>
      have b := sweepEdges_spec g g.numNodes hT (g.deg node) (g.beginEdges node) reach rest hi.hsize
      refine ih _ _ ⟨b.size.trans hi.hsize, b.mono _ hi.hsrc, b.closed (E := PosEdge g) hi.hclosed fun _ => List.mem_cons.mp,
        fun v hv => ?_, fun v hv => (b.onWl v hv).elim
          (fun h1 => b.mono v (hi.honStk v (List.mem_cons_of_mem _ h1))) id⟩
        (by have := b.meas; rw [List.length_cons] at hm; omega)
      rcases b.new v hv with h1 | ⟨_, h1⟩
      · exact hi.hsound v h1
      · exact ReachG.step (hi.hsound node (hi.honStk node List.mem_cons_self)) h1

theorem assignmentOut_true (g : Graph) (src : Nat) : assignmentOut g true src =
    if src ≥ g.numNodes then .stuck else
      match sweepLoop g (g.numNodes + 1) (st (Array.replicate g.numNodes false) src true) [src] with
      | none => .stuck
      | some r => .ok r := rfl

theorem assignmentOut_run (g : Graph) (hT : TargetsOK g) (src : Nat) (hs : src < g.numNodes) :
    ∃ r, assignmentOut g true src = .ok r ∧ r.size = g.numNodes ∧ ∀ v, gt r v = true ↔ ReachG g src v := by
  have hs' : src < (Array.replicate g.numNodes false).size := (Array.size_replicate ..).symm ▸ hs
  have hm : ∀ v, gt (st (Array.replicate g.numNodes false) src true) v = true ↔ v = src := fun v =>
    (marked_st (· = true) _ hs' rfl v).trans (or_iff_right (by rw [gt_replicate_false]; exact Bool.false_ne_true))
  obtain ⟨r, hr, a, b, c, d⟩ := sweepLoop_run g src hT (g.numNodes + 1) _ [src]
    ⟨by simp, (hm src).mpr rfl, fun v hv => Or.inl (List.mem_singleton.mpr ((hm v).mp hv)),
      fun v hv => (hm v).mp hv ▸ ReachG.refl, fun v hv => (hm v).mpr (List.mem_singleton.mp hv)⟩
    (by
      have h1 := cntP_st_mark (· = false) (Array.replicate g.numNodes false) src true g.numNodes hs hs'
        (gt_replicate_false ..) nofun
      have h2 := cntP_replicate (· = false) false rfl g.numNodes g.numNodes (Nat.le_refl _)
      simp only [List.length_singleton]; omega)
  refine ⟨r, by rw [assignmentOut_true, if_neg (Nat.not_le.mpr hs), hr], a,
    fun v => ⟨d v, fun hv => ?_⟩⟩
  induction hv with
  | refl => exact b
  | step _ he ih => exact c _ ih _ he

theorem assignmentOut_closure (g : Graph) (src : Nat) (hT : TargetsOK g) (r : Array Bool)
    (h : assignmentOut g true src = .ok r) :
    r.size = g.numNodes ∧ ∀ v, gt r v = true ↔ ReachG g src v := by
  by_cases hs : src < g.numNodes
  · obtain ⟨r', h', hp⟩ := assignmentOut_run g hT src hs
    cases h'.symm.trans h; exact hp
  · rw [assignmentOut_true, if_pos (Nat.le_of_not_lt hs)] at h; cases h

theorem assignmentOut_total (g : Graph) (hT : TargetsOK g) (src : Nat) (hs : src < g.numNodes) :
    ∃ r, assignmentOut g true src = .ok r :=
  (assignmentOut_run g hT src hs).imp fun _ h => h.1

end Tbx.Flow
