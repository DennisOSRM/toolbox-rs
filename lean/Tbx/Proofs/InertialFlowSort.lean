import Tbx.Model.InertialFlow
import Tbx.Proofs.InsertSort
/-
C03: the sort of `sub_step` by its contract.

`sort_unstable_by_key` returns SOME permutation of the id list that is non-decreasing in the key.  When
the keys of the ids are pairwise distinct there is exactly one such list (`List.Perm.eq_of_pairwise`), and it is
the one the model's insertion sort computes (`sortIds_perm`, `sortIds_sorted`): so for distinct keys
`subStep` is a function of the inputs that the Rust must agree with; for tied keys `subStepSorted` is
applied to whatever order the Rust's sort produced.
-/
namespace Tbx.InertialFlow

theorem insertByKey_perm (key : Nat → Int) (x : Nat) : ∀ l, (insertByKey key x l).Perm (x :: l) :=
  InsertSort.perm_ins (insertByKey key) (fun _ => rfl) (fun _ _ _ => rfl) x

theorem sortByKey_perm (key : Nat → Int) : ∀ l, (sortByKey key l).Perm l :=
  InsertSort.perm_sort (sortByKey key) (insertByKey_perm key) rfl (fun _ _ => rfl)

theorem insertByKey_sorted (key : Nat → Int) (x : Nat) : ∀ l,
    l.Pairwise (fun a b => key a ≤ key b) → (insertByKey key x l).Pairwise (fun a b => key a ≤ key b) :=
  fun l h => InsertSort.pairwise_ins (insertByKey key) (fun _ => rfl) (fun _ _ _ => rfl) x l h Int.le_trans
    (fun _ _ => by omega)

theorem sortByKey_sorted (key : Nat → Int) : ∀ l, (sortByKey key l).Pairwise (fun a b => key a ≤ key b) :=
  InsertSort.pairwise_sort (sortByKey key) (insertByKey_sorted key) rfl (fun _ _ => rfl)

theorem sortIds_perm (ids : List Nat) (coord : Nat → Coord) (axis : Nat) :
    (sortIds ids coord axis).Perm ids := sortByKey_perm _ ids

theorem sortIds_sorted (ids : List Nat) (coord : Nat → Coord) (axis : Nat) :
    (sortIds ids coord axis).Pairwise (fun a b => axisKey axis (coord a) ≤ axisKey axis (coord b)) :=
  sortByKey_sorted _ ids

end Tbx.InertialFlow
