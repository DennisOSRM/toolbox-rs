import Tbx.Proofs.DGraphNode
import Tbx.Proofs.DGraphWrite
import Tbx.Proofs.DGraphPlace
import Tbx.Proofs.Offsets
namespace Tbx.DG
open Tbx
open Tbx.SG (EEntry maxId)

theorem insertEdge_inv (g : Graph) (s t : Nat) (d : Int) (hI : Inv g) (ht : t ≠ maxId) :
    ∃ g', insertEdge g s t d = some g' ∧ Inv g' ∧ g'.numNodes = max g.numNodes (max s t + 1) ∧
      g'.numEdges = g.numEdges + 1 ∧ (adjM g' s).Perm (adjM g s ++ [(t, d)]) ∧
      (∀ v, v ≠ s → adjM g' v = adjM g v) := by
  obtain ⟨g1, h1, hI1, hn1, hm1, ha1⟩ := ensureNode_inv (s + 1 - g.numNodes) g s hI (le_add_sub _ _)
  obtain ⟨g2, h2, hI2, hn2, hm2, ha2⟩ := ensureNode_inv (t + 1 - g1.numNodes) g1 t hI1 (le_add_sub _ _)
  have hs2 : s < g2.numNodes := by
    rw [hn2, hn1]
    exact Nat.le_trans (Nat.le_max_right g.numNodes (s + 1)) (Nat.le_max_left _ _)
  obtain ⟨g3, h3⟩ := Option.isSome_iff_exists.mp (placeSlice_isSome g2 s d hI2 hs2)
  obtain ⟨hI3, hn3, hm3, hfree, hsp, hp3, ha3⟩ := placeSlice_inv g2 g3 s d hI2 hs2 h3
  have hs3 : s < g3.nodes.size := by rw [hI3.size, hn3]; exact Nat.lt_add_right 2 hs2
  obtain ⟨g4, h4⟩ := Option.isSome_iff_exists.mp (writeEdge_isSome g3 s t d hs3 hfree)
  obtain ⟨hI4, hn4, hm4, hs4, ha4⟩ := writeEdge_inv g3 g4 s t d hI3 (by rw [hn3]; exact hs2) ht hsp h4
  refine ⟨g4, ?_, hI4, ?_, by rw [hm4, hm3, hm2, hm1], ?_, ?_⟩
  · unfold insertEdge
    rw [h1]; simp only [Option.bind_some]
    rw [h2]; simp only [Option.bind_some]
    rw [h3]; simp only [Option.bind_some]
    exact h4
  · rw [hn4, hn3, hn2, hn1, Nat.max_assoc, Nat.add_max_add_right]
  · rw [hs4]
    apply List.Perm.append_right
    rw [← ha1 s, ← ha2 s]; exact hp3
  · intro v hv
    rw [ha4 v hv, ha3 v hv, ha2 v, ha1 v]

theorem map_replace_perm {α : Type} (R : List Nat) (hnd : R.Nodup) (e : Nat) (he : e ∈ R) (f f' : Nat → α)
    (h : ∀ x, x ∈ R → x ≠ e → f' x = f x) : (f e :: R.map f').Perm (f' e :: R.map f) := by
  induction R with
  | nil => cases he
  | cons r R' ih =>
    have hnd' := List.nodup_cons.mp hnd
    rw [List.map_cons, List.map_cons]
    by_cases c : r = e
    · subst c
      rw [List.map_congr_left fun x hx => h x (List.mem_cons_of_mem _ hx) (fun c => hnd'.1 (c ▸ hx))]
      exact List.Perm.swap _ _ _
    · have he' : e ∈ R' := (List.mem_cons.mp he).resolve_left fun c' => c c'.symm
      rw [h r List.mem_cons_self c]
      exact ((List.Perm.swap _ _ _).trans (List.Perm.cons _
        (ih hnd'.2 he' fun x hx => h x (List.mem_cons_of_mem _ hx)))).trans (List.Perm.swap _ _ _)

/-- `remove_edge` on the edge array: the slot `e` of the slice `[F, F+C+1)` and the last slot `F + C` are
    swapped, then the last slot is overwritten (by a spare entry `y`) -/
theorem gt_removeSlot (a : Array EEntry) (F C e : Nat) (y : EEntry) (hl : F + C < a.size) (he : e < a.size) (k : Nat) :
    gt (st (swapE a (F + C) e) (F + C) y) k = if k = F + C then y else if k = e then gt a (F + C) else gt a k := by
  rw [gt_st_lt _ _ _ _ (by rw [size_swapE]; exact hl)]
  by_cases c : k = F + C
  · rw [if_pos c, if_pos c]
  · rw [if_neg c, if_neg c, gt_swapE _ _ _ _ hl he, if_neg c]

theorem reslot_remove (a : Array EEntry) (F C e : Nat) (y : EEntry) (hy : y.tgt = maxId) (hb : F + (C + 1) ≤ a.size)
    (h1 : F ≤ e) (h2 : e < F + (C + 1)) (live : ∀ x, F ≤ x → x < F + (C + 1) → (gt a x).tgt ≠ maxId) :
    Reslot a (st (swapE a (F + C) e) (F + C) y) F (C + 1) F C := by
  have ge := gt_removeSlot a F C e y hb (Nat.lt_of_lt_of_le h2 hb)
  have esz : (st (swapE a (F + C) e) (F + C) y).size = a.size := by rw [size_st, size_swapE]
  refine ⟨Nat.le_of_eq esz.symm, by rw [esz]; exact Nat.le_of_succ_le hb, ?_, ?_, ?_⟩
  · intro x _ _ hno
    have : x ≠ F + C ∧ x ≠ e ∧ ¬ (F ≤ x ∧ x < F + C) := by omega
    rw [ge, if_neg this.1, if_neg this.2.1]
    exact ⟨rfl, this.2.2⟩
  · intro x hx1 hx2
    rw [ge, if_neg (Nat.ne_of_lt hx2)]
    by_cases c : x = e
    · rw [if_pos c]; exact live _ (Nat.le_add_right F C) (Nat.lt_succ_self _)
    · rw [if_neg c]; exact live _ hx1 (Nat.lt_succ_of_lt hx2)
  · intro x hlt hl hno
    rw [esz] at hlt
    rw [ge] at hl
    by_cases c1 : x = F + C
    · rw [if_pos c1] at hl; exact absurd hy hl
    · have : x ≠ e ∧ ¬ (F ≤ x ∧ x < F + (C + 1)) := by omega
      rw [if_neg c1, if_neg this.1] at hl
      exact ⟨hlt, hl, this.2⟩

theorem removeEdge_inv (g : Graph) (s e : Nat) (hI : Inv g) (hs : s < g.numNodes) (ho : owns g s e) :
    ∃ g', removeEdge g s e = some g' ∧ Inv g' ∧ g'.numNodes = g.numNodes ∧ g'.numEdges + 1 = g.numEdges ∧
      (adjM g s).Perm ((target g e, data g e) :: adjM g' s) ∧ (∀ v, v ≠ s → adjM g' v = adjM g v) := by
  have hsn : s < g.nodes.size := by have := hI.size; omega
  have hb := hI.bound s hsn
  have hcs := le_sumTo (fun v => (gt g.nodes v).count) s g.numNodes hs
  rw [← sumCounts_eq, ← hI.edges] at hcs
  unfold owns at ho
  generalize hF : (gt g.nodes s).first = F at *
  obtain ⟨C, hC⟩ := Nat.exists_eq_add_one_of_ne_zero (n := (gt g.nodes s).count) (by omega)
  rw [hC] at hb hcs ho
  have hlt : e < g.edges.size := Nat.lt_of_lt_of_le ho.2 hb
  -- `es`, `y`, `g'` are introduced as variables with their equations: `rfl` and `▸` on the terms themselves would
  -- make the unifier unfold `st` and `swapE`
  obtain ⟨es, hes⟩ : ∃ es, es = swapE g.edges (F + C) e := ⟨_, rfl⟩
  obtain ⟨y, hy⟩ : ∃ y : EEntry, y = { gt es (F + C) with tgt := maxId } := ⟨_, rfl⟩
  obtain ⟨g', hn, hed, hnn, hne, hres⟩ : ∃ g' : Graph, g'.nodes = st g.nodes s ⟨F, C⟩ ∧
      g'.edges = st es (F + C) y ∧ g'.numNodes = g.numNodes ∧ g'.numEdges + 1 = g.numEdges ∧
      removeEdge g s e = some g' := by
    refine ⟨{ g with numEdges := g.numEdges - 1, nodes := st g.nodes s ⟨F, C⟩, edges := st es (F + C) y },
      rfl, rfl, rfl, Nat.sub_add_cancel (Nat.le_trans (Nat.le_add_left 1 C) hcs), ?_⟩
    unfold removeEdge
    rw [if_neg (by omega)]
    simp only [hF, hC, Nat.add_sub_cancel, ← hes, ← hy]
    rw [if_neg (by omega)]
  rw [hes] at hed
  refine ⟨g', hres, ?_⟩
  have ge := gt_removeSlot g.edges F C e y hb hlt
  rw [← hed] at ge
  obtain ⟨hI', hoth⟩ := hI.reslice hs hF hC hn hnn (by omega)
    (hed ▸ reslot_remove g.edges F C e y (by rw [hy]) hb ho.1 ho.2)
  refine ⟨hI', hnn, hne, ?_, hoth⟩
  rw [adjM_slice g' s (hnn ▸ hs), adjM_slice g s hs, hn, gt_st_eq _ _ _ hsn, hF, hC]
  dsimp only [target, data]
  rw [List.range'_concat, List.map_append, Nat.one_mul]
  have hge : ∀ x, x ∈ List.range' F C → x ≠ e →
      ((gt g'.edges x).tgt, (gt g'.edges x).data) = ((gt g.edges x).tgt, (gt g.edges x).data) :=
    fun x hm hx => by rw [ge, if_neg (Nat.ne_of_lt (List.mem_range'_1.mp hm).2), if_neg hx]
  by_cases ce : e = F + C
  · subst ce
    rw [List.map_congr_left fun x hm => hge x hm (Nat.ne_of_lt (List.mem_range'_1.mp hm).2)]
    exact List.perm_append_singleton _ _
  · have h := map_replace_perm (List.range' F C) List.nodup_range' e (List.mem_range'_1.mpr (by omega)) _ _ hge
    rw [ge e, if_neg ce, if_pos rfl] at h
    exact (List.perm_append_singleton _ _).trans h.symm

theorem setData_inv (g : Graph) (s e : Nat) (d' : Int) (hI : Inv g) (hs : s < g.numNodes) (ho : owns g s e) :
    Inv (setData g e d') ∧ (setData g e d').numNodes = g.numNodes ∧ (setData g e d').numEdges = g.numEdges ∧
    data (setData g e d') e = d' ∧ (∀ x, target (setData g e d') x = target g x) ∧
    ((target g e, data g e) :: adjM (setData g e d') s).Perm ((target g e, d') :: adjM g s) ∧
    (∀ v, v ≠ s → adjM (setData g e d') v = adjM g v) := by
  have hlt : e < g.edges.size := hI.owns_lt ho
  have hed : (setData g e d').edges = st g.edges e { gt g.edges e with data := d' } := rfl
  have hnodes : (setData g e d').nodes = g.nodes := rfl
  have ge : ∀ x, gt (setData g e d').edges x = if x = e then { gt g.edges e with data := d' } else gt g.edges x :=
    fun x => by rw [hed, gt_st_lt _ _ _ _ hlt]
  have esz : (setData g e d').edges.size = g.edges.size := by rw [hed, size_st]
  have gtgt : ∀ x, (gt (setData g e d').edges x).tgt = (gt g.edges x).tgt := by
    intro x
    rw [ge]
    by_cases c : x = e
    · rw [if_pos c, c]
    · rw [if_neg c]
  refine ⟨⟨hI.size, ?_, hI.extra, hI.disj, ?_, ?_, hI.edges⟩, rfl, rfl, ?_, gtgt, ?_, ?_⟩
  · intro v hv
    rw [esz]; exact hI.bound v hv
  · intro v x hx
    rw [gtgt]; exact hI.used v x hx
  · intro x hx hne
    rw [esz] at hx
    rw [gtgt] at hne
    exact hI.spare x hx hne
  · show (gt (setData g e d').edges e).data = d'
    rw [ge, if_pos rfl]
  · rw [adjM_slice (setData g e d') s hs, adjM_slice g s hs, hnodes]
    have h := map_replace_perm _ List.nodup_range' e (List.mem_range'_1.mpr ho)
      (fun x => ((gt g.edges x).tgt, (gt g.edges x).data))
      (fun x => ((gt (setData g e d').edges x).tgt, (gt (setData g e d').edges x).data))
      (fun x _ hx => by rw [ge, if_neg hx])
    rw [ge e, if_pos rfl] at h
    exact h
  · intro v hv
    unfold adjM
    rw [show (setData g e d').numNodes = g.numNodes from rfl]
    split
    · apply adjList_congr g (setData g e d') v rfl
      intro x hx
      rw [ge, if_neg]
      intro c; subst c
      exact hv (hI.disj v s x hx ho)
    · rfl

theorem findEdge_spec (g : Graph) (hI : Inv g) (s t : Nat) :
    ∃ r, findEdge g s t = some r ∧
      (g.numNodes ≤ s → r = none) ∧
      (∀ e, r = some e → s < g.numNodes ∧ owns g s e ∧ target g e = t ∧ ∀ j, owns g s j → j < e → target g j ≠ t) ∧
      (r = none → ∀ e, owns g s e → target g e ≠ t) := by
  have hsz := hI.size
  unfold findEdge
  by_cases c1 : s > g.numNodes
  · rw [if_pos c1]
    refine ⟨none, rfl, fun _ => rfl, ?_, ?_⟩
    · intro e h; cases h
    intro _ e ho
    have := hI.extra s (by omega)
    unfold owns at ho; omega
  · rw [if_neg c1, if_neg (by omega)]
    refine ⟨_, rfl, ?_, ?_, ?_⟩
    · intro hle
      have h0 := hI.extra s hle
      unfold outDegree
      rw [h0]; rfl
    · intro e he
      have := Offsets.find_some (fun _ => rfl) (fun _ _ => rfl) he
      unfold outDegree beginEdges at this
      have hs : s < g.numNodes := by
        rcases Nat.lt_or_ge s g.numNodes with h | h
        · exact h
        · have := hI.extra s h; omega
      refine ⟨hs, ⟨this.1, this.2.1⟩, this.2.2.1, ?_⟩
      intro j hj hlt
      exact this.2.2.2 j hj.1 hlt
    · intro hnone e ho
      have := (Offsets.find_none (fun _ => rfl) (fun _ _ => rfl)).mp hnone
      exact this e ho.1 ho.2

end Tbx.DG
