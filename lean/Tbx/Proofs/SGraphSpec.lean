import Tbx.Proofs.SGraph
import Tbx.Spec.Adj
/-
The static graph built from a list sorted by source represents exactly that list (bridge between `Tbx.SG` and the
adjacency-multiset specification `Tbx.Adj`).
-/
namespace Tbx.SG
open Tbx Offsets

/-- the input list as the Spec sees it -/
def toSpec (inp : List InEdge) : List Adj.Edge := inp.map fun e => ⟨e.src, e.tgt, e.data⟩

theorem adjOf_toSpec (inp : List InEdge) (v : Nat) :
    Adj.adjOf (toSpec inp) v = (inp.filter fun e => e.src == v).map fun e => (e.tgt, e.data) := by
  unfold Adj.adjOf toSpec
  rw [List.filter_map, List.map_map]
  rfl

theorem isMaxId_unique (es : List Adj.Edge) (m m' : Nat) (h : Adj.IsMaxId es m) (h' : Adj.IsMaxId es m') : m = m' := by
  obtain ⟨⟨e, he, h1⟩, h2⟩ := h
  obtain ⟨⟨e', he', h1'⟩, h2'⟩ := h'
  have a := h2 e' he'
  have b := h2' e he
  omega

theorem maxIdOf_ge (es : List Adj.Edge) : ∀ e ∈ es, e.src ≤ Adj.maxIdOf es ∧ e.tgt ≤ Adj.maxIdOf es := by
  induction es with
  | nil => intro e h; cases h
  | cons a l ih =>
    intro e he
    show e.src ≤ max (max a.src a.tgt) (Adj.maxIdOf l) ∧ e.tgt ≤ max (max a.src a.tgt) (Adj.maxIdOf l)
    rcases List.mem_cons.mp he with rfl | he
    · exact ⟨Nat.le_trans (Nat.le_max_left ..) (Nat.le_max_left ..),
        Nat.le_trans (Nat.le_max_right ..) (Nat.le_max_left ..)⟩
    · exact ⟨Nat.le_trans (ih e he).1 (Nat.le_max_right ..), Nat.le_trans (ih e he).2 (Nat.le_max_right ..)⟩

theorem maxIdOf_isMaxId (es : List Adj.Edge) (hne : es ≠ []) : Adj.IsMaxId es (Adj.maxIdOf es) := by
  refine ⟨?_, maxIdOf_ge es⟩
  induction es with
  | nil => exact absurd rfl hne
  | cons a l ih =>
    show ∃ e ∈ a :: l, e.src = max (max a.src a.tgt) (Adj.maxIdOf l) ∨ e.tgt = max (max a.src a.tgt) (Adj.maxIdOf l)
    rcases Nat.le_total (Adj.maxIdOf l) (max a.src a.tgt) with h | h
    · rw [Nat.max_eq_left h]
      exact ⟨a, List.mem_cons_self, by omega⟩
    · rw [Nat.max_eq_right h]
      cases l with
      | nil => exact ⟨a, List.mem_cons_self, Or.inl (Nat.le_antisymm (Nat.le_trans (Nat.le_max_left ..) h) (Nat.zero_le _))⟩
      | cons b l' =>
        obtain ⟨e, he, h1⟩ := ih (List.cons_ne_nil b l')
        exact ⟨e, List.mem_cons_of_mem _ he, h1⟩

/-- the constructor's running maximum is the judge's maximum -/
theorem maxIdLoop_eq (inp : List InEdge) (n : Nat) : maxIdLoop inp n = max n (Adj.maxIdOf (toSpec inp)) := by
  induction inp generalizing n with
  | nil => exact (Nat.max_zero n).symm
  | cons a l ih =>
    show maxIdLoop l (max a.tgt (max a.src n)) = max n (max (max a.src a.tgt) (Adj.maxIdOf (toSpec l)))
    rw [ih]
    simp only [Nat.max_assoc, Nat.max_comm, Nat.max_left_comm]

theorem maxIdLoop_ge (inp : List InEdge) : ∀ e ∈ inp, e.src ≤ maxIdLoop inp 0 ∧ e.tgt ≤ maxIdLoop inp 0 := by
  intro e he
  rw [maxIdLoop_eq, Nat.zero_max]
  exact maxIdOf_ge (toSpec inp) ⟨e.src, e.tgt, e.data⟩ (List.mem_map.mpr ⟨e, he, rfl⟩)

theorem maxIdLoop_isMaxId (inp l : List InEdge) (hp : l.Perm inp) (hne : inp ≠ []) :
    Adj.IsMaxId (toSpec inp) (maxIdLoop l 0) := by
  have hp' : (toSpec l).Perm (toSpec inp) := hp.map _
  have hl : toSpec l ≠ [] := by
    intro h
    have := List.map_eq_nil_iff.mp h
    subst this
    exact hne hp.symm.eq_nil
  rw [maxIdLoop_eq, Nat.zero_max]
  obtain ⟨⟨e, he, h1⟩, h2⟩ := maxIdOf_isMaxId (toSpec l) hl
  exact ⟨⟨e, hp'.mem_iff.mp he, h1⟩, fun x hx => h2 x (hp'.mem_iff.mpr hx)⟩

theorem nfsl_nodes (inp : List InEdge) (hs : SortedBySrc inp) :
    (newFromSortedList inp).nodes.size = maxIdLoop inp 0 + 2 ∧
    ∀ j, j ≤ maxIdLoop inp 0 + 1 → gt (newFromSortedList inp).nodes j = cntLt inp j := by
  have h := (loops inp).2.build (loops inp).1 (mono_getD InEdge.src hs) (n := maxIdLoop inp 0) fun j hj =>
    (maxIdLoop_ge inp _ (getD_mem inp j default hj)).1
  simp only [cntLt_eq]
  exact ⟨h.1, h.2.1⟩

theorem nfsl_numberOfNodes (inp : List InEdge) (hs : SortedBySrc inp) :
    numberOfNodes (newFromSortedList inp) = maxIdLoop inp 0 + 1 := by
  unfold numberOfNodes
  rw [(nfsl_nodes inp hs).1]; rfl

theorem nfsl_begin (inp : List InEdge) (hs : SortedBySrc inp) (v : Nat) (hv : v < numberOfNodes (newFromSortedList inp)) :
    beginEdges (newFromSortedList inp) v = cntLt inp v ∧ endEdges (newFromSortedList inp) v = cntLt inp (v + 1) := by
  rw [nfsl_numberOfNodes inp hs] at hv
  exact ⟨(nfsl_nodes inp hs).2 v (Nat.le_of_lt hv), (nfsl_nodes inp hs).2 (v + 1) hv⟩

theorem nfsl_adjList (inp : List InEdge) (hs : SortedBySrc inp) (v : Nat)
    (hv : v < numberOfNodes (newFromSortedList inp)) :
    adjList (newFromSortedList inp) v = (inp.filter fun e => e.src == v).map fun e => (e.tgt, e.data) := by
  have hb := nfsl_begin inp hs v hv
  unfold adjList edgeRange
  rw [hb.1, hb.2]
  exact slice_adj inp hs v

theorem nfsl_outDegree (inp : List InEdge) (hs : SortedBySrc inp) (v : Nat)
    (hv : v < numberOfNodes (newFromSortedList inp)) :
    outDegree (newFromSortedList inp) v = (inp.filter fun e => e.src == v).length := by
  have h := congrArg List.length (nfsl_adjList inp hs v hv)
  simpa [adjList, edgeRange, outDegree] using h

theorem edgeLe_trans (a b c : InEdge) : edgeLe a b = true → edgeLe b c = true → edgeLe a c = true :=
  Adj.lex_trans (fun a b : InEdge => Adj.pairLe (a.tgt, a.data) (b.tgt, b.data))
    (fun _ _ _ => Adj.pairLe_trans _ _ _) a.src b.src c.src a b c

theorem edgeLe_total (a b : InEdge) : (edgeLe a b || edgeLe b a) = true :=
  Adj.lex_total (fun a b : InEdge => Adj.pairLe (a.tgt, a.data) (b.tgt, b.data))
    (fun _ _ => Adj.pairLe_total _ _) a.src b.src a b

theorem edgeLe_src (a b : InEdge) : edgeLe a b = true → a.src ≤ b.src := by
  simp only [edgeLe, Bool.or_eq_true, Bool.and_eq_true, decide_eq_true_eq, beq_iff_eq]
  omega

def sorted (inp : List InEdge) : List InEdge := inp.mergeSort fun a b => edgeLe a b

theorem sorted_perm (inp : List InEdge) : (sorted inp).Perm inp := List.mergeSort_perm _ _

theorem sorted_sortedBySrc (inp : List InEdge) : SortedBySrc (sorted inp) := by
  have := List.pairwise_mergeSort (le := fun a b => edgeLe a b) edgeLe_trans edgeLe_total inp
  exact List.Pairwise.imp (fun {a b} h => edgeLe_src a b h) this

theorem new_eq (inp : List InEdge) : SG.new inp = newFromSortedList (sorted inp) := rfl

theorem findEdge_some (g : Graph) (s t e : Nat) (h : findEdge g s t = some e) :
    s < numberOfNodes g ∧ e ∈ edgeRange g s ∧ target g e = t ∧ ∀ j ∈ edgeRange g s, j < e → target g j ≠ t := by
  unfold findEdge at h
  split at h
  · cases h
  · rename_i hs
    have := find_some (fun _ => rfl) (fun _ _ => rfl) h
    refine ⟨by omega, List.mem_range'_1.mpr ⟨this.1, this.2.1⟩, this.2.2.1, ?_⟩
    intro j hj hlt
    exact this.2.2.2 j (List.mem_range'_1.mp hj).1 hlt

theorem findEdge_none (g : Graph) (s t : Nat) :
    findEdge g s t = none ↔ numberOfNodes g ≤ s ∨ ∀ e ∈ edgeRange g s, target g e ≠ t := by
  unfold findEdge
  split
  · rename_i hs; simp; left; omega
  · rename_i hs
    rw [find_none (find := findLoop g t) (fun _ => rfl) (fun _ _ => rfl)]
    constructor
    · intro h; right
      intro e he
      have := List.mem_range'_1.mp he
      exact h e this.1 this.2
    · intro h
      rcases h with h | h
      · omega
      · intro j h1 h2
        exact h j (List.mem_range'_1.mpr ⟨h1, h2⟩)

theorem findEdgeUnchecked_eq (g : Graph) (s t : Nat) :
    findEdgeUnchecked g s t = (findEdge g s t).getD maxId := by
  unfold findEdgeUnchecked findEdge
  split
  · rfl
  · split <;> simp_all

theorem nfsl_findEdge_isSome (inp : List InEdge) (hs : SortedBySrc inp) (s t : Nat) :
    (findEdge (newFromSortedList inp) s t).isSome ↔ ∃ d, (⟨s, t, d⟩ : InEdge) ∈ inp := by
  constructor
  · intro h
    obtain ⟨e, he⟩ := Option.isSome_iff_exists.mp h
    obtain ⟨hlt, hr, ht, _⟩ := findEdge_some _ s t e he
    have hm : (target (newFromSortedList inp) e, data (newFromSortedList inp) e) ∈ adjList (newFromSortedList inp) s :=
      List.mem_map.mpr ⟨e, hr, rfl⟩
    rw [nfsl_adjList inp hs s hlt] at hm
    obtain ⟨x, hx, hp⟩ := List.mem_map.mp hm
    have hx' := List.mem_filter.mp hx
    refine ⟨x.data, ?_⟩
    have e1 : x.src = s := by simpa using hx'.2
    have e2 : x.tgt = t := by rw [← ht]; exact congrArg Prod.fst hp
    have : x = ⟨s, t, x.data⟩ := by cases x; simp_all
    exact this ▸ hx'.1
  · rintro ⟨d, hd⟩
    have hlt : s < numberOfNodes (newFromSortedList inp) := by
      rw [nfsl_numberOfNodes inp hs]
      have := maxIdLoop_ge inp _ hd
      simp only at this; omega
    cases hf : findEdge (newFromSortedList inp) s t with
    | some e => rfl
    | none =>
      exfalso
      rcases (findEdge_none _ s t).mp hf with h | h
      · omega
      · have hm : (t, d) ∈ adjList (newFromSortedList inp) s := by
          rw [nfsl_adjList inp hs s hlt]
          exact List.mem_map.mpr ⟨_, List.mem_filter.mpr ⟨hd, by simp⟩, rfl⟩
        obtain ⟨e, he, hp⟩ := List.mem_map.mp hm
        exact h e he (congrArg Prod.fst hp)

end Tbx.SG
