import Tbx.Model.Search
/-
C15, what the other Search modules start from: pop disciplines (a successful pop splits the list into the popped
element and the rest; membership `PopOK` and, in SearchFuel, length `PopLen` are read off that), and a complete
description of what one pass over the out-edges of a popped node (`Search.edges`) does to the state (`Disc`).
-/
namespace Tbx.Search
open Tbx

/-- a pop discipline only has to return a member and keep the others -/
def PopOK (pop : List Nat → Option (Nat × List Nat)) : Prop :=
  (∀ l, pop l = none → l = []) ∧
  (∀ l u rest, pop l = some (u, rest) → ∀ x, x ∈ l ↔ x = u ∨ x ∈ rest)

theorem popFront_some {l : List Nat} {u : Nat} {rest : List Nat} (h : popFront l = some (u, rest)) :
    l = u :: rest := by
  cases l with
  | nil => cases h
  | cons a as =>
    cases h
    rfl

theorem popBack_some {l : List Nat} {u : Nat} {rest : List Nat} (h : popBack l = some (u, rest)) :
    l = rest ++ [u] := by
  unfold popBack at h
  split at h
  · cases h
  · rename_i y hy
    obtain ⟨ys, rfl⟩ := List.getLast?_eq_some_iff.mp hy
    cases h
    rw [List.dropLast_concat]

theorem popFront_ok : PopOK popFront := by
  refine ⟨fun l h => ?_, fun _ _ _ h x => by rw [popFront_some h, List.mem_cons]⟩
  cases l with
  | nil => rfl
  | cons => cases h

theorem popBack_ok : PopOK popBack := by
  refine ⟨fun l h => ?_, fun _ _ _ h x => by rw [popBack_some h, List.mem_append, List.mem_singleton, or_comm]⟩
  unfold popBack at h
  split at h
  · rename_i hl; exact List.getLast?_eq_none_iff.mp hl
  · cases h

def marked (par : Array (Option Nat)) (v : Nat) : Prop := (gt par v).isSome = true

/-- the `node_is_source` clause of the guard never changes its value (`parents[v] == v` implies `parents[v] != INVALID`),
    so nothing below depends on the flag `b` -/
theorem seen_eq (par : Array (Option Nat)) (b : Bool) (v : Nat) : seen par b v = (gt par v).isSome := by
  unfold seen
  cases h : gt par v <;> simp

theorem marked_lt (par : Array (Option Nat)) (v : Nat) (h : marked par v) : v < par.size := by
  by_cases hv : v < par.size
  · exact hv
  · have : gt par v = default := gt_of_ge par v (by omega)
    unfold marked at h
    rw [this] at h
    cases h

theorem lt_of_gt_some {par : Array (Option Nat)} {v p : Nat} (h : gt par v = some p) : v < par.size :=
  marked_lt par v (by unfold marked; rw [h]; rfl)

theorem setAll_spec {α : Type} [Inhabited α] (f : Nat → α) (idx : List Nat) (a a' : Array α)
    (h : setAll a f idx = some a') :
    a'.size = a.size ∧ (∀ i, i ∈ idx → i < a.size) ∧
    (∀ x, gt a' x = if x ∈ idx then f x else gt a x) := by
  fun_induction setAll a f idx with
  | case1 a =>
    cases h
    exact ⟨rfl, fun i hi => (List.not_mem_nil hi).elim, fun x => by simp⟩
  | case2 a i is hi ih =>
    obtain ⟨h1, h2, h3⟩ := ih h
    rw [size_st] at h1 h2
    refine ⟨h1, fun j hj => (List.mem_cons.mp hj).elim (fun e => e ▸ hi) (h2 j), fun x => ?_⟩
    rw [h3 x]
    by_cases hx : x ∈ is
    · simp [hx]
    · by_cases hxi : x = i
      · subst hxi; simp [hx, gt_st_eq _ _ _ hi]
      · simp [hx, hxi, gt_st_ne _ _ _ _ (fun e => hxi e.symm)]
  | case3 => cases h

theorem setAll_isSome {α : Type} (f : Nat → α) (idx : List Nat) (a : Array α)
    (h : ∀ i, i ∈ idx → i < a.size) : ∃ a', setAll a f idx = some a' := by
  induction idx generalizing a with
  | nil => exact ⟨a, rfl⟩
  | cons i is ih =>
    simp only [setAll]
    have hi : i < a.size := h i (by simp)
    simp only [hi, if_true]
    apply ih
    intro j hj
    rw [size_st]
    exact h j (by simp [hj])

theorem resetParents_spec (sr : Searcher) (par : Array (Option Nat)) (h : resetParents sr = some par) :
    par.size = sr.parents.size ∧ (∀ s, s ∈ sr.sources → s < par.size) ∧
    (∀ x, gt par x = if x ∈ sr.sources then some x else none) := by
  unfold resetParents at h
  obtain ⟨h1, h2, h3⟩ := setAll_spec _ _ _ _ h
  simp only [Array.size_replicate] at h1 h2
  refine ⟨h1, ?_, ?_⟩
  · intro s hs; rw [h1]; exact h2 s hs
  · intro x; rw [h3 x]; exact congrArg _ (gt_replicate_default (α := Option Nat) _ x)

theorem init_marked (sr : Searcher) (par : Array (Option Nat)) (h : resetParents sr = some par) (x : Nat) :
    marked par x ↔ x ∈ sr.sources := by
  obtain ⟨_, _, h3⟩ := resetParents_spec sr par h
  unfold marked
  rw [h3 x]
  by_cases hx : x ∈ sr.sources <;> simp [hx]

theorem new_spec (srcs tgts : List Nat) (n : Nat) (sr : Searcher) (h : new srcs tgts n = some sr) :
    sr.sources = srcs ∧ sr.emptyTargets = tgts.isEmpty ∧ sr.parents.size = n ∧ sr.targetSet.size = n ∧
    (∀ v, gt sr.targetSet v = true ↔ v ∈ tgts) ∧ (∀ v, v ∈ srcs → v < n) ∧ (∀ v, v ∈ tgts → v < n) := by
  unfold new at h
  split at h
  · cases h
  · rename_i ts hts
    split at h
    · cases h
    · rename_i ps hps
      simp only [Option.some.injEq] at h
      subst h
      obtain ⟨a1, a2, a3⟩ := setAll_spec _ _ _ _ hts
      obtain ⟨b1, b2, _⟩ := setAll_spec _ _ _ _ hps
      simp only [Array.size_replicate] at a1 a2 b1 b2
      refine ⟨rfl, rfl, b1, a1, ?_, b2, a2⟩
      intro v
      rw [a3 v, show gt (Array.replicate n false) v = false from gt_replicate_default n v]
      by_cases hv : v ∈ tgts <;> simp [hv]

theorem new_isSome (srcs tgts : List Nat) (n : Nat) (hs : ∀ v, v ∈ srcs → v < n) (ht : ∀ v, v ∈ tgts → v < n) :
    ∃ sr, new srcs tgts n = some sr := by
  unfold new
  obtain ⟨ts, hts⟩ := setAll_isSome (fun _ => true) tgts (Array.replicate n false) (by simpa using ht)
  obtain ⟨ps, hps⟩ := setAll_isSome some srcs (Array.replicate n (none : Option Nat)) (by simpa using hs)
  rw [hts, hps]
  exact ⟨_, rfl⟩

theorem runWith_some (pop : List Nat → Option (Nat × List Nat)) (g : Graph) (filt : Nat → Bool) (sr : Searcher)
    (par : Array (Option Nat)) (h : resetParents sr = some par) :
    runWith pop g filt sr =
      match loop g filt (gt sr.targetSet) pop (runFuel sr) { par := par, wl := sr.sources } with
      | .panic => .panic
      | .fuel => .fuel
      | .done r s' => .ok (r.isSome || sr.emptyTargets,
          { sr with parents := s'.par, wl := s'.wl, target := r.or sr.target }) := by
  unfold runWith
  rw [h]
  dsimp only
  cases loop g filt (gt sr.targetSet) pop (runFuel sr) { par := par, wl := sr.sources } with
  | panic => rfl
  | fuel => rfl
  | done r s' => cases r <;> rfl

theorem runWith_ok {pop : List Nat → Option (Nat × List Nat)} {g : Graph} {filt : Nat → Bool}
    {sr sr' : Searcher} {b : Bool} (h : runWith pop g filt sr = .ok (b, sr')) :
    ∃ par r s', resetParents sr = some par ∧
      loop g filt (gt sr.targetSet) pop (runFuel sr) { par := par, wl := sr.sources } = .done r s' ∧
      b = (r.isSome || sr.emptyTargets) ∧
      sr' = { sr with parents := s'.par, wl := s'.wl, target := r.or sr.target } := by
  cases hp : resetParents sr with
  | none => unfold runWith at h; rw [hp] at h; cases h
  | some par =>
    rw [runWith_some pop g filt sr par hp] at h
    cases hl : loop g filt (gt sr.targetSet) pop (runFuel sr) { par := par, wl := sr.sources } with
    | panic => rw [hl] at h; cases h
    | fuel => rw [hl] at h; cases h
    | done r s' =>
      rw [hl] at h
      cases h
      exact ⟨par, r, s', rfl, hl, rfl, rfl⟩

/-- `s'` is `s` after discovering the nodes `news` (in this order) from `u` -/
structure Disc (filt : Nat → Bool) (u : Nat) (vs : List (Nat × Nat)) (s s' : S) (news : List Nat) : Prop where
  size  : s'.par.size = s.par.size
  par   : ∀ x, gt s'.par x = if x ∈ news then some u else gt s.par x
  fresh : ∀ v, v ∈ news → gt s.par v = none ∧ v < s.par.size ∧ ∃ e, (v, e) ∈ vs ∧ filt e = false
  nodup : news.Nodup

theorem Disc.marked_iff {filt : Nat → Bool} {u : Nat} {vs : List (Nat × Nat)} {s s' : S} {news : List Nat}
    (hd : Disc filt u vs s s' news) (x : Nat) : marked s'.par x ↔ x ∈ news ∨ marked s.par x := by
  unfold marked
  rw [hd.par x]
  by_cases hx : x ∈ news <;> simp [hx]

theorem Disc.wl_marked {pop : List Nat → Option (Nat × List Nat)} (hp : PopOK pop) {filt : Nat → Bool} {u : Nat}
    {vs : List (Nat × Nat)} {s s1 : S} {rest news : List Nat} (hpop : pop s.wl = some (u, rest))
    (hd : Disc filt u vs { s with wl := rest } s1 news) (hw : s1.wl = rest ++ news)
    (hwl : ∀ x, x ∈ s.wl → marked s.par x) : ∀ x, x ∈ s1.wl → marked s1.par x := by
  intro x hx
  rw [hw] at hx
  rcases List.mem_append.mp hx with h1 | h1
  · exact (hd.marked_iff x).mpr (Or.inr (hwl x ((hp.2 _ _ _ hpop x).mpr (Or.inr h1))))
  · exact (hd.marked_iff x).mpr (Or.inl h1)

theorem Disc.refl (filt : Nat → Bool) (u : Nat) (vs : List (Nat × Nat)) (s : S) : Disc filt u vs s s [] :=
  ⟨rfl, fun _ => by simp, fun _ h => (List.not_mem_nil h).elim, List.nodup_nil⟩

theorem Disc.skip {filt : Nat → Bool} {u : Nat} {vs : List (Nat × Nat)} {s s' : S} {news : List Nat}
    (p : Nat × Nat) (hd : Disc filt u vs s s' news) : Disc filt u (p :: vs) s s' news := by
  refine ⟨hd.size, hd.par, ?_, hd.nodup⟩
  intro x hx
  obtain ⟨a, b, e, he, hf⟩ := hd.fresh x hx
  exact ⟨a, b, e, List.mem_cons_of_mem _ he, hf⟩

theorem Disc.cons {filt : Nat → Bool} {u : Nat} {vs : List (Nat × Nat)} {s s1 s' : S} {news : List Nat} {v e : Nat}
    (hv : v < s.par.size) (hnone : gt s.par v = none) (hf : filt e = false)
    (h1 : s1.par = st s.par v (some u)) (hd : Disc filt u vs s1 s' news) :
    Disc filt u ((v, e) :: vs) s s' (v :: news) := by
  have hvn : v ∉ news := by
    intro hx
    have := (hd.fresh v hx).1
    rw [h1, gt_st_lt _ _ _ _ hv, if_pos rfl] at this
    cases this
  refine ⟨by rw [hd.size, h1, size_st], ?_, ?_, List.nodup_cons.mpr ⟨hvn, hd.nodup⟩⟩
  · intro x
    rw [hd.par x, h1, gt_st_lt _ _ _ _ hv]
    by_cases hx : x ∈ news
    · simp [hx]
    · by_cases hxv : x = v <;> simp [hx, hxv]
  · intro x hx
    rcases List.mem_cons.mp hx with rfl | hx
    · exact ⟨hnone, hv, e, List.mem_cons_self, hf⟩
    · obtain ⟨a, b, e', he', hf'⟩ := hd.fresh x hx
      have hxv : x ≠ v := fun c => hvn (c ▸ hx)
      rw [h1, gt_st_lt _ _ _ _ hv, if_neg hxv] at a
      rw [h1, size_st] at b
      exact ⟨a, b, e', List.mem_cons_of_mem _ he', hf'⟩

theorem edges_cont (filt isT : Nat → Bool) (u : Nat) (b : Bool) (vs : List (Nat × Nat)) (s s' : S)
    (h : edges filt isT u b vs s = .cont s') :
    ∃ news, Disc filt u vs s s' news ∧ s'.wl = s.wl ++ news ∧ (∀ v, v ∈ news → isT v = false) ∧
      (∀ v e, (v, e) ∈ vs → filt e = false → marked s'.par v) := by
  fun_induction edges filt isT u b vs s with
  | case1 =>
    cases h
    exact ⟨[], Disc.refl filt u [] _, by simp, fun _ h => (List.not_mem_nil h).elim,
      fun _ _ h => (List.not_mem_nil h).elim⟩
  | case3 | case5 => cases h
  | case2 v e rest s hf ih =>
    obtain ⟨news, hd, hw, hT, hm⟩ := ih h
    refine ⟨news, hd.skip _, hw, hT, fun w e' hm' hf' => ?_⟩
    rcases List.mem_cons.mp hm' with heq | hm'
    · cases heq; rw [hf'] at hf; cases hf
    · exact hm w e' hm' hf'
  | case4 v e rest s _ _ hs ih =>
    obtain ⟨news, hd, hw, hT, hm⟩ := ih h
    refine ⟨news, hd.skip _, hw, hT, fun w e' hm' hf' => ?_⟩
    rcases List.mem_cons.mp hm' with heq | hm'
    · cases heq
      rw [seen_eq] at hs
      exact (hd.marked_iff _).mpr (Or.inr hs)
    · exact hm w e' hm' hf'
  | case6 v e rest s hf hv hs _ hT ih =>
    obtain ⟨news, hd, hw, hTn, hm⟩ := ih h
    rw [seen_eq] at hs
    have hd' := Disc.cons (Nat.lt_of_not_le hv) (Option.not_isSome_iff_eq_none.mp hs) (Bool.not_eq_true _ ▸ hf) rfl hd
    refine ⟨v :: news, hd', by rw [hw]; simp, ?_, fun w e' hm' hf' => ?_⟩
    · intro x hx
      rcases List.mem_cons.mp hx with rfl | hx
      · exact Bool.not_eq_true _ ▸ hT
      · exact hTn x hx
    · rcases List.mem_cons.mp hm' with heq | hm'
      · cases heq
        exact (hd'.marked_iff _).mpr (Or.inl List.mem_cons_self)
      · exact hm w e' hm' hf'

theorem edges_found (filt isT : Nat → Bool) (u : Nat) (b : Bool) (vs : List (Nat × Nat)) (s s' : S) (t : Nat)
    (h : edges filt isT u b vs s = .found t s') :
    ∃ news, Disc filt u vs s s' news ∧ t ∈ news ∧ isT t = true := by
  fun_induction edges filt isT u b vs s with
  | case1 | case3 => cases h
  | case2 _ _ _ _ _ ih | case4 _ _ _ _ _ _ _ ih =>
    obtain ⟨news, hd, hm, ht⟩ := ih h
    exact ⟨news, hd.skip _, hm, ht⟩
  | case5 v e rest s hf hv hs _ hT =>
    cases h
    rw [seen_eq] at hs
    exact ⟨[t], Disc.cons (Nat.lt_of_not_le hv) (Option.not_isSome_iff_eq_none.mp hs) (Bool.not_eq_true _ ▸ hf) rfl
      (Disc.refl filt u rest _), List.mem_singleton_self t, hT⟩
  | case6 v e rest s hf hv hs _ _ ih =>
    obtain ⟨news, hd, hm, ht⟩ := ih h
    rw [seen_eq] at hs
    exact ⟨v :: news, Disc.cons (Nat.lt_of_not_le hv) (Option.not_isSome_iff_eq_none.mp hs) (Bool.not_eq_true _ ▸ hf) rfl hd,
      List.mem_cons_of_mem _ hm, ht⟩

theorem loop_size (g : Graph) (filt isT : Nat → Bool) (pop : List Nat → Option (Nat × List Nat))
    (fuel : Nat) (s s' : S) (r : Option Nat) (h : loop g filt isT pop fuel s = .done r s') :
    s'.par.size = s.par.size := by
  fun_induction loop g filt isT pop fuel s with
  | case1 | case3 | case4 => cases h
  | case2 => cases h; rfl
  | case5 _ _ _ _ _ _ _ _ _ he =>
    cases h
    exact (edges_found filt isT _ _ (g _) _ _ _ he).elim fun _ hd => hd.1.size
  | case6 _ _ _ _ _ _ _ _ he ih =>
    rw [ih h]
    exact (edges_cont filt isT _ _ (g _) _ _ he).elim fun _ hd => hd.1.size

end Tbx.Search
