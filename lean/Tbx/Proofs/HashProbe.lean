import Tbx.Model.HashTable
import Tbx.Proofs.SumTo
/-
The table's probing on functions: cells are seen through `tm ky : Nat → Nat` (stamp and key of the cell at an
index); the array-level bridge is in Proofs/HashTableRefine.lean.  `probeF` is the model's `probe`; it is `find?` over
the offsets from the home slot (`probeF_eq_find`), so where it stops is read off core's lemmas on `find?` of a range.
`InvF` is the invariant, `SlotF` where a probe stops under it; a write at such a slot and emptying keep `InvF`.
-/
namespace Tbx.HashTable

def cnt (f : Nat → Bool) : Nat → Nat
  | 0 => 0
  | n + 1 => cnt f n + (if f n then 1 else 0)

theorem cnt_eq (f : Nat → Bool) : ∀ n, cnt f n = cntTo (f · = true) n
  | 0 => rfl
  | n + 1 => congrArg (· + _) (cnt_eq f n)

theorem cnt_le (f : Nat → Bool) (n : Nat) : cnt f n ≤ n := cnt_eq f n ▸ cntTo_le _ n

theorem addmod_lt (N a d : Nat) (hN : 0 < N) : (a + d) % N < N := Nat.mod_lt _ hN

/-- going on by `N - a` from the `x`-th position after `a` comes back to `x` -/
theorem addmod_cancel (N a x : Nat) (ha : a < N) (hx : x < N) : ((a + x) % N + (N - a)) % N = x := by
  rw [Nat.mod_add_mod, show a + x + (N - a) = x + N by omega, Nat.add_mod_right, Nat.mod_eq_of_lt hx]

theorem addmod_inj (N a d e : Nat) (ha : a < N) (hd : d < N) (he : e < N)
    (h : (a + d) % N = (a + e) % N) : d = e := by
  rw [← addmod_cancel N a d ha hd, h, addmod_cancel N a e ha he]

theorem exists_offset (N a j : Nat) (ha : a < N) (hj : j < N) : ∃ e, e < N ∧ (a + e) % N = j :=
  ⟨(j + N - a) % N, Nat.mod_lt _ (by omega), by
    rw [Nat.add_mod_mod, show a + (j + N - a) = j + N by omega, Nat.add_mod_right, Nat.mod_eq_of_lt hj]⟩

theorem step_offset (N a e : Nat) : ((a + e) % N + 1) % N = (a + (e + 1)) % N := by
  rw [Nat.mod_add_mod]
  congr 1

def probeF (N : Nat) (tm ky : Nat → Nat) (ts key : Nat) : Nat → Nat → Option Nat
  | 0, _ => none
  | fuel + 1, pos =>
    if tm pos = ts ∧ ky pos ≠ key then probeF N tm ky ts key fuel ((pos + 1) % N) else some pos

/-- the loop in closed form: the first offset from `a` whose cell is not a live cell holding another key -/
theorem probeF_eq_find (N : Nat) (tm ky : Nat → Nat) (ts key a : Nat) : ∀ fuel e,
    probeF N tm ky ts key fuel ((a + e) % N) =
      ((List.range' e fuel).find? fun d => !decide (tm ((a + d) % N) = ts ∧ ky ((a + d) % N) ≠ key)).map
        fun d => (a + d) % N := by
  intro fuel
  induction fuel with
  | zero => exact fun e => rfl
  | succ fuel ih =>
    intro e
    rw [probeF, step_offset, ih, List.range'_succ, List.find?_cons]
    by_cases hb : tm ((a + e) % N) = ts ∧ ky ((a + e) % N) ≠ key
    · rw [if_pos hb, decide_eq_true hb]; rfl
    · rw [if_neg hb, decide_eq_false hb]; rfl

structure InvF (N : Nat) (h : Nat → Nat) (tm ky : Nat → Nat) (ts len : Nat) : Prop where
  tsLe : ts ≤ u32Max
  distinct : ∀ i j, i < N → j < N → tm i = ts → tm j = ts → ky i = ky j → i = j
  /-- probe-chain contiguity: every position cyclically between `h k` and k's cell is live -/
  chain : ∀ i, i < N → tm i = ts →
    ∃ d, d < N ∧ i = (h (ky i) + d) % N ∧ ∀ e, e < d → tm ((h (ky i) + e) % N) = ts
  count : len = cnt (fun i => tm i == ts) N
  /-- at least one cell is dead: this is what stops the probe loop -/
  room : len < N
  /-- stamp hygiene: no stamp lies in the future of the current epoch (so the stamp a later clear
  moves to is carried by no cell); `u32::MAX` is the stamp of never-written cells -/
  hygiene : ∀ i, i < N → tm i ≤ ts ∨ tm i = u32Max

theorem InvF.exists_dead {N : Nat} {h tm ky : Nat → Nat} {ts len : Nat} (I : InvF N h tm ky ts len) :
    ∃ j, j < N ∧ tm j ≠ ts := by
  have := I.room
  rw [I.count, cnt_eq] at this
  obtain ⟨j, hj, hf⟩ := cntTo_lt_exists _ _ this
  exact ⟨j, hj, by simpa using hf⟩

/-- Where the probe for `key` stops under the invariant: at a position `p` reached from the home slot through live
cells holding other keys; either `p` is live and holds `key`, or `p` is dead and no live cell holds `key`. -/
structure SlotF (N : Nat) (h tm ky : Nat → Nat) (ts key p : Nat) : Prop where
  lt : p < N
  path : ∃ d, d < N ∧ p = (h key + d) % N ∧ ∀ e, e < d → tm ((h key + e) % N) = ts ∧ ky ((h key + e) % N) ≠ key
  found : (tm p = ts ∧ ky p = key) ∨ (tm p ≠ ts ∧ ∀ i, i < N → tm i = ts → ky i ≠ key)

theorem probeF_slot {N : Nat} {h tm ky : Nat → Nat} {ts len : Nat} (I : InvF N h tm ky ts len)
    (hh : ∀ k, h k < N) (key : Nat) :
    ∃ p, probeF N tm ky ts key N (h key) = some p ∧ SlotF N h tm ky ts key p := by
  have hN : 0 < N := by have := hh 0; omega
  have hp := probeF_eq_find N tm ky ts key (h key) N 0
  rw [Nat.add_zero, Nat.mod_eq_of_lt (hh key)] at hp
  cases hf : (List.range' 0 N).find? fun d => !decide (tm ((h key + d) % N) = ts ∧ ky ((h key + d) % N) ≠ key) with
  | none =>
    exfalso
    rw [List.find?_range'_eq_none] at hf
    obtain ⟨j, hj, hdead⟩ := I.exists_dead
    obtain ⟨e, he, hej⟩ := exists_offset N (h key) j (hh key) hj
    have := hf e (Nat.zero_le e) (by omega)
    simp only [Bool.not_not, decide_eq_true_eq] at this
    exact hdead (hej ▸ this.1)
  | some d =>
    rw [hf] at hp
    rw [List.find?_range'_eq_some] at hf
    simp only [Bool.not_eq_true', decide_eq_false_iff_not, Bool.not_not, decide_eq_true_eq, List.mem_range'_1,
      Nat.zero_le, true_and, true_implies, Nat.zero_add] at hf
    obtain ⟨hnb, hd, hall⟩ := hf
    obtain ⟨p, hpd⟩ : ∃ p, p = (h key + d) % N := ⟨_, rfl⟩
    rw [← hpd] at hnb
    change _ = some ((h key + d) % N) at hp
    rw [← hpd] at hp
    have hpN : p < N := by rw [hpd]; exact Nat.mod_lt _ hN
    refine ⟨p, hp, hpN, ⟨d, hd, hpd, hall⟩, ?_⟩
    by_cases hl : tm p = ts
    · left
      refine ⟨hl, ?_⟩
      by_cases hk : ky p = key
      · exact hk
      · exact absurd ⟨hl, hk⟩ hnb
    · right
      refine ⟨hl, ?_⟩
      intro i hi hli hki
      obtain ⟨d', hd', hid', hch⟩ := I.chain i hi hli
      rw [hki] at hid' hch
      by_cases hlt : d < d'
      · have := hch d hlt
        rw [← hpd] at this
        exact hl this
      · by_cases hgt : d' < d
        · have := (hall d' hgt).2
          rw [← hid'] at this
          exact this hki
        · have : d = d' := by omega
          subst this
          rw [← hpd] at hid'
          subst hid'
          exact hl hli

theorem probeF_terminates {N : Nat} {h tm ky : Nat → Nat} {ts len : Nat} (I : InvF N h tm ky ts len)
    (hh : ∀ k, h k < N) (key : Nat) : (probeF N tm ky ts key N (h key)).isSome = true := by
  obtain ⟨p, hp, _⟩ := probeF_slot I hh key
  simp [hp]

/-- writing `(ts, key)` to cell `p` turns `tm`, `ky` into `wr tm p ts`, `wr ky p key` -/
def wr (f : Nat → Nat) (p x : Nat) : Nat → Nat := fun j => if j = p then x else f j

theorem wr_same (f : Nat → Nat) (p x : Nat) : wr f p x p = x := if_pos rfl

theorem wr_other (f : Nat → Nat) (p x : Nat) {i : Nat} (h : i ≠ p) : wr f p x i = f i := if_neg h

theorem InvF_write {N : Nat} {h tm ky : Nat → Nat} {ts len : Nat} (I : InvF N h tm ky ts len)
    {key p : Nat} (S : SlotF N h tm ky ts key p)
    (len' : Nat) (hlen : len' = if tm p = ts then len else len + 1) (hroom : len' < N) :
    InvF N h (wr tm p ts) (wr ky p key) ts len' := by
  obtain ⟨hpN, ⟨d, hd, hpd, hall⟩, hcase⟩ := S
  have huniq : ∀ i, i < N → i ≠ p → tm i = ts → ky i ≠ key := by
    intro i hi hne hli hki
    rcases hcase with ⟨hlp, hkp⟩ | ⟨_, habs⟩
    · exact hne (I.distinct i p hi hpN hli hlp (by rw [hki, hkp]))
    · exact habs i hi hli hki
  have hlive : ∀ i, wr tm p ts i = ts → i ≠ p → tm i = ts := fun i hl hip => wr_other tm p ts hip ▸ hl
  have hstays : ∀ i, tm i = ts → wr tm p ts i = ts := fun i hl => by
    by_cases hip : i = p
    · rw [hip, wr_same]
    · rw [wr_other _ _ _ hip, hl]
  refine ⟨I.tsLe, ?_, ?_, ?_, hroom, ?_⟩
  · intro i j hi hj hli hlj hk
    by_cases hip : i = p <;> by_cases hjp : j = p
    · rw [hip, hjp]
    · rw [hip, wr_same, wr_other _ _ _ hjp] at hk
      exact absurd hk.symm (huniq j hj hjp (hlive j hlj hjp))
    · rw [hjp, wr_same, wr_other _ _ _ hip] at hk
      exact absurd hk (huniq i hi hip (hlive i hli hip))
    · rw [wr_other _ _ _ hip, wr_other _ _ _ hjp] at hk
      exact I.distinct i j hi hj (hlive i hli hip) (hlive j hlj hjp) hk
  · intro i hi hli
    by_cases hip : i = p
    · rw [hip, wr_same]
      exact ⟨d, hd, hpd, fun e he => hstays _ (hall e he).1⟩
    · rw [wr_other _ _ _ hip]
      obtain ⟨d', hd', hid', hch⟩ := I.chain i hi (hlive i hli hip)
      exact ⟨d', hd', hid', fun e he => hstays _ (hch e he)⟩
  · rw [hlen]
    by_cases hlp : tm p = ts
    · rw [if_pos hlp, I.count, cnt_eq, cnt_eq]
      refine cntTo_congr _ _ _ fun i _ => ?_
      by_cases hip : i = p
      · rw [hip, wr_same, hlp]
      · rw [wr_other _ _ _ hip]
    · rw [if_neg hlp, I.count, cnt_eq, cnt_eq]
      exact cntTo_unset _ _ p (fun i hi => by rw [wr_other _ _ _ hi]) N hpN (by rw [wr_same]; exact beq_self_eq_true ts)
        (by simpa using hlp)
  · intro i hi
    by_cases hip : i = p
    · rw [hip, wr_same]; exact Or.inl (Nat.le_refl _)
    · rw [wr_other _ _ _ hip]; exact I.hygiene i hi

theorem InvF_empty (N : Nat) (h tm ky : Nat → Nat) (ts : Nat) (hN : 0 < N) (hts : ts ≤ u32Max)
    (hdead : ∀ i, i < N → tm i ≠ ts) (hhyg : ∀ i, i < N → tm i ≤ ts ∨ tm i = u32Max) :
    InvF N h tm ky ts 0 := by
  refine ⟨hts, ?_, ?_, ?_, hN, hhyg⟩
  · intro i j hi _ hli; exact absurd hli (hdead i hi)
  · intro i hi hli; exact absurd hli (hdead i hi)
  · rw [cnt_eq, cntTo_none]; intro i hi; simpa using hdead i hi

end Tbx.HashTable
