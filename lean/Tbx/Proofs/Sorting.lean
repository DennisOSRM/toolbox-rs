import Tbx.Spec.Sorting
import Tbx.Proofs.InsertSort
/-
Facts about the naive sort `isort` (Spec/Sorting.lean): it is sorted, a permutation, and the only
sorted permutation; so "equals `isort xs`" is the same as "sorted and the same multiset as xs".
-/
namespace Tbx.Sorting

theorem sorted_cons {x : Int} {l : List Int} : Sorted (x :: l) ↔ (∀ y ∈ l, x ≤ y) ∧ Sorted l := by
  unfold Sorted; exact List.pairwise_cons

theorem sortedB_iff (l : List Int) : sortedB l = true ↔ Sorted l := by
  induction l with
  | nil => simp [sortedB, Sorted]
  | cons x t ih =>
    cases t with
    | nil => simp [sortedB, Sorted]
    | cons y r =>
      simp only [sortedB, Bool.and_eq_true, decide_eq_true_eq, ih]
      rw [sorted_cons (x := x), sorted_cons (x := y)]
      constructor
      · rintro ⟨hxy, hy, hr⟩
        refine ⟨?_, hy, hr⟩
        intro z hz
        rcases List.mem_cons.mp hz with rfl | hz
        · exact hxy
        · exact Int.le_trans hxy (hy z hz)
      · rintro ⟨hx, hy, hr⟩
        exact ⟨hx y (List.mem_cons_self), hy, hr⟩

theorem ins_perm (x : Int) (l : List Int) : (ins x l).Perm (x :: l) :=
  InsertSort.perm_ins ins (fun _ => rfl) (fun _ _ _ => rfl) x l

theorem mem_ins {x z : Int} {l : List Int} : z ∈ ins x l ↔ z = x ∨ z ∈ l := by
  rw [(ins_perm x l).mem_iff]; simp

theorem ins_sorted (x : Int) (l : List Int) (h : Sorted l) : Sorted (ins x l) :=
  InsertSort.pairwise_ins ins (fun _ => rfl) (fun _ _ _ => rfl) x l h Int.le_trans (fun _ _ => by omega)

theorem isort_perm (l : List Int) : (isort l).Perm l :=
  InsertSort.perm_sort isort ins_perm rfl (fun _ _ => rfl) l

theorem isort_sorted (l : List Int) : Sorted (isort l) :=
  InsertSort.pairwise_sort isort ins_sorted rfl (fun _ _ => rfl) l

theorem sorted_perm_eq {a b : List Int} (ha : Sorted a) (hb : Sorted b) (h : a.Perm b) : a = b :=
  List.Perm.eq_of_pairwise (le := (· ≤ ·)) (fun _ _ _ _ h1 h2 => Int.le_antisymm h1 h2) ha hb h

theorem eq_isort_iff (out xs : List Int) : out = isort xs ↔ Sorted out ∧ out.Perm xs := by
  constructor
  · rintro rfl; exact ⟨isort_sorted xs, isort_perm xs⟩
  · rintro ⟨h1, h2⟩
    exact sorted_perm_eq h1 (isort_sorted xs) (h2.trans (isort_perm xs).symm)

theorem isort_congr {a b : List Int} (h : a.Perm b) : isort a = isort b :=
  sorted_perm_eq (isort_sorted a) (isort_sorted b) ((isort_perm a).trans (h.trans (isort_perm b).symm))

theorem isort_of_sorted {a : List Int} (h : Sorted a) : isort a = a :=
  ((eq_isort_iff a a).mpr ⟨h, List.Perm.refl _⟩).symm

theorem length_isort (l : List Int) : (isort l).length = l.length := (isort_perm l).length_eq

end Tbx.Sorting
