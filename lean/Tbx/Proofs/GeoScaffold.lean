import Tbx.Model.Scaffold
import Tbx.Proofs.InsertSort
/-
Grouping of scaffold: one feature per distinct id.
-/
namespace Tbx.Geo

theorem nodup_eraseDups (l : List Nat) : l.eraseDups.Nodup := by
  -- `eraseDups` recurses on a filtered tail: induction on a bound of the length
  suffices h : ∀ (n : Nat) (l : List Nat), l.length ≤ n → l.eraseDups.Nodup from h l.length l (Nat.le_refl _)
  intro n
  induction n with
  | zero =>
    intro l h
    have : l = [] := List.length_eq_zero_iff.mp (by omega)
    subst this; simp
  | succ n ih =>
    intro l h
    cases l with
    | nil => simp
    | cons a as =>
      rw [List.eraseDups_cons]
      have hl : (as.filter fun b => !b == a).length ≤ n := by
        have := List.length_filter_le (fun b => !b == a) as
        simp only [List.length_cons] at h
        omega
      refine List.nodup_cons.mpr ⟨?_, ih _ hl⟩
      intro hm
      have := List.mem_eraseDups.mp hm
      simp at this

theorem insertNat_perm (x : Nat) (l : List Nat) : (insertNat x l).Perm (x :: l) :=
  InsertSort.perm_ins insertNat (fun _ => rfl) (fun _ _ _ => rfl) x l

theorem sortNat_perm (l : List Nat) : (sortNat l).Perm l :=
  InsertSort.perm_sort sortNat insertNat_perm rfl (fun _ _ => rfl) l

theorem cellIds_nodup (ns : List SNode) : (cellIds ns).Nodup := by
  unfold cellIds
  exact (sortNat_perm _).nodup_iff.mpr (nodup_eraseDups _)

theorem mem_cellIds (ns : List SNode) (id : Nat) : id ∈ cellIds ns ↔ ∃ n ∈ ns, n.pid = id := by
  unfold cellIds
  rw [(sortNat_perm _).mem_iff, List.mem_eraseDups, List.mem_map]

theorem mem_cellOf (ns : List SNode) (id : Nat) (c : Coord) : c ∈ cellOf ns id ↔ ∃ n ∈ ns, n.pid = id ∧ n.p = c := by
  unfold cellOf
  simp only [List.mem_map, List.mem_filter, beq_iff_eq, and_assoc]

end Tbx.Geo
