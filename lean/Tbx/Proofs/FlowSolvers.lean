import Tbx.Proofs.FlowDinicDfs
import Tbx.Proofs.FlowEK
/-
The three solver models on one input, without any "if it returns" hypothesis (the C02 headline, of which the C01
headline is a projection): run with the driver's fuel each returns, they report the same value and the same
assignment, and that assignment is the canonical minimum cut (`solvers_return_canonical_cut`; from `dinic_total`,
`ek_ff_total` and `canonical_unique`).
-/
namespace Tbx.Flow
open Tbx Tbx.FlowTheory Tbx.FlowSpec

theorem solvers_return_canonical_cut (es : List Edge) (s t : Nat) (hnn : ∀ e, e ∈ es → 0 ≤ e.cap)
    (hst : s ≠ t) (hs : s < nNodes (es.map toE)) (ht : t < nNodes (es.map toE))
    (hN : nNodes (es.map toE) + 2 < INV) :
    ∃ (bits : Array Bool) (x : ℤ) (d d' : Dinic) (ek ff : Solver),
      Dinic.fromEdgeList es s t = some d ∧ d.run ((es.map Edge.cap).sum.toNat + 2) = some d' ∧
      (Solver.fromEdgeList es s t).runEK ((es.map Edge.cap).sum.toNat + 2) = some ek ∧
      (Solver.fromEdgeList es s t).runFF ((es.map Edge.cap).sum.toNat + 2) = some ff ∧
      d'.maxFlow? = .ok x ∧ ek.maxFlow? = .ok x ∧ ff.maxFlow? = .ok x ∧
      d'.assignment? s = .ok bits ∧ ek.assignment? s = .ok bits ∧ ff.assignment? s = .ok bits ∧
      bits.size = nNodes (es.map toE) ∧
      (let n := nNodes (es.map toE)
       let c := cF (es.map toE) n
       let A := setOf n (fun v => gt bits v)
       ⟨s, hs⟩ ∈ A ∧ ⟨t, ht⟩ ∉ A ∧ cutCap c A = x ∧ IsMaxFlowValue c ⟨s, hs⟩ ⟨t, ht⟩ x ∧
       (∀ S' : Finset (Fin n), ⟨s, hs⟩ ∈ S' → ⟨t, ht⟩ ∉ S' → cutCap c A ≤ cutCap c S') ∧
       (∀ S' : Finset (Fin n), ⟨s, hs⟩ ∈ S' → ⟨t, ht⟩ ∉ S' → cutCap c S' = x → A ⊆ S')) := by
  have hne : es.isEmpty = false := by
    cases es with
    | nil => have h1 : s < 1 := hs; have h2 : t < 1 := ht; omega
    | cons a l => rfl
  have hd := fromEdgeList_of_ne es s t hne
  have hN' : nNodes (es.map toE) ≤ INV := Nat.le_of_lt (Nat.lt_of_le_of_lt (Nat.le_add_right _ 2) hN)
  obtain ⟨d', h1, m1, o1⟩ := dinic_total es s t hnn hst hs ht hN _ hd
  obtain ⟨ek, h2, _, o2⟩ := ek_ff_total es s t hnn hst hs ht hN' popBack popBack_ok popBack_len
  obtain ⟨ff, h3, _, o3⟩ := ek_ff_total es s t hnn hst hs ht hN' popFront popFront_ok popFront_len
  obtain ⟨_, _, q1, _⟩ := run_spec es s t hnn hst hN _ hd _ d' h1
  obtain ⟨_, _, q2⟩ := fromEdgeList_run es s t hnn hst hN' popBack popBack_ok _ ek h2
  obtain ⟨_, _, q3⟩ := fromEdgeList_run es s t hnn hst hN' popFront popFront_ok _ ff h3
  obtain ⟨b1, hb1⟩ := assignmentOut_total d'.g q1.dl.fi.wf.targetsOK s (by rw [q1.dl.fi.hn]; exact hs)
  obtain ⟨b2, hb2⟩ := assignmentOut_total ek.g q2.fi.wf.targetsOK s (by rw [q2.fi.hn]; exact hs)
  obtain ⟨b3, hb3⟩ := assignmentOut_total ff.g q3.fi.wf.targetsOK s (by rw [q3.fi.hn]; exact hs)
  obtain ⟨e21, hb21⟩ := canonical_unique _ _ _ _ q2.fi q1.dl.fi q2.nr q1.nr b2 b1 hb2 hb1
  obtain ⟨e31, hb31⟩ := canonical_unique _ _ _ _ q3.fi q1.dl.fi q3.nr q1.nr b3 b1 hb3 hb1
  obtain ⟨s1, k1⟩ := assignment_canonical d'.g d'.maxFlow q1.dl.fi q1.nr b1 hb1
  refine ⟨b1, d'.maxFlow, _, d', ek, ff, hd, h1, h2, h3, o1, by rw [o2, e21], by rw [o3, e31],
    by unfold Dinic.assignment?; rw [q1.fin]; exact hb1,
    by unfold Solver.assignment?; rw [q2.fin, ← hb21]; exact hb2,
    by unfold Solver.assignment?; rw [q3.fin, ← hb31]; exact hb3, s1, ?_⟩
  exact ⟨k1.src, k1.tgt, k1.val, m1, k1.min, k1.canon⟩

end Tbx.Flow
