import Tbx.Spec.Bisection
/-
C03, the argument shared by the model theorem and by the soundness of the judge's checker:

  a renumbering ρ of the cell's nodes (first end ↦ 0, last end ↦ 1, injective elsewhere) + a side `inA` of
  the contracted graph that is a minimum cut and is contained in every minimum cut
  ⟹ the two sets  { x ∈ cell | inA (ρ x) },  { x ∈ cell | ¬ inA (ρ x) }  satisfy `Bisection.Valid`.

Everything is at the level of lists and Boolean predicates (no Finset, no Mathlib): the cut of a side
`inS` of the contracted graph is `cutE ρ edges inS` = the number of input edges whose renumbered tail is
inside and whose renumbered head is outside (self-loops of the contracted graph never count).
-/
namespace Tbx.BisectionCore
open Tbx Tbx.Bisection

def cutE (ρ : Nat → Nat) (edges : List (Nat × Nat)) (inS : Nat → Bool) : Nat :=
  edges.countP fun e => inS (ρ e.1) && !inS (ρ e.2)

/-- `dom` = the nodes that have a number -/
structure Contr (edges : List (Nat × Nat)) (cell S T : List Nat) (ρ : Nat → Nat) (dom : Nat → Bool) : Prop where
  rho0 : ∀ x, dom x = true → (ρ x = 0 ↔ x ∈ S)
  rho1 : ∀ x, dom x = true → (ρ x = 1 ↔ x ∈ T)
  inj : ∀ x y, dom x = true → dom y = true → 2 ≤ ρ x → ρ x = ρ y → x = y
  domIff : ∀ x, dom x = true ↔ (x ∈ S ∨ x ∈ T ∨ touched edges x = true)
  srcCell : ∀ e, e ∈ edges → e.1 ∈ cell
  subS : ∀ x, x ∈ S → x ∈ cell
  subT : ∀ x, x ∈ T → x ∈ cell

structure MinCut (edges : List (Nat × Nat)) (ρ : Nat → Nat) (flow : Int) (inA : Nat → Bool) : Prop where
  a0 : inA 0 = true
  a1 : inA 1 = false
  val : flow = (cutE ρ edges inA : Int)
  min : ∀ inS : Nat → Bool, inS 0 = true → inS 1 = false → flow ≤ (cutE ρ edges inS : Int)
  canon : ∀ inS : Nat → Bool, inS 0 = true → inS 1 = false → (cutE ρ edges inS : Int) = flow →
    ∀ p, inA p = true → inS p = true

theorem touched_of_mem {edges : List (Nat × Nat)} {e : Nat × Nat} (he : e ∈ edges) :
    touched edges e.1 = true ∧ touched edges e.2 = true := by
  unfold touched
  constructor <;> (rw [List.any_eq_true]; exact ⟨e, he, by simp⟩)

theorem crossLR_eq_crossCell {edges : List (Nat × Nat)} {sorted S T left right : List Nat}
    (hdis : ∀ x, x ∈ left → x ∉ right)
    (hcov : ∀ x, (x ∈ left ∨ x ∈ right) ↔ (x ∈ sorted ∧ (x ∈ S ∨ x ∈ T ∨ touched edges x = true))) :
    crossLR edges left right = crossCell edges sorted (fun x => left.contains x) := by
  unfold crossLR crossCell
  apply List.countP_congr
  intro e he
  simp only [Bool.and_eq_true, List.contains_iff_mem, Bool.not_eq_eq_eq_not, Bool.not_true]
  constructor
  · rintro ⟨a, b⟩
    refine ⟨⟨a, ((hcov e.2).mp (Or.inr b)).1⟩, ?_⟩
    cases hc : left.contains e.2 with
    | false => rfl
    | true => exact absurd b (hdis e.2 (List.contains_iff_mem.mp hc))
  · rintro ⟨⟨a, b⟩, c⟩
    refine ⟨a, ?_⟩
    rcases (hcov e.2).mpr ⟨b, Or.inr (Or.inr (touched_of_mem he).2)⟩ with h' | h'
    · rw [List.contains_iff_mem.mpr h'] at c; cases c
    · exact h'

/-- each left set is a side the other result is minimal against -/
theorem _root_.Tbx.Bisection.Valid.le {edges : List (Nat × Nat)} {sorted : List Nat} {k : Nat} {f1 f2 : Int}
    {l1 r1 l2 r2 : List Nat} (v1 : Valid edges sorted k f1 l1 r1) (v2 : Valid edges sorted k f2 l2 r2) :
    f1 ≤ f2 ∧ (f1 = f2 → (∀ x, x ∈ l1 → x ∈ l2) ∧ (∀ x, x ∈ r2 → x ∈ r1)) := by
  have a : ∀ x, x ∈ firstK sorted k → l2.contains x = true := fun x hx =>
    List.contains_iff_mem.mpr (v2.endsL x hx)
  have b : ∀ x, x ∈ lastK sorted k → l2.contains x = false := fun x hx =>
    Bool.eq_false_iff.mpr fun hc => v2.disjoint x (List.contains_iff_mem.mp hc) (v2.endsR x hx)
  have c : (crossCell edges sorted (fun x => l2.contains x) : Int) = f2 := by
    rw [v2.flowCounts, crossLR_eq_crossCell v2.disjoint v2.cover]
  refine ⟨c ▸ v1.minimal _ a b, fun hf => ?_⟩
  have hl : ∀ x, x ∈ l1 → x ∈ l2 := fun x hx =>
    List.contains_iff_mem.mp (v1.leftMinimal _ a b (c.trans hf.symm) x hx)
  refine ⟨hl, fun x hx => ?_⟩
  rcases (v1.cover x).mpr ((v2.cover x).mp (Or.inr hx)) with h | h
  · exact absurd hx (v2.disjoint x (hl x h))
  · exact h

section
variable {edges : List (Nat × Nat)} {cell S T : List Nat} {ρ : Nat → Nat} {dom : Nat → Bool}
variable {flow : Int} {inA : Nat → Bool}

theorem dom_of_edge (hc : Contr edges cell S T ρ dom) {e : Nat × Nat} (he : e ∈ edges) :
    dom e.1 = true ∧ dom e.2 = true :=
  ⟨(hc.domIff _).mpr (Or.inr (Or.inr (touched_of_mem he).1)),
   (hc.domIff _).mpr (Or.inr (Or.inr (touched_of_mem he).2))⟩

/-- a side `L` of the cell that contains `S` and avoids `T` is a side of the contracted graph with the same cut:
    the numbers of the nodes of `L` and of ALL nodes outside the cell (an outside node has no outgoing edge, so
    on the inside it cuts nothing) -/
theorem exists_side (hc : Contr edges cell S T ρ dom) (L : Nat → Bool)
    (hL0 : ∀ x, x ∈ S → L x = true) (hL1 : ∀ x, x ∈ T → L x = false) :
    ∃ inS : Nat → Bool, inS 0 = true ∧ inS 1 = false ∧ cutE ρ edges inS = crossCell edges cell L ∧
      ∀ x, x ∈ cell → dom x = true → inS (ρ x) = L x := by
  classical
  let inS : Nat → Bool := fun q =>
    q == 0 || (q != 1 && decide (∃ x, dom x = true ∧ ρ x = q ∧ (x ∉ cell ∨ L x = true)))
  have hin : ∀ x, dom x = true → ρ x ≠ 1 → (x ∉ cell ∨ L x = true) → inS (ρ x) = true := fun x hd h1 hor => by
    simp only [inS, Bool.or_eq_true, Bool.and_eq_true, bne_iff_ne, decide_eq_true_eq]
    exact Or.inr ⟨h1, x, hd, rfl, hor⟩
  have hrho : ∀ x, x ∈ cell → dom x = true → inS (ρ x) = L x := by
    intro x hx hd
    by_cases h0 : ρ x = 0
    · rw [h0, hL0 x ((hc.rho0 x hd).mp h0)]; rfl
    by_cases h1 : ρ x = 1
    · rw [h1, hL1 x ((hc.rho1 x hd).mp h1)]; rfl
    cases hl : L x with
    | true => exact hin x hd h1 (Or.inr hl)
    | false =>
      simp only [inS, Bool.or_eq_false_iff, beq_eq_false_iff_ne, Bool.and_eq_false_iff, decide_eq_false_iff_not]
      refine ⟨h0, Or.inr ?_⟩
      rintro ⟨y, hdy, hy, hor⟩
      obtain rfl := hc.inj x y hd hdy (by omega) hy.symm
      rcases hor with h | h
      · exact h hx
      · rw [hl] at h; cases h
  refine ⟨inS, rfl, rfl, ?_, hrho⟩
  unfold cutE crossCell
  apply List.countP_congr
  intro e he
  obtain ⟨hd1, hd2⟩ := dom_of_edge hc he
  rw [hrho e.1 (hc.srcCell e he) hd1]
  by_cases hv : e.2 ∈ cell
  · rw [hrho e.2 hv hd2, List.contains_iff_mem.mpr hv, Bool.and_true]
  · rw [hin e.2 hd2 (fun h => hv (hc.subT _ ((hc.rho1 _ hd2).mp h))) (Or.inl hv),
      Bool.eq_false_iff.mpr (mt List.contains_iff_mem.mp hv)]
    simp

theorem MinCut.onCell (hc : Contr edges cell S T ρ dom) (hm : MinCut edges ρ flow inA) (L : Nat → Bool)
    (hL0 : ∀ x, x ∈ S → L x = true) (hL1 : ∀ x, x ∈ T → L x = false) :
    flow ≤ (crossCell edges cell L : Int) ∧ ((crossCell edges cell L : Int) = flow →
      ∀ x, x ∈ cell → dom x = true → inA (ρ x) = true → L x = true) := by
  obtain ⟨inS, h0, h1, hcut, hrho⟩ := exists_side hc L hL0 hL1
  rw [← hcut]
  exact ⟨hm.min inS h0 h1, fun heq x hx hd ha => hrho x hx hd ▸ hm.canon inS h0 h1 heq _ ha⟩

theorem valid_of_mincut {k : Nat} (hc : Contr edges cell (firstK cell k) (lastK cell k) ρ dom)
    (hm : MinCut edges ρ flow inA) (left right : List Nat)
    (hl : ∀ x, x ∈ left ↔ (x ∈ cell ∧ dom x = true ∧ inA (ρ x) = true))
    (hr : ∀ x, x ∈ right ↔ (x ∈ cell ∧ dom x = true ∧ inA (ρ x) = false)) :
    Valid edges cell k flow left right := by
  have hdis : ∀ x, x ∈ left → x ∉ right := fun x hxl hxr => by
    have a := ((hl x).mp hxl).2.2
    rw [((hr x).mp hxr).2.2] at a; cases a
  have hcov : ∀ x, (x ∈ left ∨ x ∈ right) ↔
      (x ∈ cell ∧ (x ∈ firstK cell k ∨ x ∈ lastK cell k ∨ touched edges x = true)) := by
    intro x
    rw [hl, hr, ← hc.domIff]
    cases inA (ρ x) <;> simp
  have hendL : ∀ x, x ∈ firstK cell k → x ∈ left := fun x hx => by
    have hd : dom x = true := (hc.domIff x).mpr (Or.inl hx)
    exact (hl x).mpr ⟨hc.subS x hx, hd, by rw [(hc.rho0 x hd).mpr hx]; exact hm.a0⟩
  have hendR : ∀ x, x ∈ lastK cell k → x ∈ right := fun x hx => by
    have hd : dom x = true := (hc.domIff x).mpr (Or.inr (Or.inl hx))
    exact (hr x).mpr ⟨hc.subT x hx, hd, by rw [(hc.rho1 x hd).mpr hx]; exact hm.a1⟩
  refine ⟨hdis, hcov, hendL, hendR, ?_, fun L hL0 hL1 => (hm.onCell hc L hL0 hL1).1,
    fun L hL0 hL1 heq x hx => ?_⟩
  · -- flow ≤ #cell edges leaving `left` (a side of the cell) ≤ #cut edges of `inA` = flow
    have hmin := (hm.onCell hc (fun x => left.contains x) (fun x hx => List.contains_iff_mem.mpr (hendL x hx))
      fun x hx => Bool.eq_false_iff.mpr fun h => hdis x (List.contains_iff_mem.mp h) (hendR x hx)).1
    have hle : crossCell edges cell (fun x => left.contains x) ≤ cutE ρ edges inA := by
      refine List.countP_mono_left fun e he h => ?_
      simp only [Bool.and_eq_true, Bool.not_eq_eq_eq_not, Bool.not_true, List.contains_iff_mem] at h
      obtain ⟨⟨a, b⟩, c⟩ := h
      rw [((hl _).mp a).2.2]
      cases hA : inA (ρ e.2) with
      | false => rfl
      | true => exact absurd ((hl _).mpr ⟨b, (dom_of_edge hc he).2, hA⟩) (by simpa using c)
    rw [crossLR_eq_crossCell hdis hcov]
    have := hm.val
    omega
  · obtain ⟨hxc, hd, ha⟩ := (hl x).mp hx
    exact (hm.onCell hc L hL0 hL1).2 heq x hxc hd ha

end
end Tbx.BisectionCore
