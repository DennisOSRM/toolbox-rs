import Tbx.Proofs.RadixBucket
/-
Histogram level = bucket level (C17).  Friend's one-pass histograms hold the bucket sizes of every round; the
prefix phase turns a row into the start offsets of the buckets in the pass's bucket order (`startOf`); the
placement loop is followed on the output buffer read as a list, the concatenation of one segment per bucket in
that order: every write extends the filled part of one segment by the next element of its bucket, so the loop
leaves the concatenation of the buckets, i.e. the bucket-level pass.
-/
namespace Tbx.Radix
open Tbx Tbx.SortSpec

theorem gt_incr {w : Nat} {tab : Table} (h : Grid tab w 256) (k r k' b : Nat) (hk : k < w) (hr : r < 256) :
    gt (gt (incr tab k r) k') b = gt (gt tab k') b + (if k = k' ∧ r = b then 1 else 0) := by
  rw [incr, h.gt_st_st hk hr]
  by_cases hc : k' = k ∧ b = r
  · rw [if_pos hc, if_pos ⟨hc.1.symm, hc.2.symm⟩, hc.1, hc.2]
  · rw [if_neg hc, if_neg (fun h' => hc ⟨h'.1.symm, h'.2.symm⟩), Nat.add_zero]

def cnt (t : Ty) (k : Nat) (l : List Nat) (b : Nat) : Nat := l.countP (fun x => key t x k == b)

theorem cnt_cons (t : Ty) (k x : Nat) (xs : List Nat) (b : Nat) :
    cnt t k (x :: xs) b = cnt t k xs b + (if key t x k = b then 1 else 0) := by
  unfold cnt
  rw [List.countP_cons]
  simp

theorem histOne_spec (t : Ty) (x : Nat) (w : Nat) : ∀ (ks : List Nat) (tab : Table), Grid tab w 256 →
    (∀ k ∈ ks, k < w) →
    Grid (histOne t x ks tab) w 256 ∧
    ∀ k' b, gt (gt (histOne t x ks tab) k') b =
      gt (gt tab k') b + (if key t x k' = b then ks.count k' else 0) := by
  intro ks
  induction ks with
  | nil => intro tab h _; exact ⟨h, by intro k' b; simp [histOne]⟩
  | cons k ks ih =>
    intro tab h hlt
    have hk : k < w := hlt k List.mem_cons_self
    have := ih (incr tab k (key t x k)) (h.st_st k _ _) (fun k' hk' => hlt k' (List.mem_cons_of_mem _ hk'))
    refine ⟨this.1, ?_⟩
    intro k' b
    simp only [histOne]
    rw [this.2 k' b, gt_incr h k _ k' b hk (key_lt t x k), List.count_cons]
    by_cases hkk : k = k'
    · subst hkk
      by_cases hb : key t x k = b <;> simp [hb] <;> omega
    · simp [hkk]

theorem histFrom_spec (t : Ty) : ∀ (xs : List Nat) (tab : Table), Grid tab t.w 256 →
    Grid (histFrom t xs tab) t.w 256 ∧
    ∀ k b, k < t.w → gt (gt (histFrom t xs tab) k) b = gt (gt tab k) b + cnt t k xs b := by
  intro xs
  induction xs with
  | nil => intro tab h; exact ⟨h, fun k b _ => by rw [cnt, List.countP_nil]; rfl⟩
  | cons x xs ih =>
    intro tab h
    have h1 := histOne_spec t x t.w (List.range t.w) tab h (fun k hk => List.mem_range.mp hk)
    have h2 := ih (histOne t x (List.range t.w) tab) h1.1
    refine ⟨h2.1, ?_⟩
    intro k b hk
    simp only [histFrom]
    rw [h2.2 k b hk, h1.2 k b, cnt_cons, List.count_range, if_pos hk, Nat.add_assoc, Nat.add_comm (cnt t k xs b)]

theorem zeroTable_grid (t : Ty) : Grid (zeroTable t) t.w 256 := by
  constructor
  · simp [zeroTable]
  · intro k hk
    unfold zeroTable
    rw [gt_replicate _ _ _ hk]
    simp

theorem hist_count (t : Ty) (xs : List Nat) (k b : Nat) (hk : k < t.w) :
    gt (gt (histAll t xs) k) b = cnt t k xs b := by
  unfold histAll
  rw [(histFrom_spec t xs (zeroTable t) (zeroTable_grid t)).2 k b hk]
  unfold zeroTable
  rw [gt_replicate _ _ _ hk]
  rw [show gt (Array.replicate 256 0) b = 0 from gt_replicate_default 256 b]
  exact Nat.zero_add _

/-- start offset of bucket `b`: total count of the buckets laid out before it in the order `bo` -/
def startOf (bo : List Nat) (c : Nat → Nat) (b : Nat) : Nat := ((bo.takeWhile (· != b)).map c).sum

theorem startOf_cons_self (bo : List Nat) (c : Nat → Nat) (b : Nat) : startOf (b :: bo) c b = 0 := by
  simp [startOf]

theorem startOf_cons_ne (bo : List Nat) (c : Nat → Nat) (a b : Nat) (h : a ≠ b) :
    startOf (a :: bo) c b = c a + startOf bo c b := by
  simp [startOf, h]

theorem startOf_append_left (l1 l2 : List Nat) (c : Nat → Nat) (b : Nat) (h : b ∈ l1) :
    startOf (l1 ++ l2) c b = startOf l1 c b := by
  induction l1 with
  | nil => cases h
  | cons a l ih =>
    by_cases e : a = b
    · subst e; rw [List.cons_append, startOf_cons_self, startOf_cons_self]
    · rw [List.cons_append, startOf_cons_ne _ _ _ _ e, startOf_cons_ne _ _ _ _ e]
      rw [ih (List.mem_of_ne_of_mem (Ne.symm e) h)]

theorem startOf_append_right (l1 l2 : List Nat) (c : Nat → Nat) (b : Nat) (h : b ∉ l1) :
    startOf (l1 ++ l2) c b = (l1.map c).sum + startOf l2 c b := by
  induction l1 with
  | nil => simp
  | cons a l ih =>
    have e : a ≠ b := fun e => h (e ▸ List.mem_cons_self)
    rw [List.cons_append, startOf_cons_ne _ _ _ _ e, ih (fun h' => h (List.mem_cons_of_mem _ h'))]
    simp [List.sum_cons]; omega

/-- a scan over cells `bs` that still hold the counts `c` -/
theorem scan_spec (n : Nat) (c : Nat → Nat) : ∀ (bs : List Nat) (h : Array Nat) (prev : Nat) (skip : Bool), bs.Nodup →
    (∀ b ∈ bs, b < h.size ∧ gt h b = c b) →
    (scan n bs h prev skip).1.size = h.size ∧
    (∀ b, b ∉ bs → gt (scan n bs h prev skip).1 b = gt h b) ∧
    (∀ b, b ∈ bs → gt (scan n bs h prev skip).1 b = prev + startOf bs c b) ∧
    (scan n bs h prev skip).2.2 = (skip || bs.any (fun b => c b == n)) := by
  intro bs
  induction bs with
  | nil =>
    intro h prev skip _ _
    refine ⟨rfl, fun _ _ => rfl, ?_, ?_⟩
    · intro b hb; cases hb
    · exact (Bool.or_false _).symm
  | cons i is ih =>
    intro h prev skip hnd hc
    rw [List.nodup_cons] at hnd
    have hi := hc i List.mem_cons_self
    have IH := ih (st h i prev) (prev + c i) (skip || c i == n) hnd.2 (fun b hb => by
      rw [size_st, gt_st_ne h i b prev (fun e => hnd.1 (e ▸ hb))]
      exact hc b (List.mem_cons_of_mem _ hb))
    simp only [scan]
    rw [hi.2]
    refine ⟨by rw [IH.1, size_st], ?_, ?_, ?_⟩
    · intro b hb
      rw [IH.2.1 b (fun h' => hb (List.mem_cons_of_mem _ h'))]
      exact gt_st_ne h i b prev (fun e => hb (e ▸ List.mem_cons_self))
    · intro b hb
      by_cases e : i = b
      · subst e
        rw [IH.2.1 i hnd.1, gt_st_eq h i prev hi.1, startOf_cons_self]; rfl
      · rw [IH.2.2.1 b (List.mem_of_ne_of_mem (Ne.symm e) hb), startOf_cons_ne _ _ _ _ e]
        exact Nat.add_assoc _ _ _
    · rw [IH.2.2.2, List.any_cons, Bool.or_assoc]


/-- row `k` of the table after the prefix-sum phase: start offsets in the pass's bucket order -/
structure RowOK (t : Ty) (k : Nat) (c : Nat → Nat) (offs : Array Nat) : Prop where
  size : offs.size = 256
  start : ∀ b, b < 256 → gt offs b = startOf (bucketOrder t k) c b

theorem prefixRound_spec (t : Ty) (n k : Nat) (h : Array Nat) (hs : h.size = 256) :
    RowOK t k (gt h) (prefixRound t n k h false).1 ∧
    (prefixRound t n k h false).2 = (List.range' 0 256).any (fun b => gt h b == n) := by
  unfold prefixRound
  by_cases hc : (isSigned t && k == t.w - 1) = true
  · rw [if_pos hc]
    -- the second scan still finds the counts in the cells 128..255, which the first has not touched
    have S1 := scan_spec n (gt h) (List.range' 0 128) h (sumFrom128 h) false List.nodup_range'
      (fun b hb => ⟨by rw [hs]; exact Nat.lt_trans (List.mem_range'_1.1 hb).2 (by decide), rfl⟩)
    have S2 := scan_spec n (gt h) (List.range' 128 128) (scan n (List.range' 0 128) h (sumFrom128 h) false).1 0
      (scan n (List.range' 0 128) h (sumFrom128 h) false).2.2 List.nodup_range'
      (fun b hb => ⟨by rw [S1.1, hs]; exact (List.mem_range'_1.1 hb).2,
        S1.2.1 b fun hm => Nat.not_lt.mpr (List.mem_range'_1.1 hb).1 (List.mem_range'_1.1 hm).2⟩)
    have hbo : bucketOrder t k = List.range' 128 128 ++ List.range' 0 128 := by
      unfold bucketOrder; rw [if_pos hc]
    refine ⟨⟨?_, ?_⟩, ?_⟩
    · dsimp only
      rw [S2.1, S1.1, hs]
    · intro b hb
      dsimp only
      rw [hbo]
      by_cases hlo : b < 128
      · have h1 : b ∉ List.range' 128 128 := fun hm => Nat.not_le.mpr hlo (List.mem_range'_1.1 hm).1
        rw [S2.2.1 b h1, S1.2.2.1 b (List.mem_range'_1.2 ⟨Nat.zero_le b, hlo⟩), startOf_append_right _ _ _ _ h1]
        rfl
      · have h1 : b ∈ List.range' 128 128 := List.mem_range'_1.2 ⟨Nat.le_of_not_lt hlo, hb⟩
        rw [S2.2.2.1 b h1, startOf_append_left _ _ _ _ h1]
        exact Nat.zero_add _
    · dsimp only
      rw [S2.2.2.2, S1.2.2.2]
      have : List.range' 0 256 = List.range' 0 128 ++ List.range' (0 + 128) 128 :=
        (List.range'_append_1 (s := 0) (m := 128) (n := 128)).symm
      rw [this, List.any_append, Bool.false_or]
  · rw [if_neg hc]
    have S := scan_spec n (gt h) (List.range' 0 256) h 0 (gt h 0 == n) List.nodup_range'
      (fun b hb => ⟨by rw [hs]; exact (List.mem_range'_1.1 hb).2, rfl⟩)
    have hbo : bucketOrder t k = List.range' 0 256 := by
      unfold bucketOrder; rw [if_neg hc]
    refine ⟨⟨?_, ?_⟩, ?_⟩
    · dsimp only
      rw [S.1, hs]
    · intro b hb
      dsimp only
      rw [hbo, S.2.2.1 b (List.mem_range'_1.2 ⟨Nat.zero_le b, hb⟩)]
      exact Nat.zero_add _
    · dsimp only
      rw [S.2.2.2]
      cases h0 : (gt h 0 == n)
      · simp
      · have : (List.range' 0 256).any (fun b => gt h b == n) = true := by
          rw [List.any_eq_true]
          exact ⟨0, List.mem_range'_1.2 (by decide), h0⟩
        rw [this]; rfl


theorem bucket_length (t : Ty) (k b : Nat) (l : List Nat) : (bucket t k b l).length = cnt t k l b := by
  unfold bucket cnt
  rw [List.countP_eq_length_filter]

theorem bucket_cons (t : Ty) (k b x : Nat) (xs : List Nat) :
    bucket t k b (x :: xs) = if key t x k = b then x :: bucket t k b xs else bucket t k b xs := by
  unfold bucket
  rw [List.filter_cons]
  by_cases h : key t x k = b <;> simp [h]

/-- one write into the segment of bucket `b` of a concatenation of segments -/
theorem flatMap_set (F G : Nat → List Nat) (b i v : Nat) (hi : i < (F b).length) (hb : G b = (F b).set i v)
    (hne : ∀ a, a ≠ b → G a = F a) : ∀ (bo : List Nat), bo.Nodup → b ∈ bo →
    startOf bo (fun a => (F a).length) b + i < (bo.flatMap F).length ∧
    (bo.flatMap F).set (startOf bo (fun a => (F a).length) b + i) v = bo.flatMap G := by
  intro bo
  induction bo with
  | nil => intro _ h; cases h
  | cons a bo ih =>
    intro hnd hm
    rw [List.nodup_cons] at hnd
    rw [List.flatMap_cons, List.flatMap_cons, List.length_append]
    by_cases e : a = b
    · subst e
      have hsame : bo.flatMap G = bo.flatMap F := by
        rw [List.flatMap_def, List.map_congr_left fun c hc => hne c fun h => hnd.1 (h ▸ hc), ← List.flatMap_def]
      rw [startOf_cons_self, Nat.zero_add, List.set_append_left _ _ hi, hb, hsame]
      exact ⟨Nat.lt_add_right _ hi, rfl⟩
    · obtain ⟨h1, h2⟩ := ih hnd.2 (List.mem_of_ne_of_mem (Ne.symm e) hm)
      rw [startOf_cons_ne _ _ _ _ e, Nat.add_assoc, List.set_append_right _ _ (Nat.le_add_right _ _),
        Nat.add_sub_cancel_left, h2, hne a e]
      exact ⟨Nat.add_lt_add_left h1 _, rfl⟩

/-- a list as long as a concatenation of segments is a concatenation of segments of the same lengths -/
theorem exists_segments (f : Nat → List Nat) : ∀ (bo : List Nat) (L : List Nat), bo.Nodup →
    L.length = (bo.flatMap f).length → ∃ J : Nat → List Nat, (∀ b, (J b).length = (f b).length) ∧ L = bo.flatMap J := by
  intro bo
  induction bo with
  | nil =>
    intro L _ h
    exact ⟨f, fun _ => rfl, List.eq_nil_of_length_eq_zero h⟩
  | cons a bo ih =>
    intro L hnd h
    rw [List.nodup_cons] at hnd
    rw [List.flatMap_cons, List.length_append] at h
    obtain ⟨J, hJ, hL⟩ := ih (L.drop (f a).length) hnd.2 (by rw [List.length_drop]; omega)
    refine ⟨fun b => if b = a then L.take (f a).length else J b, fun b => ?_, ?_⟩
    · dsimp only
      split
      · rename_i e; rw [e, List.length_take]; omega
      · exact hJ b
    · rw [List.flatMap_cons, if_pos rfl, List.flatMap_def,
        List.map_congr_left (g := J) fun c hc => if_neg fun (h : c = a) => hnd.1 (h ▸ hc), ← List.flatMap_def, ← hL]
      exact (List.take_append_drop _ _).symm

/-- The buffer read as the concatenation, in bucket order, of the buckets' segments; a segment is what has been placed
    in it (`A b`) followed by the cells still to be written (`J b`, as many as the rest of the input has elements of the
    bucket), and `offs b` points at the first of these.  A step of the loop overwrites the head of one `J b` and moves it
    to the end of `A b`. -/
theorem place_flatMap (t : Ty) (k : Nat) (bo : List Nat) (hnd : bo.Nodup) (hbo : ∀ b, b ∈ bo ↔ b < 256) :
    ∀ (l : List Nat) (A J : Nat → List Nat) (offs out : Array Nat), offs.size = 256 →
    (∀ b, (J b).length = cnt t k l b) →
    (∀ b, b < 256 → gt offs b = startOf bo (fun a => (A a ++ J a).length) b + (A b).length) →
    out.toList = bo.flatMap (fun b => A b ++ J b) →
    ∃ offs' out', place t k l offs out = some (offs', out') ∧
      out'.toList = bo.flatMap (fun b => A b ++ bucket t k b l) := by
  intro l
  induction l with
  | nil =>
    intro A J offs out _ hJ _ hout
    refine ⟨offs, out, rfl, hout.trans ?_⟩
    congr 1
    funext b
    rw [List.eq_nil_of_length_eq_zero (hJ b)]
    rfl
  | cons x xs ih =>
    intro A J offs out hs hJ hoffs hout
    have hr : key t x k < 256 := key_lt t x k
    have hcnt := cnt_cons t k x xs
    have hbk := fun b => bucket_cons t k b x xs
    simp only [place]
    generalize key t x k = r at hr hcnt hbk ⊢
    obtain ⟨j, Jr, hJr⟩ := List.exists_cons_of_length_eq_add_one ((hJ r).trans (by rw [hcnt, if_pos rfl]))
    -- the segments after the write
    obtain ⟨A', hAr, hAne⟩ : ∃ A' : Nat → List Nat, A' r = A r ++ [x] ∧ ∀ b, b ≠ r → A' b = A b :=
      ⟨fun b => if b = r then A r ++ [x] else A b, if_pos rfl, fun b e => if_neg e⟩
    obtain ⟨J', hJr', hJne⟩ : ∃ J' : Nat → List Nat, J' r = Jr ∧ ∀ b, b ≠ r → J' b = J b :=
      ⟨fun b => if b = r then Jr else J b, if_pos rfl, fun b e => if_neg e⟩
    have hlen : (fun a => (A' a ++ J' a).length) = fun a => (A a ++ J a).length := by
      funext a
      by_cases e : a = r
      · rw [e, hAr, hJr', hJr]; simp
      · rw [hAne a e, hJne a e]
    obtain ⟨hlt, hset⟩ := flatMap_set (fun b => A b ++ J b) (fun b => A' b ++ J' b) r (A r).length x
      (by rw [hJr]; simp) (by rw [hAr, hJr', hJr]; simp) (fun a e => by rw [hAne a e, hJne a e]) bo hnd ((hbo r).2 hr)
    rw [← hoffs r hr, ← hout] at hlt hset
    obtain ⟨offs', out', hpl, hres⟩ := ih A' J' (st offs r (gt offs r + 1)) (st out (gt offs r) x)
      (by rw [size_st]; exact hs)
      (fun b => by
        have := hJ b
        rw [hcnt] at this
        by_cases e : b = r
        · rw [e, hJr']; rw [e, hJr, if_pos rfl] at this; exact Nat.succ.inj this
        · rw [hJne b e]; rw [if_neg (Ne.symm e)] at this; exact this)
      (fun b hb => by
        rw [hlen, gt_st_lt _ _ _ _ (hs ▸ hr)]
        by_cases e : b = r
        · rw [if_pos e, e, hAr, hoffs r hr, List.length_append]; exact Nat.add_assoc _ _ _
        · rw [if_neg e, hAne b e]; exact hoffs b hb)
      (by rw [← hset]; exact Array.toList_setIfInBounds)
    refine ⟨offs', out', by rw [if_pos ⟨by rw [← Array.length_toList]; exact hlt, hs ▸ hr⟩]; exact hpl, ?_⟩
    rw [hres]
    congr 1
    funext b
    rw [hbk]
    by_cases e : b = r
    · rw [e, hAr, if_pos rfl]; exact List.append_assoc _ _ _
    · rw [hAne b e, if_neg (Ne.symm e)]

theorem place_eq_pass (t : Ty) (k : Nat) (l : List Nat) (offs out : Array Nat)
    (hrow : RowOK t k (cnt t k l) offs) (hout : out.size = l.length) :
    ∃ offs' out', place t k l offs out = some (offs', out') ∧ out'.toList = pass t k l ∧
      out'.size = out.size := by
  have hnd := bucketOrder_nodup t k
  obtain ⟨J, hJ, hL⟩ := exists_segments (fun b => bucket t k b l) (bucketOrder t k) out.toList hnd
    (by rw [Array.length_toList, hout]; exact (pass_perm t k l).length_eq.symm)
  have hc : (fun a => ([] ++ J a).length) = cnt t k l := funext fun a => (hJ a).trans (bucket_length t k a l)
  obtain ⟨offs', out', hpl, hres⟩ := place_flatMap t k (bucketOrder t k) hnd (mem_bucketOrder t k) l (fun _ => []) J
    offs out hrow.size (congrFun hc) (fun b hb => by rw [hc]; exact hrow.start b hb) hL
  have hres : out'.toList = pass t k l := hres
  exact ⟨offs', out', hpl, hres, by rw [← Array.length_toList, hres, (pass_perm t k l).length_eq, hout]⟩


theorem prefixAll_spec (t : Ty) (n : Nat) : ∀ (ks : List Nat) (tab : Table) (sk : Array Bool), ks.Nodup →
    (∀ k ∈ ks, k < tab.size ∧ k < sk.size) →
    (∀ k, k ∈ ks →
      gt (prefixAll t n ks tab sk).1 k = (prefixRound t n k (gt tab k) (gt sk k)).1 ∧
      gt (prefixAll t n ks tab sk).2 k = (prefixRound t n k (gt tab k) (gt sk k)).2) ∧
    (∀ k, k ∉ ks → gt (prefixAll t n ks tab sk).1 k = gt tab k ∧ gt (prefixAll t n ks tab sk).2 k = gt sk k) := by
  intro ks
  induction ks with
  | nil =>
    intro tab sk _ _
    exact ⟨fun k hk => (by cases hk), fun k _ => ⟨rfl, rfl⟩⟩
  | cons k ks ih =>
    intro tab sk hnd hlt
    rw [List.nodup_cons] at hnd
    have hk := hlt k List.mem_cons_self
    simp only [prefixAll]
    have IH := ih (st tab k (prefixRound t n k (gt tab k) (gt sk k)).1)
      (st sk k (prefixRound t n k (gt tab k) (gt sk k)).2) hnd.2
      (by intro k' hk'; rw [size_st, size_st]; exact hlt k' (List.mem_cons_of_mem _ hk'))
    refine ⟨?_, ?_⟩
    · intro k' hk'
      by_cases ek : k = k'
      · subst ek
        have := IH.2 k hnd.1
        rw [this.1, this.2, gt_st_eq _ _ _ hk.1, gt_st_eq _ _ _ hk.2]
        exact ⟨rfl, rfl⟩
      · have := IH.1 k' (List.mem_of_ne_of_mem (Ne.symm ek) hk')
        rw [gt_st_ne _ _ _ _ ek, gt_st_ne _ _ _ _ ek] at this
        exact this
    · intro k' hk'
      have ek : k ≠ k' := fun e => hk' (e ▸ List.mem_cons_self)
      have := IH.2 k' (fun h => hk' (List.mem_cons_of_mem _ h))
      rw [gt_st_ne _ _ _ _ ek, gt_st_ne _ _ _ _ ek] at this
      exact this

theorem permute_spec (t : Ty) (xs : List Nat) : ∀ (ks : List Nat) (tab : Table) (sk : Array Bool)
    (cur out : Array Nat), ks.Nodup →
    (∀ k ∈ ks, RowOK t k (cnt t k xs) (gt tab k) ∧ gt sk k = skipRound t k xs) →
    cur.toList.Perm xs → out.size = cur.size →
    ∃ a, permute t ks tab sk cur out = some a ∧ a.toList = roundsB t xs ks cur.toList := by
  intro ks
  induction ks with
  | nil =>
    intro tab sk cur out _ _ _ _
    exact ⟨cur, rfl, rfl⟩
  | cons k ks ih =>
    intro tab sk cur out hnd hrows hperm hsize
    rw [List.nodup_cons] at hnd
    have hk := hrows k List.mem_cons_self
    have hrest : ∀ k' ∈ ks, RowOK t k' (cnt t k' xs) (gt tab k') ∧ gt sk k' = skipRound t k' xs :=
      fun k' hk' => hrows k' (List.mem_cons_of_mem _ hk')
    simp only [roundsB]
    by_cases hs : gt sk k = true
    · simp only [permute]
      rw [if_pos hs, ← hk.2, if_pos hs]
      exact ih tab sk cur out hnd.2 hrest hperm hsize
    · have hrow : RowOK t k (cnt t k cur.toList) (gt tab k) := by
        rw [show cnt t k cur.toList = cnt t k xs from funext fun b => hperm.countP_eq _]; exact hk.1
      rcases place_eq_pass t k cur.toList (gt tab k) out hrow (by rw [hsize]; simp)
        with ⟨offs', out', hpl, htl, hsz⟩
      simp only [permute]
      rw [if_neg hs, hpl, ← hk.2, if_neg hs, ← htl]
      apply ih (st tab k offs') sk out' cur hnd.2
      · intro k' hk'
        have ek : k ≠ k' := fun e => hnd.1 (e ▸ hk')
        rw [gt_st_ne _ _ _ _ ek]
        exact hrest k' hk'
      · rw [htl]; exact (pass_perm t k cur.toList).trans hperm
      · rw [hsz, hsize]

theorem radixSort_eq_sortB (t : Ty) (xs : Array Nat) :
    ∃ a, radixSort t xs = some a ∧ a.toList = sortB t xs.toList := by
  unfold radixSort sortB
  have hwf : Grid (histAll t xs.toList) t.w 256 := (histFrom_spec t xs.toList (zeroTable t) (zeroTable_grid t)).1
  have P := prefixAll_spec t xs.size (List.range t.w) (histAll t xs.toList) (Array.replicate t.w false)
    List.nodup_range (by
      intro k hk
      rw [hwf.rows]
      simp
      exact List.mem_range.mp hk)
  apply permute_spec t xs.toList (List.range t.w) _ _ xs (Array.replicate xs.size 0) List.nodup_range
  · intro k hk
    have hkw : k < t.w := List.mem_range.mp hk
    have hrow := P.1 k hk
    have hfalse : gt (Array.replicate t.w false) k = false := gt_replicate _ _ _ hkw
    rw [hfalse] at hrow
    have S := prefixRound_spec t xs.size k (gt (histAll t xs.toList) k) (hwf.cols k hkw)
    have hfun : gt (gt (histAll t xs.toList) k) = cnt t k xs.toList := by
      funext b; exact hist_count t xs.toList k b hkw
    refine ⟨?_, ?_⟩
    · rw [hrow.1]
      rw [hfun] at S
      exact S.1
    · rw [hrow.2, S.2, hfun]
      unfold skipRound cnt
      simp
  · exact List.Perm.refl _
  · simp

end Tbx.Radix
