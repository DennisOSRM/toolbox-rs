import Tbx.Proofs.PlierGlue
import Tbx.Proofs.PlierRender
/-
Character-level rendering of abstract files in CANONICAL spelling (tokens separated by one blank,
numbers as `Nat.toDigits 10`, '-' for negative numbers, bare `c` comment lines) and the proof that the
glue (`mkLineC`: tokenizer + decimal parsers) turns each such text line into a `Line` that the
`*LineOf` relation of Proofs/PlierRender accepts (`*_line`, lifted to files by `mkLinesC_map`).  With the token-level
theorems this gives `parse (text of F) = edges F` down to characters for this spelling: the `*_text_parse` theorems of
Props/C07.lean.
-/
namespace Tbx.PlierText
open Tbx.Bincode Tbx.GraphFiles Tbx.GraphSpec Tbx.PlierRender

def natC (n : Nat) : List Char := Nat.toDigits 10 n

theorem okChar_of_isDigit (c : Char) (h : c.isDigit = true) : okChar c = true := by
  simp only [Char.isDigit, Bool.and_eq_true, decide_eq_true_eq, UInt32.le_iff_toNat_le, ge_iff_le] at h
  have h1 : 48 ≤ c.toNat := h.1
  have h2 : c.toNat ≤ 57 := h.2
  have e1 : ¬ (c.toNat ≥ 127) := by omega
  have e2 : ¬ (c.toNat < 32) := by omega
  simp [okChar, e1, e2]

theorem all_ok_natC (n : Nat) : (natC n).all okChar = true := by
  simp only [List.all_eq_true]
  intro c hc
  exact okChar_of_isDigit c (Nat.isDigit_of_mem_toDigits (by decide) (by decide) hc)

/-- what the glue accepts as one token of a line: printable, non-empty, no white space -/
def GoodTok (t : List Char) : Prop := t.all okChar = true ∧ IsToken t

theorem goodTok_natC (n : Nat) : GoodTok (natC n) := ⟨all_ok_natC n, isToken_toDigits n⟩

theorem goodTok_intChars (i : Int) : GoodTok (intChars i) := by
  unfold intChars
  split
  · refine ⟨?_, List.cons_ne_nil _ _, ?_⟩
    · rw [List.all_cons, show (Nat.toDigits 10 (-i).toNat).all okChar = true from all_ok_natC _]; rfl
    · intro c hc
      rcases List.mem_cons.mp hc with rfl | hc
      · rfl
      · exact (isToken_toDigits _).2 c hc
  · exact goodTok_natC _

theorem goodTok_lit (t : List Char) (h1 : t ≠ []) (h2 : t.all (fun c => okChar c && !isWs c) = true) :
    GoodTok t := by
  simp only [List.all_eq_true, Bool.and_eq_true, Bool.not_eq_eq_eq_not, Bool.not_true] at h2
  exact ⟨List.all_eq_true.mpr fun c hc => (h2 c hc).1, h1, fun c hc => (h2 c hc).2⟩

theorem goodToks_nil : ∀ t ∈ ([] : List (List Char)), GoodTok t := fun _ h => nomatch h

theorem goodToks_cons {t : List Char} {ts : List (List Char)} (h : GoodTok t) (hs : ∀ u ∈ ts, GoodTok u) :
    ∀ u ∈ t :: ts, GoodTok u :=
  List.forall_mem_cons.2 ⟨h, hs⟩

theorem all_ok_joinBlank (ts : List (List Char)) (h : ∀ t ∈ ts, GoodTok t) :
    (joinBlank ts).all okChar = true := by
  induction ts with
  | nil => rfl
  | cons t ts ih =>
    have ht := (h t List.mem_cons_self).1
    have ih' := ih (fun u hu => h u (List.mem_cons_of_mem _ hu))
    cases ts with
    | nil => exact ht
    | cons t' ts =>
      rw [joinBlank, List.all_append, List.all_cons, ht, ih']
      rfl

theorem mkTok_natC (n : Nat) (h : n < 18446744073709551616) : (mkTok (natC n)).nat? = some n :=
  parseUsize_toDigits n h

theorem mkTok_intChars (i : Int) (h : I32 i) : (mkTok (intChars i)).i32? = some i :=
  parseI32_intChars i h

theorem intChars_ofNat (n : Nat) : intChars (Int.ofNat n) = natC n :=
  if_neg (Int.not_lt.mpr (Int.natCast_nonneg n))

theorem mkLineC_ok (cs : List Char) (h : cs.all okChar = true) : mkLineC cs = some (viewsOf cs) := by
  rw [mkLineC, if_pos h]

theorem mkLineC_joinBlank (ts : List (List Char)) (h : ∀ t ∈ ts, GoodTok t) :
    ∃ l, mkLineC (joinBlank ts) = some l ∧ l.toks = ts.map mkTok ∧ l.first = (joinBlank ts).head? ∧
      l.rest2 = (splitWs ((joinBlank ts).drop 2)).map mkTok :=
  ⟨viewsOf (joinBlank ts), mkLineC_ok _ (all_ok_joinBlank ts h),
    congrArg (List.map mkTok) (splitWs_joinBlank ts fun t ht => (h t ht).2), rfl, rfl⟩

theorem mkLineC_keyword (x : Char) (ts : List (List Char)) (hx : GoodTok [x]) (h : ∀ t ∈ ts, GoodTok t)
    (hne : ts ≠ []) :
    ∃ l, mkLineC (joinBlank ([x] :: ts)) = some l ∧ l.first = some x ∧ l.rest2 = ts.map mkTok := by
  obtain ⟨l, hl, _, hfirst, hrest⟩ := mkLineC_joinBlank ([x] :: ts) (goodToks_cons hx h)
  obtain ⟨t, ts', rfl⟩ := List.exists_cons_of_ne_nil hne
  refine ⟨l, hl, hfirst, ?_⟩
  rw [hrest]
  -- by computation `(joinBlank ([x] :: t :: ts')).drop 2` is `joinBlank (t :: ts')`
  exact congrArg (List.map mkTok) (splitWs_joinBlank (t :: ts') fun u hu => (h u hu).2)

def dimacsText : DimacsItem → List Char
  | .comment => ['c']
  | .problem n m => joinBlank [['p'], ['s', 'p'], natC n, natC m]
  | .arc u v w => joinBlank [['a'], natC u, natC v, natC w]

def DimacsFits : DimacsItem → Prop
  | .comment => True
  | .problem n m => n < 18446744073709551616 ∧ m < 18446744073709551616
  | .arc u v w => u < 18446744073709551616 ∧ v < 18446744073709551616 ∧ w < 18446744073709551616

theorem dimacsText_line (it : DimacsItem) (hf : DimacsFits it) :
    ∃ l, mkLineC (dimacsText it) = some l ∧ DimacsLineOf it l := by
  cases it with
  | comment => exact ⟨viewsOf ['c'], mkLineC_ok ['c'] (by decide), rfl⟩
  | problem n m =>
    obtain ⟨l, hl, htoks, hfirst, _⟩ := mkLineC_joinBlank [['p'], ['s', 'p'], natC n, natC m]
      (goodToks_cons (goodTok_lit _ (List.cons_ne_nil _ _) (by decide)) <| goodToks_cons (goodTok_lit _ (List.cons_ne_nil _ _) (by decide)) <|
        goodToks_cons (goodTok_natC n) <| goodToks_cons (goodTok_natC m) goodToks_nil)
    exact ⟨l, hl, hfirst, _, _, _, _, [], htoks, mkTok_natC n hf.1⟩
  | arc u v w =>
    obtain ⟨l, hl, hfirst, hrest⟩ := mkLineC_keyword 'a' [natC u, natC v, natC w] (goodTok_lit _ (List.cons_ne_nil _ _) (by decide))
      (goodToks_cons (goodTok_natC u) <| goodToks_cons (goodTok_natC v) <| goodToks_cons (goodTok_natC w) goodToks_nil)
      (List.cons_ne_nil _ _)
    exact ⟨l, hl, hfirst, _, _, _, hrest, mkTok_natC u hf.1, mkTok_natC v hf.2.1, mkTok_natC w hf.2.2⟩

theorem mkLinesC_map {α : Type} (R : α → Line → Prop) (text : α → List Char) (F : List α)
    (h : ∀ it ∈ F, ∃ l, mkLineC (text it) = some l ∧ R it l) :
    ∃ ls, mkLinesC (F.map text) = some ls ∧ Forall2 R F ls := by
  induction F with
  | nil => exact ⟨[], rfl, trivial⟩
  | cons it F ih =>
    obtain ⟨l, hl, hr⟩ := h it List.mem_cons_self
    obtain ⟨ls, hls, hrs⟩ := ih (fun x hx => h x (List.mem_cons_of_mem _ hx))
    exact ⟨l :: ls, by simp [mkLinesC, hl, hls], hr, hrs⟩

def dimacsCoText : DimacsCoItem → List Char
  | .comment => ['c']
  | .problem n => 'p' :: ' ' :: 'a' :: 'u' :: 'x' :: ' ' :: 's' :: 'p' :: ' ' :: 'c' :: 'o' :: ' ' :: natC n
  | .vertex id lon lat => joinBlank [['v'], natC id, intChars lon, intChars lat]

def DimacsCoFits : DimacsCoItem → Prop
  | .comment => True
  | .problem n => n < 18446744073709551616
  | .vertex id lon lat => id < 18446744073709551616 ∧ I32 lon ∧ I32 lat

theorem dimacsCoText_line (it : DimacsCoItem) (hf : DimacsCoFits it) :
    ∃ l, mkLineC (dimacsCoText it) = some l ∧ DimacsCoLineOf it l := by
  cases it with
  | comment => exact ⟨viewsOf ['c'], mkLineC_ok ['c'] (by decide), rfl⟩
  | problem n =>
    have hall : (dimacsCoText (.problem n)).all okChar = true := by
      simp only [dimacsCoText, List.all_cons, Bool.and_eq_true]
      refine ⟨by decide, by decide, by decide, by decide, by decide, by decide, by decide, by decide,
        by decide, by decide, by decide, by decide, all_ok_natC n⟩
    refine ⟨viewsOf (dimacsCoText (.problem n)), ?_, ?_, ?_⟩
    · exact mkLineC_ok _ hall
    · simp [dimacsCoText, viewsOf]
    · simp only [dimacsCoText, viewsOf, List.drop_succ_cons, List.drop_zero]
      exact parseUsize_toDigits n hf
  | vertex id lon lat =>
    obtain ⟨l, hl, hfirst, hrest⟩ := mkLineC_keyword 'v' [natC id, intChars lon, intChars lat]
      (goodTok_lit _ (List.cons_ne_nil _ _) (by decide))
      (goodToks_cons (goodTok_natC id) <| goodToks_cons (goodTok_intChars lon) <|
        goodToks_cons (goodTok_intChars lat) goodToks_nil) (List.cons_ne_nil _ _)
    exact ⟨l, hl, hfirst, _, _, _, [], hrest, mkTok_natC id hf.1, mkTok_intChars lon hf.2.1,
      mkTok_intChars lat hf.2.2⟩

def metisHeaderText (n m : Nat) : List Char := joinBlank [natC n, natC m]
def metisAdjText (nbrs : List Nat) : List Char := joinBlank (nbrs.map natC)

theorem forall2_natTok (nbrs : List Nat) (h : ∀ t ∈ nbrs, t < 18446744073709551616) :
    Forall2 NatTok nbrs ((nbrs.map natC).map mkTok) := by
  induction nbrs with
  | nil => trivial
  | cons t nbrs ih =>
    exact ⟨mkTok_natC t (h t List.mem_cons_self), ih (fun u hu => h u (List.mem_cons_of_mem _ hu))⟩

theorem metisAdjText_line (nbrs : List Nat) (h : ∀ t ∈ nbrs, t < 18446744073709551616) :
    ∃ l, mkLineC (metisAdjText nbrs) = some l ∧ AdjLineOf nbrs l := by
  obtain ⟨l, hl, htoks, _⟩ := mkLineC_joinBlank (nbrs.map natC) (List.forall_mem_map.mpr fun x _ => goodTok_natC x)
  exact ⟨l, hl, show Forall2 NatTok nbrs l.toks from htoks ▸ forall2_natTok nbrs h⟩

/-- the size line `n m` of METIS and DDSG files -/
theorem metisHeaderText_line (n m : Nat) :
    ∃ l, mkLineC (metisHeaderText n m) = some l ∧ l.toks = [mkTok (natC n), mkTok (natC m)] := by
  obtain ⟨l, hl, htoks, _⟩ := mkLineC_joinBlank [natC n, natC m]
    (goodToks_cons (goodTok_natC n) <| goodToks_cons (goodTok_natC m) goodToks_nil)
  exact ⟨l, hl, htoks⟩

def ddsgArcText (a : DdsgArc) : List Char := joinBlank [natC a.u, natC a.v, natC a.w, natC a.dir]

theorem ddsgArcText_line (a : DdsgArc)
    (hf : a.u < 18446744073709551616 ∧ a.v < 18446744073709551616 ∧ a.w < 18446744073709551616) (hd : a.dir ≤ 3) :
    ∃ l, mkLineC (ddsgArcText a) = some l ∧ DdsgArcOf a l := by
  obtain ⟨l, hl, htoks, _⟩ := mkLineC_joinBlank [natC a.u, natC a.v, natC a.w, natC a.dir]
    (goodToks_cons (goodTok_natC _) <| goodToks_cons (goodTok_natC _) <| goodToks_cons (goodTok_natC _) <|
      goodToks_cons (goodTok_natC _) goodToks_nil)
  refine ⟨l, hl, _, _, _, _, htoks, mkTok_natC _ hf.1, mkTok_natC _ hf.2.1, mkTok_natC _ hf.2.2, ?_⟩
  rw [← intChars_ofNat]
  exact mkTok_intChars _ (by unfold I32; simp only [Int.ofNat_eq_natCast]; omega)

end Tbx.PlierText
