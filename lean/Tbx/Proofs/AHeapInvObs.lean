import Tbx.Proofs.AHeapInvDefs
/-
C10: how the reference queue `abs s` is read off the nodes: it is `ent (gt s.nodes i)` mapped over the slot numbers
`i` (`abs_eq_range`), so membership and lookup (`find_abs`, through the id map) are those of `List.range`; the root as a
minimum.  The observer theorems of Props/C10 rest on these.
-/
namespace Tbx.AHeap
open Tbx

theorem abs_eq_range (s : Heap) : abs s = (List.range s.nodes.size).map fun i => ent (gt s.nodes i) := by
  unfold abs
  rw [toList_eq_map_range, List.map_map]
  rfl

theorem mem_abs (s : Heap) (e : PQ.Entry) : e ∈ abs s ↔ ∃ i, i < s.nodes.size ∧ e = ent (gt s.nodes i) := by
  simp only [abs_eq_range, List.mem_map, List.mem_range, eq_comm]

/-- searching `abs s` for an id is searching the slot numbers for it, and the id map says which slot that is -/
theorem find_abs (s : Heap) (M : IdMap s.idx s.nodes) (id : Int) :
    PQ.find? (abs s) id = (lookup s.idx id).map (fun i => ent (gt s.nodes i)) := by
  unfold PQ.find?
  rw [abs_eq_range, List.find?_map]
  congr 1
  cases hf : (List.range s.nodes.size).find? _ with
  | none =>
    cases hl : lookup s.idx id with
    | none => rfl
    | some i =>
      obtain ⟨i1, i2⟩ := (M id i).1 hl
      exact absurd (beq_iff_eq.mpr i2) (List.find?_eq_none.mp hf i (List.mem_range.mpr i1))
  | some i =>
    have hp := List.find?_some hf
    exact ((M id i).2 ⟨List.mem_range.mp (List.mem_of_find?_eq_some hf), beq_iff_eq.mp hp⟩).symm

theorem find_of_mem (s : Heap) (I : Inv s) (e : PQ.Entry) (he : e ∈ abs s) : PQ.find? (abs s) e.id = some e := by
  obtain ⟨i, hi, rfl⟩ := (mem_abs s e).mp he
  rw [find_abs s I.idmap]
  have : lookup s.idx (ent (gt s.nodes i)).id = some i := (I.idmap _ i).mpr ⟨hi, rfl⟩
  rw [this]; rfl

theorem root_min (h : Array Elem) (ho : Ord h) (k : Nat) (h1 : 1 ≤ k) (h2 : k < h.size) :
    (gt h 1).weight ≤ (gt h k).weight := by
  induction k using Nat.strongRecOn with
  | _ k ih =>
    by_cases e : k = 1
    · subst e; exact Int.le_refl _
    · have k2 : 2 ≤ k := by omega
      have hlt : k / 2 < k := Nat.div_lt_self h1 (by decide)
      exact Int.le_trans (ih (k / 2) hlt ((Nat.le_div_iff_mul_le Nat.two_pos).2 k2) (Nat.lt_trans hlt h2))
        (ho k k2 h2)

theorem root_isMin (s : Heap) (I : Inv s) (h : 1 < s.heap.size) :
    PQ.IsMin (abs s) (gt s.nodes (gt s.heap 1).index).id := by
  obtain ⟨x1, x2, x3⟩ := I.back 1 (Nat.le_refl 1) h
  refine ⟨ent (gt s.nodes (gt s.heap 1).index), (mem_abs s _).2 ⟨_, x1, rfl⟩, rfl, ?_, ?_⟩
  · simp [ent, x2]
  · intro e' he' hl
    obtain ⟨j, j1, rfl⟩ := (mem_abs s e').1 he'
    have hk : (gt s.nodes j).key ≠ 0 := by simpa [ent] using hl
    obtain ⟨c1, c2⟩ := I.fwd j j1 hk
    obtain ⟨d1, d2, d3⟩ := I.back _ (Nat.pos_of_ne_zero hk) c1
    rw [c2] at d3
    show (gt s.nodes (gt s.heap 1).index).weight ≤ (gt s.nodes j).weight
    rw [x3, d3]
    exact root_min s.heap I.ord _ (Nat.pos_of_ne_zero hk) c1

theorem min_is_minimum (s : Heap) (I : Inv s) (id : Int) (h : min? s = some id) : PQ.IsMin (abs s) id := by
  unfold min? at h
  split at h
  · cases h
  · rename_i hs
    cases h
    exact root_isMin s I (by omega)

end Tbx.AHeap
