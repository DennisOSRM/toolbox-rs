import Tbx.Spec.Components
/-
What one more pair does to the undirected connection `Conn`: it joins the classes of its two ends (`conn_add`,
`conn_snoc`, stated with `Join`; `Join.congr_reps`: joining does not depend on the representatives), and a pair
between two unconnected nodes keeps a pair list cycle-free (`acyclic_snoc`).
-/
namespace Tbx.Comp

theorem conn_nil (i j : Nat) : Conn [] i j ↔ i = j :=
  ⟨Conn.least (R := Eq) (fun _ => rfl) Eq.symm Eq.trans (fun _ h => absurd h List.not_mem_nil), fun h => h ▸ Conn.refl _ _⟩

/-- `i` and `j` are related once the classes of `x` and `y` under `R` are joined: what one more pair does to
    `Conn`, and one link to the classes of a union-find -/
def Join (R : Nat → Nat → Prop) (x y i j : Nat) : Prop := R i j ∨ (R i x ∧ R y j) ∨ (R i y ∧ R x j)

theorem Join.comm {R : Nat → Nat → Prop} {x y i j : Nat} : Join R x y i j ↔ Join R y x i j := or_congr_right or_comm

theorem Join.congr {R S : Nat → Nat → Prop} (h : ∀ a b, R a b ↔ S a b) {x y i j : Nat} :
    Join R x y i j ↔ Join S x y i j := by
  simp only [Join, h]

theorem Join.congr_reps {R : Nat → Nat → Prop} (symm : ∀ {a b}, R a b → R b a) (trans : ∀ {a b c}, R a b → R b c → R a c)
    {x y a b : Nat} (ha : R a x) (hb : R b y) (i j : Nat) : Join R x y i j ↔ Join R a b i j := by
  unfold Join
  have l : ∀ {c z}, R c z → (R i z ↔ R i c) := fun h => ⟨(trans · (symm h)), (trans · h)⟩
  have r : ∀ {c z}, R c z → (R z j ↔ R c j) := fun h => ⟨trans h, trans (symm h)⟩
  rw [l ha, l hb, r ha, r hb]

theorem conn_add {ps qs : Edges} {x y : Nat} (hq : ∀ p, p ∈ qs ↔ p ∈ ps ∨ p = (x, y)) (i j : Nat) :
    Conn qs i j ↔ Join (Conn ps) x y i j := by
  unfold Join
  have hsub : ∀ p, p ∈ ps → p ∈ qs := fun p hp => (hq p).mpr (Or.inl hp)
  have hxy : Conn qs x y := Conn.of_mem ((hq _).mpr (Or.inr rfl))
  constructor
  · intro h
    unfold Conn at h
    induction h with
    | refl => exact Or.inl (Conn.refl _ _)
    | @tail v w _ he ih =>
      have hvw : Conn ps v w ∨ (v = x ∧ w = y) ∨ (v = y ∧ w = x) := by
        rcases mem_sym.mp he with h | h
        · rcases (hq _).mp h with h | h
          · exact Or.inl (Conn.of_mem h)
          · simp only [Prod.mk.injEq] at h; exact Or.inr (Or.inl h)
        · rcases (hq _).mp h with h | h
          · exact Or.inl (Conn.of_mem h).symm
          · simp only [Prod.mk.injEq] at h; exact Or.inr (Or.inr ⟨h.2, h.1⟩)
      rcases hvw with hvw | ⟨rfl, rfl⟩ | ⟨rfl, rfl⟩
      · rcases ih with h | ⟨h1, h2⟩ | ⟨h1, h2⟩
        · exact Or.inl (h.trans hvw)
        · exact Or.inr (Or.inl ⟨h1, h2.trans hvw⟩)
        · exact Or.inr (Or.inr ⟨h1, h2.trans hvw⟩)
      · rcases ih with h | ⟨h1, _⟩ | ⟨h1, _⟩
        · exact Or.inr (Or.inl ⟨h, Conn.refl _ _⟩)
        · exact Or.inr (Or.inl ⟨h1, Conn.refl _ _⟩)
        · exact Or.inl h1
      · rcases ih with h | ⟨h1, _⟩ | ⟨h1, _⟩
        · exact Or.inr (Or.inr ⟨h, Conn.refl _ _⟩)
        · exact Or.inl h1
        · exact Or.inr (Or.inr ⟨h1, Conn.refl _ _⟩)
  · rintro (h | ⟨h1, h2⟩ | ⟨h1, h2⟩)
    · exact h.mono hsub
    · exact (h1.mono hsub).trans (hxy.trans (h2.mono hsub))
    · exact (h1.mono hsub).trans (hxy.symm.trans (h2.mono hsub))

theorem conn_snoc (ps : Edges) (x y i j : Nat) :
    Conn (ps ++ [(x, y)]) i j ↔ Join (Conn ps) x y i j :=
  conn_add (by intro p; simp) i j

theorem acyclic_snoc {F : Edges} {a b : Nat} (hF : Acyclic F) (hab : ¬ Conn F a b) : Acyclic (F ++ [(a, b)]) := by
  have hnot : (a, b) ∉ F := fun h => hab (Conn.of_mem h)
  intro e he
  by_cases heF : e ∈ F
  · have hne : e ≠ (a, b) := fun h => hnot (h ▸ heF)
    rw [List.erase_append_left _ heF]
    intro hc
    have hsub : ∀ p, p ∈ F.erase e → p ∈ F := fun p hp => List.mem_of_mem_erase hp
    have hcd : Conn F e.1 e.2 := Conn.of_mem (by simpa using heF)
    rcases (conn_snoc (F.erase e) a b e.1 e.2).mp hc with h | ⟨h1, h2⟩ | ⟨h1, h2⟩
    · exact hF e heF h
    · exact hab ((h1.mono hsub).symm.trans (hcd.trans (h2.mono hsub).symm))
    · exact hab ((h2.mono hsub).trans (hcd.symm.trans (h1.mono hsub)))
  · have : e = (a, b) := by
      rcases List.mem_append.mp he with h | h
      · exact absurd h heF
      · simpa using h
    subst this
    rw [List.erase_append_right _ heF]
    simpa using hab

theorem sum_map_erase {α : Type} [BEq α] [LawfulBEq α] (f : α → Nat) (l : List α) (b : α) (hb : b ∈ l) :
    ((l.erase b).map f).sum + f b = (l.map f).sum := by
  rw [((List.perm_cons_erase hb).map f).sum_nat, List.map_cons, List.sum_cons, Nat.add_comm]

theorem Acyclic.nodup {F : Edges} (h : Acyclic F) : F.Nodup := by
  refine List.nodup_iff_count.mpr fun e => ?_
  by_cases he : e ∈ F
  · have hm : e ∉ F.erase e := fun hm => h e he (Conn.of_mem hm)
    rw [← List.count_eq_zero, List.count_erase_self] at hm
    exact Nat.le_of_sub_eq_zero hm
  · exact Nat.le_trans (Nat.le_of_eq (List.count_eq_zero.mpr he)) (Nat.zero_le 1)

theorem mem_ends {L : List WEdge} {e : WEdge} (h : e ∈ L) : (e.1, e.2.1) ∈ ends L := List.mem_map.mpr ⟨e, h, rfl⟩

theorem Acyclic.nodup_of_ends {F : List WEdge} (h : Acyclic (ends F)) : F.Nodup :=
  List.Pairwise.of_map (S := fun a b => a ≠ b) (fun e : WEdge => (e.1, e.2.1)) (fun a b hab hh => hab (by rw [hh]))
    h.nodup

theorem subMulti_of_acyclic {F inp : List WEdge} (hsub : ∀ e, e ∈ F → e ∈ inp) (hac : Acyclic (ends F)) :
    SubMulti F inp := by
  intro e
  by_cases he : e ∈ F
  · rw [hac.nodup_of_ends.count, if_pos he]; exact List.count_pos_iff.mpr (hsub e he)
  · rw [List.count_eq_zero_of_not_mem he]; exact Nat.zero_le _

end Tbx.Comp
