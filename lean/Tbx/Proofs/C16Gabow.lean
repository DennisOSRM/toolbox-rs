import Tbx.Model.Gabow
import Tbx.Proofs.C16Arr
/-
Path-based SCC (`Model/Gabow.lean`): the invariants of the explicit-stack DFS and what its loops do.
`GS`/`GF`: the node at position i of stack `S` has `scc = i`; `bounds` is strictly increasing and below the height of
`S`; (components emitted) + (height of `S`) ≤ visited nodes, so `component -= 1` cannot underflow.
`WorkOK`/`WP`: a `Visit(w)` record only sits on top of the work list, with `w` unvisited; pending records belong to
nodes on `S`, deeper records lower.  `phi` = remaining edge slots + 3·unvisited + 2·#Process + 1·#Finalize falls with
every step.  The two inner loops have closed forms over `bounds` and `S` read as lists: `contract` keeps the bounds
that are at most the target's position (`contract_toList`); the pop loop of `Finalize` cuts `S` back to below `v` and
writes `component` at the popped nodes (`popComp_eq`), from which `Popped` says in terms of positions what changed.
-/
namespace Tbx.Gabow
open Tbx Tbx.Csr

def visited (scc : Array Nat) (n : Nat) : Nat := (List.range n).countP (fun v => gt scc v != maxU)

/-- the part of `GF` that does not speak of positions: the nodes on `S` are visited nodes, and no more than have been
    visited -/
structure GS (n : Nat) (s : State) : Prop where
  size : s.scc.size = n
  range : ∀ v, v < n → gt s.scc v = maxU ∨ gt s.scc v < n
  comp : s.component ≤ n
  stk : ∀ i, i < s.stack.size → gt s.stack i < n ∧ gt s.scc (gt s.stack i) ≠ maxU
  cnt : s.stack.size ≤ visited s.scc n

def NoVisit (l : List Dfs) : Prop := ∀ d, d ∈ l → ∀ w, d ≠ .visit w

def WorkOK (scc : Array Nat) : List Dfs → Prop
  | [] => True
  | .visit w :: rest => gt scc w = maxU ∧ NoVisit rest
  | _ :: rest => NoVisit rest

theorem visited_le (scc : Array Nat) (n : Nat) : visited scc n ≤ n := by
  have := @List.countP_le_length _ (fun v => gt scc v != maxU) (List.range n)
  simpa [visited] using this

theorem visited_mono (scc scc' : Array Nat) (n : Nat) (h : ∀ v, gt scc v ≠ maxU → gt scc' v ≠ maxU) :
    visited scc n ≤ visited scc' n := by
  apply List.countP_mono_left
  intro v _ hv
  simp only [bne_iff_ne, ne_eq] at hv ⊢
  exact h v hv

theorem visited_st (scc : Array Nat) (n v x : Nat) (hv : v < n) (hsz : scc.size = n) (hm : gt scc v = maxU) (hx : x ≠ maxU) :
    visited (st scc v x) n = visited scc n + 1 := by
  have := countP_range_update (fun u => gt (st scc v x) u != maxU) (fun u => gt scc u != maxU) v
    (by simp [gt_st_eq _ _ _ (hsz ▸ hv), hx]) (by simp [hm])
    (by intro i hi; simp [gt_st_ne _ _ _ _ (Ne.symm hi)]) n hv
  simp only [visited]
  omega

theorem workOK_of_noVisit {rest : List Dfs} (h : NoVisit rest) (scc : Array Nat) : WorkOK scc rest := by
  cases rest with
  | nil => trivial
  | cons d ds =>
    have hds : NoVisit ds := fun x hx => h x (List.mem_cons_of_mem _ hx)
    cases d with
    | visit w => exact absurd rfl (h _ List.mem_cons_self w)
    | process w => exact hds
    | finalize w => exact hds

structure GF (n : Nat) (s : State) : Prop where
  base : GS n s
  pos : ∀ i, i < s.stack.size → gt s.scc (gt s.stack i) = i
  bnd_lt : ∀ j, j < s.bounds.size → gt s.bounds j < s.stack.size
  bnd_mono : ∀ j j', j < j' → j' < s.bounds.size → gt s.bounds j < gt s.bounds j'
  comp_cnt : (n - s.component) + s.stack.size ≤ visited s.scc n

def nodeOf : Dfs → Option Nat
  | .visit _ => none
  | .process v => some v
  | .finalize v => some v

/-- `v` sits on stack `S` at the position recorded in `scc[v]` -/
def OnStack (s : State) (v : Nat) : Prop := gt s.scc v < s.stack.size ∧ gt s.stack (gt s.scc v) = v

def WP (s : State) : List Dfs → Prop
  | [] => True
  | d :: rest =>
    (∀ v, nodeOf d = some v → OnStack s v ∧ ∀ d', d' ∈ rest → ∀ u, nodeOf d' = some u → gt s.scc u < gt s.scc v) ∧
    WP s rest

def cost : Dfs → Nat
  | .visit _ => 0
  | .process _ => 2
  | .finalize _ => 1

def workCost (work : List Dfs) : Nat := (work.map cost).sum

def remE (g : Graph) (ei : Array Nat) : Nat := sumTo (fun v => outDegree g v - gt ei v) (numNodes g)

def phi (g : Graph) (s : State) (ei : Array Nat) (work : List Dfs) : Nat :=
  remE g ei + 3 * (numNodes g - visited s.scc (numNodes g)) + workCost work

theorem WP_onStack {s : State} : ∀ (work : List Dfs), WP s work → ∀ d, d ∈ work → ∀ v, nodeOf d = some v → OnStack s v := by
  intro work
  induction work with
  | nil => intro _ d hd; cases hd
  | cons x rest ih =>
    intro hw d hd v hv
    rcases List.mem_cons.mp hd with rfl | hd
    · exact (hw.1 v hv).1
    · exact ih hw.2 d hd v hv

theorem WP_mono {s s' : State} :
    ∀ (work : List Dfs), (∀ d, d ∈ work → ∀ v, nodeOf d = some v → OnStack s v → OnStack s' v ∧ gt s'.scc v = gt s.scc v) →
      WP s work → WP s' work := by
  intro work
  induction work with
  | nil => intro _ _; trivial
  | cons d rest ih =>
    intro h hw
    have hall := WP_onStack _ hw
    obtain ⟨h1, h2⟩ := hw
    refine ⟨?_, ih (fun d' hd' => h d' (List.mem_cons_of_mem _ hd')) h2⟩
    intro v hv
    obtain ⟨a, b⟩ := h1 v hv
    obtain ⟨c1, c2⟩ := h d List.mem_cons_self v hv a
    refine ⟨c1, ?_⟩
    intro d' hd' u hu
    have hu' := hall d' (List.mem_cons_of_mem _ hd') u hu
    rw [c2, (h d' (List.mem_cons_of_mem _ hd') u hu hu').2]
    exact b d' hd' u hu

theorem remE_step (g : Graph) (ei : Array Nat) (v : Nat) (hv : v < numNodes g) (hvs : v < ei.size)
    (hlt : gt ei v < outDegree g v) : remE g (st ei v (gt ei v + 1)) + 1 = remE g ei :=
  sumTo_slot hv (gt_st_eq _ _ _ hvs) (fun _ hu => gt_st_ne _ _ _ _ (Ne.symm hu)) hlt

theorem phi_lt {g : Graph} {s s' : State} {ei ei' : Array Nat} {work work' : List Dfs}
    (hv : visited s.scc (numNodes g) ≤ visited s'.scc (numNodes g))
    (h : remE g ei' + workCost work' + 1 ≤ remE g ei + workCost work) : phi g s' ei' work' + 1 ≤ phi g s ei work := by
  have h3 := Nat.mul_le_mul_left 3 (Nat.sub_le_sub_left hv (numNodes g))
  show _ + 3 * (numNodes g - visited s'.scc (numNodes g)) + _ + 1 ≤ _ + 3 * (numNodes g - visited s.scc (numNodes g)) + _
  generalize 3 * (numNodes g - visited s'.scc (numNodes g)) = a at h3 ⊢
  generalize 3 * (numNodes g - visited s.scc (numNodes g)) = b at h3 ⊢
  omega

theorem phi_visit_lt {g : Graph} {s s' : State} {ei : Array Nat} {v : Nat} {rest : List Dfs}
    (hv : visited s'.scc (numNodes g) = visited s.scc (numNodes g) + 1) :
    phi g s' ei (.process v :: rest) + 1 ≤ phi g s ei (.visit v :: rest) := by
  have := visited_le s'.scc (numNodes g)
  show _ + 3 * (_ - _) + (2 + workCost rest) + 1 ≤ _ + 3 * (_ - _) + (0 + workCost rest)
  omega

theorem remE_zero_le (g : Graph) (hwf : WF g) : remE g (Array.replicate (numNodes g) 0) ≤ numEdges g :=
  Nat.le_trans (sumTo_le _ _ _ (fun _ _ => Nat.sub_le _ _)) hwf.sum_outDegree

theorem onStack_visited {n : Nat} {s : State} (hb : GS n s) {u : Nat} (hu : OnStack s u) :
    gt s.scc u ≠ maxU ∧ u < n := by
  have h1 := hb.stk _ hu.1
  rw [hu.2] at h1
  exact ⟨h1.2, h1.1⟩

theorem onStack_at {n : Nat} {s : State} (hf : GF n s) {i : Nat} (hi : i < s.stack.size) :
    OnStack s (gt s.stack i) ∧ gt s.scc (gt s.stack i) = i :=
  ⟨⟨by rw [hf.pos i hi]; exact hi, by rw [hf.pos i hi]⟩, hf.pos i hi⟩

/-- the state after `Visit(v)` -/
def pushState (s : State) (v : Nat) : State :=
  { s with stack := s.stack.push v, scc := st s.scc v s.stack.size, bounds := s.bounds.push s.stack.size }

theorem pushState_scc (s : State) (v : Nat) : (pushState s v).scc = st s.scc v s.stack.size := rfl
theorem pushState_stack (s : State) (v : Nat) : (pushState s v).stack = s.stack.push v := rfl
theorem pushState_bounds (s : State) (v : Nat) : (pushState s v).bounds = s.bounds.push s.stack.size := rfl
theorem pushState_component (s : State) (v : Nat) : (pushState s v).component = s.component := rfl

/-- on increasing bounds the loop keeps exactly the entries that are at most `x` -/
theorem contract_toList (x : Nat) : ∀ (f : Nat) (b : Array Nat), b.toList.Pairwise (· < ·) → b.size ≤ f →
    (contract x f b).toList = b.toList.filter (· ≤ x) := by
  intro f
  induction f with
  | zero =>
    intro b _ hb
    rw [contract, Array.eq_empty_of_size_eq_zero (Nat.le_zero.mp hb)]; rfl
  | succ f ih =>
    intro b hm hb
    rw [contract]
    rcases List.eq_nil_or_concat b.toList with h0 | ⟨l, y, hl⟩
    · rw [if_pos (by rw [← Array.length_toList, h0]; rfl), h0]; rfl
    · rw [List.concat_eq_append] at hl
      obtain ⟨hS, hy, hpop⟩ := top_of_toList hl
      rw [if_neg hS, hy, hl, List.filter_append]
      rw [hl, List.pairwise_append] at hm
      by_cases hxy : x < y
      · rw [if_pos hxy, ih b.pop (hpop ▸ hm.1) (by rw [Array.size_pop]; omega), hpop,
          List.filter_cons_of_neg (by simpa using hxy), List.filter_nil, List.append_nil]
      · -- the entries below the last are smaller still
        rw [if_neg hxy, hl, List.filter_cons_of_pos (by simpa using hxy), List.filter_nil,
          List.filter_eq_self.mpr fun a ha => by
            have := hm.2.2 a ha y List.mem_cons_self
            simp only [decide_eq_true_eq]; omega]

/-- the pop loop of `Finalize` as a closed form: the stack `pre ++ v :: post` is cut back to `pre`, and `component` is
    written at every popped node -/
theorem popComp_eq (v : Nat) (pre : List Nat) : ∀ (f : Nat) (s : State) (post : List Nat),
    s.stack.toList = pre ++ v :: post → v ∉ post → (∀ u, u ∈ v :: post → u < s.scc.size) → post.length < f →
    popComp v f s = some { s with stack := pre.toArray, scc := (v :: post).foldr (fun x a => st a x s.component) s.scc } := by
  intro f
  induction f with
  | zero => intro s _ _ _ _ h; exact absurd h (Nat.not_lt_zero _)
  | succ f ih =>
    intro s post hsp hnp hlt hf
    rcases List.eq_nil_or_concat post with rfl | ⟨post', x, rfl⟩
    · obtain ⟨hS, hx, hpop⟩ := top_of_toList hsp
      rw [popComp, if_neg hS, hx, if_neg (Nat.not_le_of_lt (hlt v List.mem_cons_self))]
      simp only [if_true, ← hpop, Array.toArray_toList]
      rfl
    · rw [List.concat_eq_append] at hsp hnp hlt hf ⊢
      obtain ⟨hS, hx, hpop⟩ := top_of_toList (l := pre ++ v :: post') (by rw [hsp, List.append_assoc]; rfl)
      have hxl : x ≠ v := fun h => hnp (List.mem_append_right _ (List.mem_singleton.mpr h.symm))
      rw [popComp, if_neg hS, hx, if_neg (Nat.not_le_of_lt (hlt x (List.mem_cons_of_mem _ (List.mem_append_right _ List.mem_cons_self))))]
      simp only [if_neg hxl]
      rw [ih _ post' hpop (fun h => hnp (List.mem_append_left _ h))
        (fun u hu => by rw [size_st]; exact hlt u (by rw [← List.cons_append]; exact List.mem_append_left _ hu))
        (by rw [List.length_append] at hf; exact Nat.lt_of_succ_lt_succ hf)]
      rw [← List.cons_append, List.foldr_append]
      rfl

theorem GF.stack_le_comp {n : Nat} {s : State} (hf : GF n s) : s.stack.size ≤ s.component := by
  have := hf.comp_cnt
  have := hf.base.comp
  have := visited_le s.scc n
  omega

theorem GF.bnd_list {n : Nat} {s : State} (hf : GF n s) : s.bounds.toList.Pairwise (· < ·) :=
  pairwise_toList_iff_gt.mpr hf.bnd_mono

theorem contract_bounds {n : Nat} {s : State} (hf : GF n s) (x : Nat) :
    (contract x s.bounds.size s.bounds).toList = s.bounds.toList.filter (· ≤ x) :=
  contract_toList x _ _ hf.bnd_list (Nat.le_refl _)

theorem gf_contract {n : Nat} {s : State} (hf : GF n s) (x : Nat) :
    GF n { s with bounds := contract x s.bounds.size s.bounds } := by
  have hb := hf.base
  have ht := contract_bounds hf x
  refine ⟨⟨hb.size, hb.range, hb.comp, hb.stk, hb.cnt⟩, hf.pos, fun j hj => ?_, ?_, hf.comp_cnt⟩
  · obtain ⟨j', hj', e⟩ := mem_toList_iff_gt.mp (List.mem_filter.mp (ht ▸ mem_toList_iff_gt.mpr ⟨j, hj, rfl⟩)).1
    exact e ▸ hf.bnd_lt j' hj'
  · exact pairwise_toList_iff_gt.mp (ht ▸ hf.bnd_list.filter _)

/-- `s1` is `s` after `Finalize(v)` has popped the block of `v` off `S` -/
structure Popped (s : State) (v : Nat) (s1 : State) : Prop where
  stack_size : s1.stack.size = gt s.scc v
  stack : ∀ i, i < gt s.scc v → gt s1.stack i = gt s.stack i
  scc_size : s1.scc.size = s.scc.size
  bounds : s1.bounds = s.bounds.pop
  component : s1.component = s.component - 1
  scc_pop : ∀ u, OnStack s u → gt s.scc v ≤ gt s.scc u → gt s1.scc u = s.component - 1
  scc_keep : ∀ u, ¬ (OnStack s u ∧ gt s.scc v ≤ gt s.scc u) → gt s1.scc u = gt s.scc u

theorem onStack_iff_mem {n : Nat} {s : State} (hf : GF n s) {u : Nat} : OnStack s u ↔ u ∈ s.stack.toList :=
  mem_toList_iff_gt.trans ⟨fun ⟨_, hj, e⟩ => e ▸ (onStack_at hf hj).1, fun h => ⟨_, h.1, h.2⟩⟩ |>.symm

theorem GF.stack_list {n : Nat} {s : State} (hf : GF n s) : s.stack.toList.Pairwise fun a b => gt s.scc a < gt s.scc b :=
  pairwise_toList_iff_gt.mpr fun j j' hjj hj' => by rw [hf.pos j (Nat.lt_trans hjj hj'), hf.pos j' hj']; exact hjj

theorem popComp_popped {n : Nat} {s : State} {v : Nat} (hf : GF n s) (hv : OnStack s v) :
    ∃ s1, popComp v s.stack.size { s with bounds := s.bounds.pop, component := s.component - 1 } = some s1 ∧
      Popped s v s1 := by
  obtain ⟨pre, post, hsp⟩ := List.append_of_mem ((onStack_iff_mem hf).mp hv)
  -- who is popped, by position
  have hmem : ∀ u, u ∈ v :: post ↔ OnStack s u ∧ gt s.scc v ≤ gt s.scc u := fun u => by
    rw [onStack_iff_mem hf]; exact (mem_split_iff hsp hf.stack_list u).1
  have hlen : s.stack.size = pre.length + (post.length + 1) := by
    rw [← Array.length_toList, hsp, List.length_append, List.length_cons]
  have hin : ∀ u, u ∈ v :: post → u < s.scc.size := fun u hu =>
    hf.base.size ▸ (onStack_visited hf.base ((hmem u).mp hu).1).2
  obtain ⟨c1, c2⟩ := gt_foldr_st (fun _ => s.component - 1) (fun _ => rfl) s.scc (v :: post) hin
  -- `v` sits at position `pre.length`
  have hp : gt s.scc v = pre.length := by
    have h1 : pre.length < s.stack.size := by omega
    have := hf.pos _ h1
    rwa [gt_eq_getElem _ _ h1, ← Array.getElem_toList (by simpa using h1), List.getElem_of_append hsp rfl] at this
  have hpw := List.pairwise_append.mp (hsp ▸ hf.stack_list)
  refine ⟨_, popComp_eq v pre _ _ post hsp (fun h => Nat.lt_irrefl _ ((List.pairwise_cons.mp hpw.2.1).1 v h)) hin (by omega),
    by rw [hp]; exact List.size_toArray .., fun i hi => ?_, c1, rfl, rfl, fun u hu hle => (c2 u).1 ((hmem u).mpr ⟨hu, hle⟩),
    fun u hnu => (c2 u).2 fun h => hnu ((hmem u).mp h)⟩
  rw [gt_toArray, gt_eq_getD, hsp, List.getD_eq_getElem?_getD, List.getD_eq_getElem?_getD, List.getElem?_append_left (hp ▸ hi)]

theorem Popped.onStack {n : Nat} {s s1 : State} {v : Nat} (hf : GF n s) (hf1 : GF n s1) (hv : OnStack s v)
    (hp : Popped s v s1) (u : Nat) : OnStack s1 u ↔ OnStack s u ∧ gt s.scc u < gt s.scc v := by
  rw [onStack_iff_mem hf1, mem_toList_iff_gt, hp.stack_size]
  constructor
  · rintro ⟨i, hi, rfl⟩
    have h := onStack_at hf (Nat.lt_trans hi hv.1)
    rw [hp.stack i hi]
    exact ⟨h.1, h.2.symm ▸ hi⟩
  · rintro ⟨hu, hlt⟩
    exact ⟨_, hlt, (hp.stack _ hlt).trans hu.2⟩

theorem lt_push_cases {α : Type} [Inhabited α] {a : Array α} {x : α} {i : Nat} (h : i < (a.push x).size) :
    (i < a.size ∧ gt (a.push x) i = gt a i) ∨ (i = a.size ∧ gt (a.push x) i = x) := by
  rw [Array.size_push] at h
  by_cases hi : i < a.size
  · exact Or.inl ⟨hi, gt_push_lt _ _ _ hi⟩
  · have : i = a.size := by omega
    subst this
    exact Or.inr ⟨rfl, gt_push_eq _ _⟩

theorem pushState_scc_self {s : State} {v : Nat} (hv : v < s.scc.size) : gt (pushState s v).scc v = s.stack.size :=
  gt_st_eq _ _ _ hv

theorem pushState_scc_ne (s : State) {u v : Nat} (hu : u ≠ v) : gt (pushState s v).scc u = gt s.scc u :=
  gt_st_ne _ _ _ _ (Ne.symm hu)

theorem onStack_push {n : Nat} {s : State} {v : Nat} (hf : GF n s) (hf' : GF n (pushState s v)) (u : Nat) :
    OnStack (pushState s v) u ↔ u = v ∨ OnStack s u := by
  rw [onStack_iff_mem hf', onStack_iff_mem hf, pushState_stack, Array.toList_push, List.mem_append, List.mem_singleton]
  exact or_comm

theorem gf_visit {n : Nat} {s : State} {v : Nat} (hn : n < maxU) (hf : GF n s) (hv : v < n) (hm : gt s.scc v = maxU) :
    GF n (pushState s v) ∧ visited (pushState s v).scc n = visited s.scc n + 1 := by
  have hb := hf.base
  have hvs : v < s.scc.size := by rw [hb.size]; exact hv
  have hSm : s.stack.size ≠ maxU := Nat.ne_of_lt (Nat.lt_of_le_of_lt hf.stack_le_comp (Nat.lt_of_le_of_lt hb.comp hn))
  have hV := visited_st s.scc n v s.stack.size hv hb.size hm hSm
  have hS : s.stack.size < n := by
    have := visited_le (st s.scc v s.stack.size) n
    rw [hV] at this
    exact Nat.lt_of_le_of_lt hb.cnt this
  have hne : ∀ i, i < s.stack.size → gt s.stack i ≠ v := fun i hi he => (hb.stk i hi).2 (he ▸ hm)
  have hmono : ∀ u, gt s.scc u ≠ maxU → gt (pushState s v).scc u ≠ maxU := fun u hu => by
    rw [pushState_scc_ne s fun he : u = v => hu (he ▸ hm)]; exact hu
  refine ⟨⟨⟨(size_st ..).trans hb.size, fun u hu => ?_, hb.comp, fun i hi => ?_, ?_⟩, fun i hi => ?_, fun j hj => ?_,
    fun j j' hjj hj' => ?_, ?_⟩, hV⟩
  · by_cases huv : u = v
    · rw [huv, pushState_scc_self hvs]; exact Or.inr hS
    · rw [pushState_scc_ne s huv]; exact hb.range u hu
  · rcases lt_push_cases hi with ⟨hil, e⟩ | ⟨_, e⟩
    · rw [pushState_stack, e]; exact ⟨(hb.stk i hil).1, hmono _ (hb.stk i hil).2⟩
    · rw [pushState_stack, e, pushState_scc_self hvs]; exact ⟨hv, hSm⟩
  · rw [pushState_stack, Array.size_push, pushState_scc, hV]; exact Nat.succ_le_succ hb.cnt
  · rcases lt_push_cases hi with ⟨hil, e⟩ | ⟨rfl, e⟩
    · rw [pushState_stack, e, pushState_scc_ne s (hne i hil)]; exact hf.pos i hil
    · rw [pushState_stack, e, pushState_scc_self hvs]
  · rw [pushState_stack, Array.size_push]
    rcases lt_push_cases hj with ⟨hjl, e⟩ | ⟨_, e⟩
    · rw [pushState_bounds, e]; exact Nat.lt_succ_of_lt (hf.bnd_lt j hjl)
    · rw [pushState_bounds, e]; exact Nat.lt_succ_self _
  · rcases lt_push_cases hj' with ⟨hjl, e⟩ | ⟨rfl, e⟩
    · rw [pushState_bounds, e, gt_push_lt _ _ _ (Nat.lt_trans hjj hjl)]; exact hf.bnd_mono j j' hjj hjl
    · rw [pushState_bounds, e, gt_push_lt _ _ _ hjj]; exact hf.bnd_lt j hjj
  · rw [pushState_stack, Array.size_push, pushState_scc, hV, pushState_component]; exact Nat.succ_le_succ hf.comp_cnt

theorem wp_visit {n : Nat} {s : State} {v : Nat} {rest : List Dfs} (hf : GF n s) (hf' : GF n (pushState s v)) (hv : v < n)
    (hm : gt s.scc v = maxU) (hp : WP s rest) : WP (pushState s v) (.process v :: rest) := by
  have hon := onStack_push hf hf'
  have hsu : ∀ u, OnStack s u → gt (pushState s v).scc u = gt s.scc u := fun u hu =>
    pushState_scc_ne s fun he => (onStack_visited hf.base hu).1 (he ▸ hm)
  refine ⟨fun v' hv' => ?_, WP_mono rest (fun d _ u _ hu => ⟨(hon u).mpr (Or.inr hu), hsu u hu⟩) hp⟩
  cases hv'
  refine ⟨(hon v).mpr (Or.inl rfl), fun d' hd' u hu => ?_⟩
  have huo := WP_onStack rest hp d' hd' u hu
  rw [hsu u huo, pushState_scc_self (by rw [hf.base.size]; exact hv)]
  exact huo.1

theorem gf_pop {n : Nat} {s s1 : State} {v : Nat} (hn : n < maxU) (hf : GF n s) (hv : OnStack s v)
    (hc : s.bounds.size ≠ 0 ∧ gt s.bounds (s.bounds.size - 1) = gt s.scc v) (hp : Popped s v s1) :
    GF n s1 ∧ ∀ u, gt s.scc u ≠ maxU → gt s1.scc u ≠ maxU := by
  have hb := hf.base
  have hSc := hf.stack_le_comp
  have hcn := hb.comp
  have hpS := hv.1
  have hc1 : s.component - 1 < n := Nat.lt_of_lt_of_le (Nat.sub_lt (Nat.lt_of_lt_of_le (Nat.zero_lt_of_lt hpS) hSc) Nat.one_pos) hcn
  have hlast : s.bounds.size - 1 < s.bounds.size := Nat.sub_lt (Nat.pos_of_ne_zero hc.1) Nat.one_pos
  have hmono : ∀ u, gt s.scc u ≠ maxU → gt s1.scc u ≠ maxU := fun u hu => by
    by_cases hpu : OnStack s u ∧ gt s.scc v ≤ gt s.scc u
    · rw [hp.scc_pop u hpu.1 hpu.2]; exact Nat.ne_of_lt (Nat.lt_trans hc1 hn)
    · rw [hp.scc_keep u hpu]; exact hu
  have hcc : (n - s1.component) + s1.stack.size ≤ visited s1.scc n := by
    have := visited_mono s.scc s1.scc n hmono
    have := hf.comp_cnt
    rw [hp.component, hp.stack_size]
    omega
  refine ⟨⟨⟨hp.scc_size.trans hb.size, fun u hu => ?_, hp.component ▸ Nat.le_of_lt hc1, fun i hi => ?_,
    Nat.le_trans (Nat.le_add_left _ _) hcc⟩, fun i hi => ?_, fun j hj => ?_, fun j j' hjj hj' => ?_, hcc⟩, hmono⟩
  · by_cases hpu : OnStack s u ∧ gt s.scc v ≤ gt s.scc u
    · rw [hp.scc_pop u hpu.1 hpu.2]; exact Or.inr hc1
    · rw [hp.scc_keep u hpu]; exact hb.range u hu
  · rw [hp.stack_size] at hi
    have h := hb.stk i (Nat.lt_trans hi hpS)
    rw [hp.stack i hi]
    exact ⟨h.1, hmono _ h.2⟩
  · rw [hp.stack_size] at hi
    have h := hf.pos i (Nat.lt_trans hi hpS)
    rw [hp.stack i hi, hp.scc_keep _ fun hh => Nat.not_le_of_lt hi (h ▸ hh.2)]
    exact h
  · rw [hp.bounds, Array.size_pop] at hj
    rw [hp.bounds, gt_pop_lt _ _ hj, hp.stack_size, ← hc.2]
    exact hf.bnd_mono j (s.bounds.size - 1) hj hlast
  · rw [hp.bounds, Array.size_pop] at hj'
    rw [hp.bounds, gt_pop_lt _ _ hj', gt_pop_lt _ _ (Nat.lt_trans hjj hj')]
    exact hf.bnd_mono j j' hjj (Nat.lt_trans hj' hlast)

theorem wp_pop {n : Nat} {s s1 : State} {v : Nat} {rest : List Dfs} (hf : GF n s) (hf1 : GF n s1)
    (hw : WP s (.finalize v :: rest)) (hp : Popped s v s1) : WP s1 rest :=
  WP_mono rest (fun d hd u hu huo =>
    have hlt := (hw.1 v rfl).2 d hd u hu
    ⟨(hp.onStack hf hf1 (hw.1 v rfl).1 u).mpr ⟨huo, hlt⟩, hp.scc_keep u fun hh => by omega⟩) hw.2

end Tbx.Gabow
