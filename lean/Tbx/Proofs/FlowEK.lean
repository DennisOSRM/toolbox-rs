import Tbx.Proofs.FlowSearch
import Tbx.Proofs.FlowCut
import Tbx.Proofs.FlowUniq
/-
The EdmondsKarp / FordFulkerson object, for any pop discipline (stack = the DFS struct, queue = the BFS struct): C01
`ek_ff_correct`, `ek_ff_terminates` and re-runs.

`augmentLoop_run` is one induction over `augmentLoop`: every iteration keeps the state invariant `FInv` (the bottleneck
of the found path is pushed, `push_finv`), when the search fails no augmenting path is left, and the loop returns:
`path_iter()` yields a simple parent chain, every path edge and its reverse exist (`Uniq`, `RevClosed`), the bottleneck
is ≥ 1, and the value is at most the sum of all capacities (`finv_flow_le_total`), whence the fuel the driver passes,
2 + that sum.  A returning `run` ends in a state `QuietS` (invariant, no augmenting path, finished), which carries the
maximum flow.  `Solver.run` starts from the stored flow counter (`self.max_flow += path_flow`), so the model of a
re-run is `Solver.run` itself: from a `QuietS` state it returns after one search and changes nothing.
-/
namespace Tbx.Flow
open Tbx Tbx.FlowTheory Tbx.FlowSpec

theorem found_path {n s t : Nat} {ps : Array Nat} {l : List Nat} (hs : s < n) (hps : gt ps s = s) (hN : n ≤ INV)
    (hl : PChain n s ps t l) :
    ∃ tail, l = t :: tail ∧ pathIter ps (n + 1) t = some l ∧ l.Nodup ∧ l.getLast? = some s ∧ ∀ y, y ∈ l → y < n := by
  obtain ⟨a, b, c⟩ := pchain_props hs hps hN hl
  obtain ⟨tail, rfl⟩ := pchain_head hl
  exact ⟨tail, rfl, pathIter_of_pchain hs hps hN hl _ (Nat.le_succ_of_le (pchain_length_le hs hps hN hl)),
    b, c, fun y hy => (a y hy).1⟩

theorem minByCap_spec (g : Graph) (ws : List (Nat × Nat)) : ∀ (m : Nat × Nat) (km : ℤ),
    minByCap g ws = some (m, km) →
    m ∈ ws ∧ windowCap g m = some km ∧ ∀ ab, ab ∈ ws → ∃ k, windowCap g ab = some k ∧ km ≤ k := by
  induction ws with
  | nil => intro m km h; simp [minByCap] at h
  | cons p tl ih =>
    cases tl with
    | nil =>
      intro m km h
      simp only [minByCap] at h
      cases hw : windowCap g p with
      | none => simp [hw] at h
      | some k =>
        simp only [hw, Option.map_some, Option.some.injEq, Prod.mk.injEq] at h
        obtain ⟨rfl, rfl⟩ := h
        refine ⟨List.mem_singleton.mpr rfl, hw, ?_⟩
        intro ab hab; rw [List.mem_singleton] at hab; subst hab; exact ⟨k, hw, Int.le_refl _⟩
    | cons q rest =>
      intro m km h
      simp only [minByCap] at h
      cases hw : windowCap g p with
      | none => simp [hw] at h
      | some k =>
        cases hr : minByCap g (q :: rest) with
        | none => simp [hw, hr] at h
        | some r =>
          obtain ⟨m', km'⟩ := r
          simp only [hw, hr] at h
          obtain ⟨i1, i2, i3⟩ := ih m' km' hr
          split at h
          · rename_i hlt
            simp only [Option.some.injEq, Prod.mk.injEq] at h
            obtain ⟨rfl, rfl⟩ := h
            refine ⟨List.mem_cons_of_mem _ i1, i2, ?_⟩
            intro ab hab
            rcases List.mem_cons.mp hab with rfl | h'
            · exact ⟨k, hw, by omega⟩
            · exact i3 ab h'
          · rename_i hge
            simp only [Option.some.injEq, Prod.mk.injEq] at h
            obtain ⟨rfl, rfl⟩ := h
            refine ⟨List.mem_cons_self, hw, ?_⟩
            intro ab hab
            rcases List.mem_cons.mp hab with rfl | h'
            · exact ⟨_, hw, Int.le_refl _⟩
            · obtain ⟨k', a1, a2⟩ := i3 ab h'
              exact ⟨k', a1, by omega⟩

theorem minByCap_total (g : Graph) (ws : List (Nat × Nat)) (hne : ws ≠ [])
    (h : ∀ ab, ab ∈ ws → ∃ k, windowCap g ab = some k) : ∃ r, minByCap g ws = some r := by
  induction ws with
  | nil => exact absurd rfl hne
  | cons p tl ih =>
    obtain ⟨k, hk⟩ := h p List.mem_cons_self
    cases tl with
    | nil => simp only [minByCap, hk]; exact ⟨_, rfl⟩
    | cons q rest =>
      obtain ⟨r, hr⟩ := ih (by simp) (fun ab hab => h ab (List.mem_cons_of_mem _ hab))
      obtain ⟨m, km⟩ := r
      simp only [minByCap, hk, hr]
      split <;> exact ⟨_, rfl⟩

theorem pushPath_total (pf : ℤ) (path : List Nat) : ∀ (g : Graph),
    (∀ ab, ab ∈ windows path → (∃ e, g.findEdge ab.1 ab.2 = some e) ∧ ∃ e, g.findEdge ab.2 ab.1 = some e) →
    ∃ g', pushPath g pf (windows path) = some g' := by
  induction path with
  | nil => intro g _; exact ⟨g, rfl⟩
  | cons a tl ih =>
    cases tl with
    | nil => intro g _; exact ⟨g, rfl⟩
    | cons b rest =>
      intro g h
      obtain ⟨⟨rev, h1⟩, ⟨fwd, h2⟩⟩ := h (a, b) (mem_windows_head a b rest)
      obtain ⟨g', hg'⟩ := ih { g with cap := pushCaps g.cap fwd rev pf } fun ab hab => by
        simp only [findEdge_cap_irrel]; exact h ab (mem_windows_tail a hab)
      exact ⟨g', pushPath_cons.mpr ⟨rev, fwd, h1, h2, hg'⟩⟩

theorem augment_step {n : Nat} {c : Fin n → Fin n → ℤ} {s t : Fin n} (hst : s ≠ t)
    (g : Graph) (flow : ℤ) (hi : FInv c s t g flow) (tail : List Nat) (hnd : (t.val :: tail).Nodup)
    (hlast : (t.val :: tail).getLast? = some s.val) (hlt : ∀ y, y ∈ t.val :: tail → y < g.numNodes)
    (m : Nat × Nat) (km : ℤ) (hmin : minByCap g (windows (t.val :: tail)) = some (m, km)) (hpos : ¬ km ≤ 0)
    (g' : Graph) (hpush : pushPath g km (windows (t.val :: tail)) = some g') :
    FInv c s t g' (flow + km) ∧ g'.first = g.first ∧ g'.tgt = g.tgt := by
  obtain ⟨_, _, hm3⟩ := minByCap_spec g _ m km hmin
  refine push_finv hst g flow hi tail hnd hlast hlt km (by omega) (fun ab hab => ?_) g' hpush
  obtain ⟨k, hk1, hk2⟩ := hm3 ab hab
  unfold windowCap at hk1
  cases hfe : g.findEdge ab.2 ab.1 with
  | none => simp [hfe] at hk1
  | some e =>
    simp only [hfe, Option.map_some, Option.some.injEq] at hk1
    exact ⟨e, rfl, by omega⟩

theorem augment_total {g : Graph} (huq : Uniq g) (hrc : RevClosed g) {l : List Nat}
    (hne : windows l ≠ []) (hwin : ∀ ab, ab ∈ windows l → PosEdge g ab.2 ab.1) :
    ∃ m km g1, minByCap g (windows l) = some (m, km) ∧ ¬ km ≤ 0 ∧ pushPath g km (windows l) = some g1 := by
  have hwc : ∀ ab, ab ∈ windows l → ∃ e, g.findEdge ab.2 ab.1 = some e ∧ 0 < gt g.cap e := by
    intro ab hab
    obtain ⟨e, h1, h2, h3, h4⟩ := hwin ab hab
    exact ⟨e, findEdge_eq_of_uniq huq _ _ e ⟨h1, h2⟩ h3, h4⟩
  obtain ⟨⟨m, km⟩, hmin⟩ := minByCap_total g (windows l) hne (fun ab hab => by
    obtain ⟨e, he, _⟩ := hwc ab hab
    exact ⟨gt g.cap e, by unfold windowCap; rw [he]; rfl⟩)
  obtain ⟨hm1, hm2, _⟩ := minByCap_spec g _ m km hmin
  obtain ⟨em, hem, hempos⟩ := hwc m hm1
  have hkm : km = gt g.cap em := by
    unfold windowCap at hm2; rw [hem] at hm2
    exact (Option.some.inj hm2).symm
  obtain ⟨g1, hpush⟩ := pushPath_total km l g (fun ab hab => by
    obtain ⟨e, he, _⟩ := hwc ab hab
    obtain ⟨hb, hre, hte⟩ := findEdge_spec g _ _ e he
    obtain ⟨e', hr', ht'⟩ := hrc ab.2 e hb hre
    rw [hte] at hr'
    exact ⟨findEdge_some_of_edge g ab.1 ab.2 e' hr' ht', ⟨e, he⟩⟩)
  exact ⟨m, km, g1, hmin, hkm ▸ Int.not_le.mpr hempos, hpush⟩

/-- the fuel accounting of `augmentLoop_run`, over variables: `omega` is slow to check in that proof's long context -/
theorem budget_step (T flow pf : ℤ) (fuel : Nat) (h : (T - flow).toNat + 2 ≤ fuel + 1) (hpf : ¬ pf ≤ 0)
    (hb : flow + pf ≤ T) : (T - (flow + pf)).toNat + 2 ≤ fuel := by
  omega

theorem augmentLoop_run {n : Nat} {c : Fin n → Fin n → ℤ} {s t : Fin n} (hst : s ≠ t) (hN : n ≤ INV)
    (pop : List Nat → Option (Nat × List Nat)) (hp : PopOK pop) (fuel : Nat) :
    ∀ (g : Graph) (flow : ℤ) (augs : Nat), FInv c s t g flow →
    (∀ r, augmentLoop pop s.val t.val fuel g flow augs = some r → FInv c s t r.1 r.2.1 ∧ ¬ ReachG r.1 s.val t.val) ∧
    (PopLen pop → Uniq g → RevClosed g → ∀ T : ℤ, (∀ g flow, FInv c s t g flow → flow ≤ T) →
      (T - flow).toNat + 2 ≤ fuel → ∃ r, augmentLoop pop s.val t.val fuel g flow augs = some r) := by
  induction fuel with
  | zero => intro g flow augs _; exact ⟨nofun, fun _ _ _ _ _ h => absurd h (Nat.not_succ_le_zero _)⟩
  | succ fuel ih =>
    intro g flow augs hi
    have hNg : g.numNodes ≤ INV := hi.hn ▸ hN
    have hsn : s.val < g.numNodes := hi.hn ▸ s.isLt
    cases hsearch : search g s.val t.val pop with
    | none =>
      simp only [augmentLoop, hsearch]
      refine ⟨nofun, fun hl _ _ _ _ _ => ?_⟩
      obtain ⟨r, hr⟩ := search_total g s.val t.val pop hp hl hi.wf.targetsOK hNg hsn
      cases hsearch.symm.trans hr
    | some r =>
      obtain ⟨res, sr⟩ := r
      cases res with
      | false =>
        simp only [augmentLoop, hsearch]
        exact ⟨fun r h => Option.some.inj h ▸ ⟨hi, search_none g s.val t.val pop hp hi.wf.targetsOK hNg hsn
          (fun e => hst (Fin.ext e)) sr hsearch⟩, fun _ _ _ _ _ _ => ⟨_, rfl⟩⟩
      | true =>
        obtain ⟨hps, l, hl, hwin⟩ := search_found g s.val t.val pop hp hi.wf.targetsOK hNg hsn sr hsearch
        obtain ⟨tail, rfl, hpath, hnd, hlast, hlt⟩ := found_path hsn hps hNg hl
        have hne : windows (t.val :: tail) ≠ [] := by
          cases tail with
          | nil => exact absurd (Fin.ext (Option.some.inj hlast).symm) hst
          | cons b tl => exact List.cons_ne_nil _ _
        simp only [augmentLoop, hsearch, hpath]
        -- the steps that can get stuck, and what `augment_total` says of them
        cases hmin : minByCap g (windows (t.val :: tail)) with
        | none =>
          refine ⟨nofun, fun _ huq hrc _ _ _ => ?_⟩
          obtain ⟨_, _, _, h1, _⟩ := augment_total huq hrc hne hwin
          cases hmin.symm.trans h1
        | some mk =>
          obtain ⟨m, km⟩ := mk
          simp only [(minByCap_spec g _ m km hmin).2.1]
          by_cases hpos : km ≤ 0
          · rw [if_pos hpos]
            refine ⟨nofun, fun _ huq hrc _ _ _ => ?_⟩
            obtain ⟨_, _, _, h1, h2, _⟩ := augment_total huq hrc hne hwin
            cases hmin.symm.trans h1; exact absurd hpos h2
          · rw [if_neg hpos]
            cases hpush : pushPath g km (windows (t.val :: tail)) with
            | none =>
              refine ⟨nofun, fun _ huq hrc _ _ _ => ?_⟩
              obtain ⟨_, _, _, h1, _, h3⟩ := augment_total huq hrc hne hwin
              cases hmin.symm.trans h1; cases hpush.symm.trans h3
            | some g1 =>
              obtain ⟨hi1, hf1, ht1⟩ := augment_step hst g flow hi tail hnd hlast hlt m km hmin hpos g1 hpush
              obtain ⟨i1, i2⟩ := ih g1 (flow + km) (augs + 1) hi1
              exact ⟨i1, fun hl huq hrc T hT hf => i2 hl (uniq_of_eq huq hf1 ht1) (revClosed_of_eq hrc hf1 ht1) T hT
                (budget_step T flow km fuel hf hpos (hT g1 _ hi1))⟩

structure QuietS {n : Nat} (c : Fin n → Fin n → ℤ) (s t : Fin n) (sv : Solver) : Prop where
  fi  : FInv c s t sv.g sv.maxFlow
  nr  : ¬ ReachG sv.g s.val t.val
  src : sv.source = s.val
  tgt : sv.target = t.val
  fin : sv.finished = true

theorem QuietS.max {n : Nat} {c : Fin n → Fin n → ℤ} {s t : Fin n} {sv : Solver} (hq : QuietS c s t sv) :
    IsMaxFlowValue c s t sv.maxFlow :=
  finv_unreachable_max sv.g sv.maxFlow hq.fi hq.nr

theorem QuietS.maxFlow? {n : Nat} {c : Fin n → Fin n → ℤ} {s t : Fin n} {sv : Solver} (hq : QuietS c s t sv) :
    sv.maxFlow? = .ok sv.maxFlow := by
  unfold Solver.maxFlow? maxFlowOut; rw [hq.fin]; rfl

theorem run_guard {sv sv' : Solver} {pop : List Nat → Option (Nat × List Nat)} {fuel : Nat}
    (h : sv.run pop fuel = some sv') : sv.source < sv.g.numNodes ∧ sv.target < sv.g.numNodes := by
  unfold Solver.run at h
  split at h
  · cases h
  · omega

theorem run_eq_some {sv : Solver} {pop : List Nat → Option (Nat × List Nat)} {fuel : Nat} {g : Graph} {flow : ℤ}
    {augs : Nat} (hs : sv.source < sv.g.numNodes) (ht : sv.target < sv.g.numNodes)
    (h : augmentLoop pop sv.source sv.target fuel sv.g sv.maxFlow sv.augs = some (g, flow, augs)) :
    sv.run pop fuel = some { sv with g := g, maxFlow := flow, finished := true, augs := augs } := by
  unfold Solver.run; rw [if_neg (by omega), h]

theorem run_quietS {n : Nat} {c : Fin n → Fin n → ℤ} {s t : Fin n} (hst : s ≠ t) (hN : n ≤ INV)
    (pop : List Nat → Option (Nat × List Nat)) (hp : PopOK pop) (sv sv' : Solver) (fuel : Nat)
    (hsrc : sv.source = s.val) (htgt : sv.target = t.val) (hi : FInv c s t sv.g sv.maxFlow)
    (h : sv.run pop fuel = some sv') : QuietS c s t sv' := by
  unfold Solver.run at h
  split at h
  · cases h
  · cases hl : augmentLoop pop sv.source sv.target fuel sv.g sv.maxFlow sv.augs with
    | none => simp [hl] at h
    | some r =>
      simp only [hl, Option.some.injEq] at h
      subst h
      rw [hsrc, htgt] at hl
      obtain ⟨a, b⟩ := (augmentLoop_run hst hN pop hp fuel _ _ _ hi).1 r hl
      exact ⟨a, b, hsrc, htgt, rfl⟩

theorem fromEdgeList_run (es : List Edge) (s t : Nat) (hnn : ∀ e, e ∈ es → 0 ≤ e.cap) (hst : s ≠ t)
    (hN : nNodes (es.map toE) ≤ INV) (pop : List Nat → Option (Nat × List Nat)) (hp : PopOK pop)
    (fuel : Nat) (sv' : Solver) (h : (Solver.fromEdgeList es s t).run pop fuel = some sv') :
    ∃ (hs : s < nNodes (es.map toE)) (ht : t < nNodes (es.map toE)),
      QuietS (cF (es.map toE) (nNodes (es.map toE))) ⟨s, hs⟩ ⟨t, ht⟩ sv' := by
  have hg := run_guard h
  rw [show (Solver.fromEdgeList es s t).g.numNodes = _ from residualEK_numNodes es hnn] at hg
  exact ⟨hg.1, hg.2, run_quietS (fun e => hst (Fin.mk.inj e)) hN pop hp _ sv' fuel rfl rfl
    (init_finv (residualEK es) es ⟨s, hg.1⟩ ⟨t, hg.2⟩ (merge_cap_ek es hnn)) h⟩

theorem ek_ff_correct (es : List Edge) (s t : Nat) (hnn : ∀ e, e ∈ es → 0 ≤ e.cap) (hst : s ≠ t)
    (hN : nNodes (es.map toE) ≤ INV) (pop : List Nat → Option (Nat × List Nat)) (hp : PopOK pop)
    (fuel : Nat) (sv' : Solver) (h : (Solver.fromEdgeList es s t).run pop fuel = some sv') :
    ∃ (hs : s < nNodes (es.map toE)) (ht : t < nNodes (es.map toE)),
      IsMaxFlowValue (cF (es.map toE) (nNodes (es.map toE))) ⟨s, hs⟩ ⟨t, ht⟩ sv'.maxFlow ∧
      sv'.maxFlow? = .ok sv'.maxFlow := by
  obtain ⟨hs, ht, hq⟩ := fromEdgeList_run es s t hnn hst hN pop hp fuel sv' h
  exact ⟨hs, ht, hq.max, hq.maxFlow?⟩

theorem ek_ff_run_total (es : List Edge) (s t : Nat) (hnn : ∀ e, e ∈ es → 0 ≤ e.cap) (hst : s ≠ t)
    (hs : s < nNodes (es.map toE)) (ht : t < nNodes (es.map toE)) (hN : nNodes (es.map toE) ≤ INV)
    (pop : List Nat → Option (Nat × List Nat)) (hp : PopOK pop) (hl : PopLen pop) :
    ∃ sv', (Solver.fromEdgeList es s t).run pop ((es.map Edge.cap).sum.toNat + 2) = some sv' := by
  have hnum := residualEK_numNodes es hnn
  have hi := init_finv (residualEK es) es ⟨s, hs⟩ ⟨t, ht⟩ (merge_cap_ek es hnn)
  obtain ⟨huq, hrc⟩ := residualEK_uniq_rev es
  have hsum : ((es.map toE).map fun e => e.2.2).sum = (es.map Edge.cap).sum := by
    rw [List.map_map]; rfl
  have hnnE : ∀ e, e ∈ es.map toE → 0 ≤ e.2.2 := by
    intro e he
    obtain ⟨x, hx, rfl⟩ := List.mem_map.mp he
    exact hnn x hx
  obtain ⟨r, hr⟩ := (augmentLoop_run (fun e => hst (Fin.mk.inj e)) hN pop hp ((es.map Edge.cap).sum.toNat + 2)
    (residualEK es) 0 0 hi).2 hl huq hrc _ (fun g flow => finv_flow_le_total (es.map toE) hnnE ⟨s, hs⟩ ⟨t, ht⟩
      (fun e => hst (Fin.mk.inj e)) g flow) (by rw [hsum]; simp)
  obtain ⟨g', flow', augs'⟩ := r
  exact ⟨_, run_eq_some (sv := Solver.fromEdgeList es s t) (hnum ▸ hs) (hnum ▸ ht) hr⟩

theorem ek_ff_total (es : List Edge) (s t : Nat) (hnn : ∀ e, e ∈ es → 0 ≤ e.cap) (hst : s ≠ t)
    (hs : s < nNodes (es.map toE)) (ht : t < nNodes (es.map toE)) (hN : nNodes (es.map toE) ≤ INV)
    (pop : List Nat → Option (Nat × List Nat)) (hp : PopOK pop) (hl : PopLen pop) :
    ∃ sv', (Solver.fromEdgeList es s t).run pop ((es.map Edge.cap).sum.toNat + 2) = some sv' ∧
      IsMaxFlowValue (cF (es.map toE) (nNodes (es.map toE))) ⟨s, hs⟩ ⟨t, ht⟩ sv'.maxFlow ∧
      sv'.maxFlow? = .ok sv'.maxFlow := by
  obtain ⟨sv', h⟩ := ek_ff_run_total es s t hnn hst hs ht hN pop hp hl
  obtain ⟨_, _, a, b⟩ := ek_ff_correct es s t hnn hst hN pop hp _ sv' h
  exact ⟨sv', h, a, b⟩

theorem tree_reach (g : Graph) (s : Nat) (ps : Array Nat) (ht : Tree g s ps) :
    ∀ v, v < g.numNodes → Marked ps v → ReachG g s v := by
  obtain ⟨rank, hr⟩ := ht
  have key : ∀ k v, rank v = k → v < g.numNodes → Marked ps v → ReachG g s v := by
    intro k
    induction k using Nat.strongRecOn with
    | _ k ih =>
      intro v hk hv hm
      by_cases hvs : v = s
      · subst hvs; exact ReachG.refl
      · obtain ⟨p1, p2, p3, p4⟩ := hr v hv hvs hm
        exact ReachG.step (ih (rank (gt ps v)) (by omega) (gt ps v) rfl p1 p2) p4
  intro v hv hm
  exact key (rank v) v rfl hv hm

theorem search_unreach (g : Graph) (s t : Nat) (pop : List Nat → Option (Nat × List Nat)) (hp : PopOK pop)
    (hl : PopLen pop) (hT : TargetsOK g) (hN : g.numNodes ≤ INV) (hs : s < g.numNodes)
    (hun : ¬ ReachG g s t) : ∃ sr, search g s t pop = some (false, sr) := by
  obtain ⟨r, hr⟩ := search_total g s t pop hp hl hT hN hs
  obtain ⟨b, sr⟩ := r
  cases b with
  | false => exact ⟨sr, hr⟩
  | true =>
    exfalso
    obtain ⟨_, l, hl, hw⟩ := search_found g s t pop hp hT hN hs sr hr
    exact hun (pchain_reach hl hw)

theorem solver_rerun_fixed {n : Nat} {c : Fin n → Fin n → ℤ} {s t : Fin n} (hN : n ≤ INV)
    (pop : List Nat → Option (Nat × List Nat)) (hp : PopOK pop) (hl : PopLen pop)
    (sv : Solver) (hq : QuietS c s t sv) (k : Nat) :
    ∃ sv', sv.run pop (k + 1) = some sv' ∧ sv'.maxFlow = sv.maxFlow ∧ sv'.g = sv.g ∧ QuietS c s t sv' := by
  have hgn := hq.fi.hn
  have hs : sv.source < sv.g.numNodes := by rw [hq.src, hgn]; exact s.isLt
  have ht : sv.target < sv.g.numNodes := by rw [hq.tgt, hgn]; exact t.isLt
  have hun : ¬ ReachG sv.g sv.source sv.target := by rw [hq.src, hq.tgt]; exact hq.nr
  obtain ⟨sr, hsr⟩ := search_unreach sv.g sv.source sv.target pop hp hl hq.fi.wf.targetsOK
    (by rw [hgn]; exact hN) hs hun
  have hloop : augmentLoop pop sv.source sv.target (k + 1) sv.g sv.maxFlow sv.augs
      = some (sv.g, sv.maxFlow, sv.augs) := by
    simp only [augmentLoop, hsr]
  exact ⟨_, run_eq_some hs ht hloop, rfl, rfl, hq.fi, hq.nr, hq.src, hq.tgt, rfl⟩

theorem solver_rerunN_fixed {n : Nat} {c : Fin n → Fin n → ℤ} {s t : Fin n} (hN : n ≤ INV)
    (pop : List Nat → Option (Nat × List Nat)) (hp : PopOK pop) (hl : PopLen pop) (fuel k : Nat) :
    ∀ (sv : Solver), QuietS c s t sv →
    ∃ sv', Solver.runN pop (fuel + 1) k sv = some sv' ∧ sv'.maxFlow = sv.maxFlow ∧ sv'.g = sv.g ∧
      QuietS c s t sv' := by
  induction k with
  | zero => intro sv hq; exact ⟨sv, rfl, rfl, rfl, hq⟩
  | succ k ih =>
    intro sv hq
    obtain ⟨s1, h1, m1, g1, q1⟩ := solver_rerun_fixed hN pop hp hl sv hq fuel
    obtain ⟨s2, h2, m2, g2, q2⟩ := ih s1 q1
    refine ⟨s2, ?_, by rw [m2, m1], by rw [g2, g1], q2⟩
    simp only [Solver.runN, h1]
    exact h2

theorem ek_ff_rerun (es : List Edge) (s t : Nat) (hnn : ∀ e, e ∈ es → 0 ≤ e.cap) (hst : s ≠ t)
    (hN : nNodes (es.map toE) ≤ INV) (pop : List Nat → Option (Nat × List Nat)) (hp : PopOK pop)
    (hl : PopLen pop) (fuel : Nat) (sv' : Solver) (h : (Solver.fromEdgeList es s t).run pop fuel = some sv')
    (fuel' k : Nat) :
    ∃ sv'', Solver.runN pop (fuel' + 1) k sv' = some sv'' ∧ sv''.maxFlow = sv'.maxFlow ∧ sv''.g = sv'.g ∧
      sv''.finished = true ∧ sv'.finished = true := by
  obtain ⟨_, _, hq⟩ := fromEdgeList_run es s t hnn hst hN pop hp fuel sv' h
  obtain ⟨s2, h2, m2, g2, q2⟩ := solver_rerunN_fixed hN pop hp hl fuel' k sv' hq
  exact ⟨s2, h2, m2, g2, q2.fin, hq.fin⟩

end Tbx.Flow
