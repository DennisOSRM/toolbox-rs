import Tbx.Proofs.Fenwick
/-
`select(value)` on an array of non-negative entries: the binary descent finds the largest index whose
prefix sum is ≤ value (`None` if even the first prefix sum is larger).
-/
namespace Tbx.Fenwick
open Tbx
open Tbx.PrefixSum (pre)

theorem pre_mono (v : List Int) (hv : ∀ x ∈ v, 0 ≤ x) (a b : Nat) (h : a ≤ b) : pre v a ≤ pre v b := by
  induction b with
  | zero => have : a = 0 := by omega
            subst this; exact Int.le_refl _
  | succ b ih =>
    by_cases hab : a = b + 1
    · subst hab; exact Int.le_refl _
    · have := ih (by omega)
      rw [pre_succ]
      have : 0 ≤ v.getD b 0 := by
        rw [List.getD_eq_getElem?_getD]
        cases h : v[b]? with
        | none => exact Int.le_refl _
        | some x => exact hv x (List.mem_of_getElem? h)
      omega

theorem selLoop_step_zero (t : Array Int) (fuel index : Nat) (value : Int) :
    selLoop t fuel index 0 value = index := by
  cases fuel <;> simp [selLoop]

/-- `l` levels are left: the step is `2 ^ l / 2` (0 at the end), the index a multiple of `2 ^ l`, and no
    prefix of length `index + 2 ^ l` or more fits under the value -/
theorem selLoop_spec (t : Array Int) (v : List Int) (hI : FwInv t v) (hv : ∀ x ∈ v, 0 ≤ x) (value0 : Int)
    (l : Nat) : ∀ (fuel index m : Nat), l ≤ fuel → index = 2 ^ l * m → index ≤ v.length →
      (∀ p, index + 2 ^ l ≤ p → p ≤ v.length → value0 < pre v p) →
      ∃ r, selLoop t fuel index (2 ^ l / 2) (value0 - pre v index) = r ∧ r ≤ v.length ∧
        (r = index ∨ pre v r ≤ value0) ∧ ∀ p, r < p → p ≤ v.length → value0 < pre v p := by
  induction l with
  | zero =>
    intro fuel index m _ _ hle hb
    exact ⟨index, selLoop_step_zero t fuel index _, hle, Or.inl rfl, fun p hp => hb p hp⟩
  | succ l ih =>
    intro fuel index m hf hidx hle hb
    cases fuel with
    | zero => omega
    | succ f =>
      have hP : 0 < 2 ^ l := Nat.two_pow_pos l
      have hform : index + 2 ^ l = 2 ^ l * (2 * m + 1) := by
        rw [hidx, Nat.pow_succ, Nat.mul_add, Nat.mul_one, Nat.mul_assoc]
      -- index + 2^l is an odd multiple of 2^l, so its node sums (index, index + 2^l]
      have hnode : index + 2 ^ l ≤ v.length → gt t (index + 2 ^ l) = pre v (index + 2 ^ l) - pre v index := by
        intro hin
        have := hI.node _ (Nat.le_add_left_of_le hP) hin
        rwa [hform, lsb_pow_mul, lsb_two_mul_add_one, Nat.mul_one, ← hform, Nat.add_sub_cancel] at this
      unfold selLoop
      rw [Nat.pow_succ, Nat.mul_div_cancel _ (by decide), if_pos hP]
      by_cases hcond : index + 2 ^ l < t.size ∧ gt t (index + 2 ^ l) ≤ value0 - pre v index
      · rw [if_pos hcond]
        have hin : index + 2 ^ l ≤ v.length := Nat.le_of_lt_succ (Nat.lt_of_lt_of_eq hcond.1 hI.size)
        have hc2 := hcond.2
        rw [hnode hin] at hc2 ⊢
        obtain ⟨r, hr, r1, r2, r4⟩ := ih f (index + 2 ^ l) (2 * m + 1) (Nat.le_of_succ_le_succ hf) hform hin
          (fun p hp1 hp2 => hb p (by rw [Nat.pow_succ]; omega) hp2)
        rw [show value0 - pre v index - (pre v (index + 2 ^ l) - pre v index) = value0 - pre v (index + 2 ^ l)
          by omega, hr]
        refine ⟨r, rfl, r1, Or.inr ?_, r4⟩
        rcases r2 with h | h
        · rw [h]; omega
        · exact h
      · rw [if_neg hcond]
        refine ih f index (2 * m) (Nat.le_of_succ_le_succ hf) (by rw [hidx, Nat.pow_succ, Nat.mul_assoc]) hle ?_
        intro p hp1 hp2
        have hin : index + 2 ^ l ≤ v.length := Nat.le_trans hp1 hp2
        have hgt : value0 < pre v (index + 2 ^ l) := by
          apply Classical.byContradiction
          intro hn
          exact hcond ⟨by rw [hI.size]; exact Nat.lt_succ_of_le hin, by rw [hnode hin]; omega⟩
        have := pre_mono v hv _ _ hp1
        omega

theorem select_spec (t : Array Int) (v : List Int) (hI : FwInv t v) (hv : ∀ x ∈ v, 0 ≤ x) (x : Int) :
    PrefixSum.IsSelect v x (Fenwick.select ⟨t⟩ x) := by
  unfold Fenwick.select len prevPow2
  simp only [hI.size, Nat.add_sub_cancel]
  by_cases hn : v.length = 0
  · rw [if_pos hn, selLoop_step_zero]
    simp only [if_true]
    intro i hi; exact absurd hi (hn ▸ Nat.not_lt_zero i)
  · rw [if_neg hn]
    have hlt := @Nat.lt_log2_self v.length
    obtain ⟨r, hr, r1, r2, r4⟩ := selLoop_spec t v hI hv x (v.length.log2 + 1) (2 ^ v.length.log2 + 1) 0 0
      (Nat.succ_le_succ (Nat.le_of_lt Nat.lt_two_pow_self)) (Nat.mul_zero _).symm (Nat.zero_le _)
      (fun p hp1 hp2 => by omega)
    rw [Nat.pow_succ, Nat.mul_div_cancel _ (by decide), pre_zero, Int.sub_zero] at hr
    rw [hr]
    by_cases hr0 : r = 0
    · rw [if_pos hr0]
      intro i hi
      exact r4 (i + 1) (hr0 ▸ Nat.succ_pos i) hi
    · rw [if_neg hr0]
      have e : r - 1 + 1 = r := Nat.sub_add_cancel (Nat.pos_of_ne_zero hr0)
      refine ⟨by omega, ?_, ?_⟩
      · rw [e]
        exact r2.resolve_left hr0
      · intro i' hi' hp
        apply Classical.byContradiction
        intro hgt
        have := r4 (i' + 1) (by omega) hi'
        omega

end Tbx.Fenwick
