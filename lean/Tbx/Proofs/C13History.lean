import Tbx.Proofs.HashTableRefine
import Tbx.Proofs.TinyTable
import Tbx.Proofs.CountMin
/-
Histories (operation sequences) for the containers of C13: model run, Spec run, domain predicate.
-/
namespace Tbx.HashTable

/-- the mutating operations of the table; observers are applied to the states in between -/
inductive Op where
  | insert (k : Nat) (v : Int)
  | getMut (k : Nat)
  | clear
deriving Repr, DecidableEq

/-- one model step: table afterwards and the value a `get_mut` hands out (`none` = a probe loop would
not terminate) -/
def stepM (N : Nat) (h : Nat → Nat) (t : Table) : Op → Option (Table × Option Int)
  | .insert k v => match insert N h t k v with
    | some t' => some (t', none)
    | none => none
  | .getMut k => match getMut N h t k with
    | some (t', p) => some (t', some (valAt t' p))
    | none => none
  | .clear => some (clear N t, none)

def stepS (m : FinMap.M) : Op → FinMap.M × Option Int
  | .insert k v => (FinMap.insert m k v, none)
  | .getMut k => ((FinMap.getOrCreate m k 0).1, some (FinMap.getOrCreate m k 0).2)
  | .clear => (FinMap.clear, none)

/-- the property's quantifier: after the step fewer keys are live than there are slots -/
def InDom (N : Nat) (m : FinMap.M) : Op → Prop
  | .insert k _ => FinMap.contains m k = true ∨ FinMap.len m + 1 < N
  | .getMut k => FinMap.contains m k = true ∨ FinMap.len m + 1 < N
  | .clear => True

def HistOK (N : Nat) : FinMap.M → List Op → Prop
  | _, [] => True
  | m, op :: ops => InDom N m op ∧ HistOK N (stepS m op).1 ops

def runS : FinMap.M → List Op → FinMap.M × List (Option Int)
  | m, [] => (m, [])
  | m, op :: ops => ((runS (stepS m op).1 ops).1, (stepS m op).2 :: (runS (stepS m op).1 ops).2)

def runM (N : Nat) (h : Nat → Nat) : Table → List Op → Option (Table × List (Option Int))
  | t, [] => some (t, [])
  | t, op :: ops =>
    match stepM N h t op with
    | none => none
    | some (t', o) =>
      match runM N h t' ops with
      | none => none
      | some (t'', os) => some (t'', o :: os)

theorem step_rel {N : Nat} {h : Nat → Nat} {t : Table} {m : FinMap.M} (R : Rel N h t m) (hN : 0 < N)
    (hh : ∀ k, h k < N) (op : Op) (hd : InDom N m op) :
    ∃ t', stepM N h t op = some (t', (stepS m op).2) ∧ Rel N h t' (stepS m op).1 := by
  cases op with
  | insert k v =>
    obtain ⟨t', he, R'⟩ := insert_rel R hh k v hd
    exact ⟨t', by simp [stepM, he, stepS], R'⟩
  | getMut k =>
    obtain ⟨t', p, he, R', hv⟩ := getMut_rel R hh k hd
    exact ⟨t', by simp [stepM, he, stepS, hv], R'⟩
  | clear => exact ⟨clear N t, rfl, clear_spec R.inv hN⟩

theorem run_rel {N : Nat} {h : Nat → Nat} (hN : 0 < N) (hh : ∀ k, h k < N) (ops : List Op) :
    ∀ (t : Table) (m : FinMap.M), Rel N h t m → HistOK N m ops →
      ∃ t', runM N h t ops = some (t', (runS m ops).2) ∧ Rel N h t' (runS m ops).1 := by
  induction ops with
  | nil => intro t m R _; exact ⟨t, rfl, R⟩
  | cons op ops ih =>
    intro t m R hok
    obtain ⟨t1, he, R1⟩ := step_rel R hN hh op hok.1
    obtain ⟨t2, he2, R2⟩ := ih t1 _ R1 hok.2
    exact ⟨t2, by simp [runM, he, he2, runS], R2⟩

end Tbx.HashTable

namespace Tbx.TinyTable

inductive Op where
  | insert (k : Nat) (v : Int)
  | remove (k : Nat)
  | setVal (k : Nat) (v : Int)
  | clear
deriving Repr, DecidableEq

def stepM (t : T) : Op → T × Option Bool
  | .insert k v => ((insert t k v).1, some (insert t k v).2)
  | .remove k => ((remove t k).1, some (remove t k).2)
  | .setVal k v => ((setVal t k v).1, some (setVal t k v).2)
  | .clear => (clear t, none)

def stepS (m : FinMap.M) : Op → FinMap.M × Option Bool
  | .insert k v => (FinMap.insert m k v, some (FinMap.contains m k))
  | .remove k => ((FinMap.remove m k).1, some (FinMap.remove m k).2)
  | .setVal k v => ((if FinMap.contains m k then FinMap.insert m k v else m), some (FinMap.contains m k))
  | .clear => (FinMap.clear, none)

def runM : T → List Op → T × List (Option Bool)
  | t, [] => (t, [])
  | t, op :: ops => ((runM (stepM t op).1 ops).1, (stepM t op).2 :: (runM (stepM t op).1 ops).2)

def runS : FinMap.M → List Op → FinMap.M × List (Option Bool)
  | m, [] => (m, [])
  | m, op :: ops => ((runS (stepS m op).1 ops).1, (stepS m op).2 :: (runS (stepS m op).1 ops).2)

theorem step_rel {t : T} {m : FinMap.M} (R : Rel t m) (op : Op) :
    Rel (stepM t op).1 (stepS m op).1 ∧ (stepM t op).2 = (stepS m op).2 := by
  cases op with
  | insert k v => obtain ⟨R', hr⟩ := rel_insert R k v; exact ⟨R', by simp [stepM, stepS, hr]⟩
  | remove k => obtain ⟨R', hr⟩ := rel_remove R k; exact ⟨R', by simp [stepM, stepS, hr]⟩
  | setVal k v => obtain ⟨R', hr⟩ := rel_setVal R k v; exact ⟨R', by simp [stepM, stepS, hr]⟩
  | clear => exact ⟨rel_clear t, rfl⟩

theorem run_rel (ops : List Op) : ∀ (t : T) (m : FinMap.M), Rel t m →
    Rel (runM t ops).1 (runS m ops).1 ∧ (runM t ops).2 = (runS m ops).2 := by
  induction ops with
  | nil => intro t m R; exact ⟨R, rfl⟩
  | cons op ops ih =>
    intro t m R
    obtain ⟨R1, h1⟩ := step_rel R op
    obtain ⟨R2, h2⟩ := ih _ _ R1
    exact ⟨R2, by simp only [runM, runS, h1, h2]⟩

end Tbx.TinyTable

namespace Tbx.CountMin

def insertAll {κ : Type} (hash : κ → Nat × Nat) (s : Sketch) : List κ → Sketch
  | [] => s
  | y :: ys => insertAll hash (insert s (hash y).1 (hash y).2) ys

theorem insertAll_lb {κ : Type} [DecidableEq κ] (hash : κ → Nat × Nat) (x : κ) (hist : List κ) :
    ∀ (s : Sketch) (c : Nat), Grid s.counter s.k s.m → 0 < s.m → LB s (hash x).1 (hash x).2 c →
      LB (insertAll hash s hist) (hash x).1 (hash x).2 (c + hist.count x) := by
  induction hist with
  | nil => intro s c _ _ L; exact L
  | cons y ys ih =>
    intro s c S hm L
    have S' := grid_insert s (hash y).1 (hash y).2 S
    by_cases e : y = x
    · subst e
      rw [List.count_cons_self, ← Nat.add_assoc, Nat.add_right_comm]
      exact ih _ (c + 1) S' hm (lb_insert_same s _ _ _ S hm L)
    · rw [List.count_cons_of_ne e]
      exact ih _ c S' hm (lb_insert_other s _ _ _ _ _ S hm L)

end Tbx.CountMin
