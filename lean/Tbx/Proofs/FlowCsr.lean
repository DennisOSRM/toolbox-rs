import Tbx.Proofs.FlowGraph
/-
`StaticGraph::new_from_sorted_list` (model: `csr`) on a list sorted by source:
the result is well formed, the adjacency range of `u` holds exactly the list entries with source `u`,
and therefore `rOf (csr L) u v` is the sum of the capacities of the entries u→v (`capE L u v`): both are index sums
(`sumIdx`, FlowGraph.lean).  The offsets loops are proved in `Proofs/Offsets.lean`.  Core Lean only.
-/
namespace Tbx.Flow
open Tbx Offsets

def capE (L : List Edge) (u v : Nat) : Int :=
  (L.map fun e => if e.src = u ∧ e.tgt = v then e.cap else 0).sum

theorem sumIdx_shift (f : Nat → Int) (k : Nat) : ∀ e, sumIdx f (e + 1) k = sumIdx (fun x => f (x + 1)) e k := by
  induction k with
  | zero => intro e; rfl
  | succ k ih => intro e; simp only [sumIdx]; rw [ih]

theorem list_sum_eq_sumIdx (L : List Edge) (h : Edge → Int) :
    (L.map h).sum = sumIdx (fun x => h (L.getD x default)) 0 L.length := by
  induction L with
  | nil => rfl
  | cons a L ih =>
    simp only [List.map_cons, List.sum_cons, List.length_cons, sumIdx]
    rw [sumIdx_shift, ih]
    simp

/-- the constructor's loops are the shared ones, read at `src j = (gt inp j).src` -/
theorem loops (inp : Array Edge) : Skip (fun j => (gt inp j).src) inp.size (advance inp) ∧
    Offs inp.size (advance inp) (buildNodes inp) :=
  ⟨⟨fun _ _ => rfl, fun _ _ _ => rfl⟩, ⟨fun _ _ _ => rfl, fun _ _ _ _ => rfl⟩⟩

theorem foldl_max_le_iff (L : List Edge) (m : Nat) : ∀ m0,
    L.foldl (fun m e => max e.tgt (max e.src m)) m0 ≤ m ↔ m0 ≤ m ∧ ∀ e ∈ L, e.src ≤ m ∧ e.tgt ≤ m := by
  induction L with
  | nil => intro m0; simp
  | cons a L ih =>
    intro m0
    rw [List.foldl_cons, ih, List.forall_mem_cons, Nat.max_le, Nat.max_le]
    exact ⟨fun ⟨⟨h1, h2, h3⟩, h4⟩ => ⟨h3, ⟨h2, h1⟩, h4⟩, fun ⟨h3, ⟨h2, h1⟩, h4⟩ => ⟨⟨h1, h2, h3⟩, h4⟩⟩

theorem maxId_le_iff (L : List Edge) (m : Nat) : maxId L ≤ m ↔ ∀ e ∈ L, e.src ≤ m ∧ e.tgt ≤ m :=
  (foldl_max_le_iff L m 0).trans (and_iff_right (Nat.zero_le m))

theorem le_maxId (L : List Edge) (e : Edge) (he : e ∈ L) : e.src ≤ maxId L ∧ e.tgt ≤ maxId L :=
  (maxId_le_iff L (maxId L)).mp (Nat.le_refl _) e he

theorem csr_tgt (L : List Edge) (j : Nat) : gt (csr L).tgt j = (L.getD j default).tgt :=
  (gt_map Edge.tgt rfl L.toArray j).trans (congrArg Edge.tgt (gt_toArray L j))

theorem csr_cap (L : List Edge) (j : Nat) : gt (csr L).cap j = (L.getD j default).cap :=
  (gt_map Edge.cap rfl L.toArray j).trans (congrArg Edge.cap (gt_toArray L j))

def SrcSorted (L : List Edge) : Prop := L.Pairwise fun a b => a.src ≤ b.src

theorem csr_first (L : List Edge) (hs : SrcSorted L) :
    (csr L).first.size = maxId L + 2 ∧
    (∀ j, j ≤ maxId L + 1 → gt (csr L).first j = cntBelow (fun j => (gt L.toArray j).src) L.toArray.size j) ∧
    gt (csr L).first (maxId L + 1) = L.length :=
  (loops L.toArray).2.build (loops L.toArray).1 (mono_toArray Edge.src hs) fun j hj =>
    gt_toArray L j ▸ (le_maxId L _ (getD_mem L j default hj)).1

theorem csr_numNodes (L : List Edge) (hs : SrcSorted L) : (csr L).numNodes = maxId L + 1 := by
  unfold Graph.numNodes; rw [(csr_first L hs).1]; omega

theorem csr_inRange (L : List Edge) (hs : SrcSorted L) (u e : Nat) (hu : u ≤ maxId L) :
    InRange (csr L) u e ↔ e < L.length ∧ (L.getD e default).src = u := by
  obtain ⟨_, hf, _⟩ := csr_first L hs
  unfold InRange Graph.deg Graph.beginEdges Graph.endEdges
  rw [← gt_toArray L e]
  exact mem_range_iff (mono_toArray Edge.src hs) (hf u (Nat.le_succ_of_le hu)) (hf (u + 1) (Nat.succ_le_succ hu)) e

theorem csr_wf (L : List Edge) (hs : SrcSorted L) : WF (csr L) := by
  obtain ⟨hsz, hf, hlast⟩ := csr_first L hs
  have hnn := csr_numNodes L hs
  have htsz : (csr L).tgt.size = L.length := (Array.size_map ..).trans List.size_toArray
  refine ⟨by omega, fun i hi => ?_, by rw [hnn, hlast, htsz], ?_, ?_⟩
  · rw [hf i (by omega), hf (i + 1) (by omega)]; exact cntBelow_mono _ _ (Nat.le_succ i)
  · show (L.toArray.map (·.cap)).size = (L.toArray.map (·.tgt)).size
    rw [Array.size_map, Array.size_map]
  · intro e he
    have hel : e < L.length := htsz ▸ he
    rw [csr_tgt, hnn]
    have := (le_maxId L _ (getD_mem L e default hel)).2
    omega

theorem csr_rOf (L : List Edge) (hs : SrcSorted L) (u v : Nat) : rOf (csr L) u v = capE L u v := by
  have hwf := csr_wf L hs
  unfold capE rOf
  rw [list_sum_eq_sumIdx, rowSum_eq_sumIdx]
  by_cases hu : u ≤ maxId L
  · have hun : u < (csr L).numNodes := by rw [csr_numNodes L hs]; omega
    have he : (csr L).beginEdges u + (csr L).deg u ≤ L.length := by
      rw [hwf.end_eq u hun, ← show (csr L).tgt.size = L.length from (Array.size_map ..).trans List.size_toArray]
      exact hwf.end_le u hun
    -- only the entries in the range of `u` contribute, and there the two summands agree
    rw [sumIdx_restrict _ 0 _ _ _ (Nat.zero_le _) (by omega) fun x _ hx hr => if_neg fun h =>
      hr ((csr_inRange L hs u x hu).mpr ⟨by omega, h.1⟩)]
    refine sumIdx_congr _ _ _ _ fun x h1 h2 => ?_
    obtain ⟨hxl, hxs⟩ := (csr_inRange L hs u x hu).mp ⟨h1, h2⟩
    show (if gt (csr L).tgt x = v then gt (csr L).cap x else 0) = _
    rw [csr_tgt, csr_cap, hxs]
    simp only [true_and]
  · rw [deg_zero_of_ge (by rw [csr_numNodes L hs]; omega)]
    refine (sumIdx_zero _ _ _ fun x _ hx => if_neg fun h => ?_).symm
    have := (le_maxId L _ (getD_mem L x default (by omega))).1
    omega

end Tbx.Flow
