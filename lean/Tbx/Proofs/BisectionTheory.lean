import Tbx.Proofs.FlowTheory
import Tbx.Proofs.BisectionCore
/-
C03: bridge from the Finset-level max-flow/min-cut facts (C01/C02: `Tbx.FlowTheory`) about a contracted
unit-capacity graph to the list-level `BisectionCore.MinCut`, and soundness of the judge's checker
(`Bisection.cutCertOK`, `Bisection.checkerOK`).
-/
open Finset
namespace Tbx.BisectionTheory
open Tbx Tbx.FlowSpec Tbx.FlowTheory Tbx.Bisection Tbx.BisectionCore

/-- `Bisection.contract` for any renumbering `ρ` in place of `rho S T` (`contract_eq`) -/
def contractBy (ρ : Nat → Nat) (edges : List (Nat × Nat)) : List E :=
  (edges.filter fun e => ρ e.1 != ρ e.2).map fun e => (ρ e.1, ρ e.2, 1)

theorem contract_eq (S T : List Nat) (edges : List (Nat × Nat)) :
    contract S T edges = contractBy (rho S T) edges := rfl

theorem mem_contractBy {ρ : Nat → Nat} {edges : List (Nat × Nat)} {x : E} :
    x ∈ contractBy ρ edges ↔ ∃ e, e ∈ edges ∧ ρ e.1 ≠ ρ e.2 ∧ (ρ e.1, ρ e.2, 1) = x := by
  simp only [contractBy, List.mem_map, List.mem_filter, bne_iff_ne, and_assoc]

theorem cutCapL_contractBy (ρ : Nat → Nat) (edges : List (Nat × Nat)) (inS : Nat → Bool) :
    cutCapL (contractBy ρ edges) inS = (cutE ρ edges inS : Int) := by
  unfold contractBy cutCapL cutE
  induction edges with
  | nil => rfl
  | cons e es ih =>
    rw [List.countP_cons, List.filter_cons, Int.natCast_add, ← ih]
    by_cases h : ρ e.1 = ρ e.2
    · -- a loop of the contracted graph is dropped, and leaves no side
      have hb : (ρ e.1 != ρ e.2) = false := bne_eq_false_iff_eq.mpr h
      rw [hb, h, Bool.and_not_self]
      simp
    · have hb : (ρ e.1 != ρ e.2) = true := bne_iff_ne.mpr h
      rw [hb, if_pos rfl, List.map_cons, List.map_cons, List.sum_cons, Int.add_comm]
      cases inS (ρ e.1) && !inS (ρ e.2) <;> rfl

/-- `es` is the contracted graph in the form the caller has it: `contract ..` for the judge, the solver's edge list
for the step -/
theorem mincut_of_finset (ρ : Nat → Nat) (edges : List (Nat × Nat)) (flow : ℤ) (inB : Nat → Bool) (es : List E)
    (hes : contractBy ρ edges = es)
    (hs : 0 < nNodes es) (ht : 1 < nNodes es)
    (hc : CanonCut (cF es (nNodes es)) ⟨0, hs⟩ ⟨1, ht⟩ (FlowTheory.setOf (nNodes es) inB) flow) :
    MinCut edges ρ flow (fun p => decide (p < nNodes es) && inB p) := by
  generalize hn : nNodes es = n at *
  have hids : ∀ e ∈ es, e.1 < n ∧ e.2.1 < n := fun e he => by
    have := le_maxId es e he
    unfold nNodes at hn; omega
  have hcut : ∀ inS : Nat → Bool, cutCap (cF es n) (FlowTheory.setOf n inS) = (cutE ρ edges inS : Int) := by
    intro inS
    rw [← cutCapL_eq es n hids inS, ← hes, cutCapL_contractBy]
  have hset : FlowTheory.setOf n (fun p => decide (p < n) && inB p) = FlowTheory.setOf n inB := by
    ext v; simp [mem_setOf, v.isLt]
  refine ⟨?_, ?_, ?_, ?_, ?_⟩
  · have := (mem_setOf n inB _).mp hc.src
    simp only [Bool.and_eq_true, decide_eq_true_eq]; exact ⟨hs, this⟩
  · have : inB 1 = false := Bool.eq_false_iff.mpr fun hb => hc.tgt ((mem_setOf n inB ⟨1, ht⟩).mpr hb)
    simp [this]
  · rw [← hcut, hset, hc.val]
  · intro inS a b
    have := hc.min (FlowTheory.setOf n inS) ((mem_setOf n inS _).mpr a) (by rw [mem_setOf]; simp [b])
    rw [hc.val, hcut] at this; exact this
  · intro inS a b heq p hp
    simp only [Bool.and_eq_true, decide_eq_true_eq] at hp
    have hsub := hc.canon (FlowTheory.setOf n inS) ((mem_setOf n inS _).mpr a) (by rw [mem_setOf]; simp [b])
      (by rw [hcut]; exact heq)
    have : (⟨p, hp.1⟩ : Fin n) ∈ FlowTheory.setOf n inB := (mem_setOf n inB _).mpr hp.2
    exact (mem_setOf n inS _).mp (hsub this)

theorem treeOK_reach (res : List E) (n : Nat) (s : Nat) (hs : s < n) (hnn : nonnegAll res = true) :
    ∀ (tree : List (Nat × Nat)) (seen : List Nat),
      (∀ u ∈ seen, ∃ h : u < n, Reach (cF res n) ⟨s, hs⟩ ⟨u, h⟩) → treeOK res n seen tree = true →
      ∀ v ∈ seen ++ tree.map (·.2), ∃ h : v < n, Reach (cF res n) ⟨s, hs⟩ ⟨v, h⟩ := by
  intro tree
  induction tree with
  | nil => intro seen hseen _ v hv; simp at hv; exact hseen v hv
  | cons pv rest ih =>
    intro seen hseen hok v hv
    obtain ⟨p, w⟩ := pv
    simp only [treeOK, Bool.and_eq_true, decide_eq_true_eq, List.contains_iff_mem, List.any_eq_true,
      beq_iff_eq] at hok
    obtain ⟨⟨⟨hp, hw⟩, ⟨e, he, ⟨he1, he2⟩, hpos⟩⟩, hrest⟩ := hok
    obtain ⟨hpn, hpr⟩ := hseen p hp
    have hwr : Reach (cF res n) ⟨s, hs⟩ ⟨w, hw⟩ := by
      refine Reach.step hpr ?_
      have := capOf_pos res hnn e he hpos
      rw [he1, he2] at this
      exact this
    have hseen' : ∀ u ∈ w :: seen, ∃ h : u < n, Reach (cF res n) ⟨s, hs⟩ ⟨u, h⟩ := by
      intro u hu
      rcases List.mem_cons.mp hu with rfl | hu
      · exact ⟨hw, hwr⟩
      · exact hseen u hu
    apply ih (w :: seen) hseen' hrest v
    simp only [List.map_cons, List.mem_append, List.mem_cons, List.mem_map] at hv ⊢
    rcases hv with hv | hv | hv
    · exact Or.inl (Or.inr hv)
    · exact Or.inl (Or.inl hv)
    · exact Or.inr hv

theorem cutCertOK_sound (es : List E) (s t : Nat) (res : List E) (x : ℤ) (inA : Nat → Bool)
    (tree : List (Nat × Nat)) (h : cutCertOK es s t res x inA tree = true) :
    ∃ (hs : s < nNodes es) (ht : t < nNodes es),
      IsMaxFlowValue (cF es (nNodes es)) ⟨s, hs⟩ ⟨t, ht⟩ x ∧
      CanonCut (cF es (nNodes es)) ⟨s, hs⟩ ⟨t, ht⟩ (FlowTheory.setOf (nNodes es) inA) x := by
  simp only [cutCertOK, cutCertCore, Bool.and_eq_true, decide_eq_true_eq, Bool.not_eq_eq_eq_not,
    Bool.not_true] at h
  obtain ⟨⟨⟨⟨⟨⟨⟨⟨⟨⟨⟨hs, ht⟩, _hne⟩, hnn⟩, hp⟩, hcons⟩, hval⟩, hAs⟩, hAt⟩, hcl⟩, htree⟩, hcov⟩ := h
  refine ⟨hs, ht, ?_⟩
  obtain ⟨hinv, hc, hv⟩ := cert_parts es res s t (nNodes es) hs ht hnn hp hcons
  have hsA : (⟨s, hs⟩ : Fin (nNodes es)) ∈ FlowTheory.setOf (nNodes es) inA := (mem_setOf _ _ _).mpr hAs
  have htA : (⟨t, ht⟩ : Fin (nNodes es)) ∉ FlowTheory.setOf (nNodes es) inA := by
    rw [mem_setOf]; simp [hAt]
  have hclosed := closedUnder_closed (nNodes es) res inA (FlowTheory.setOf (nNodes es) inA)
    (fun v => mem_setOf _ _ v) hcl
  have hx : value (resFlow (cF es (nNodes es)) (cF res (nNodes es))) ⟨s, hs⟩ = x := by rw [hval, ← hv]
  refine hx ▸ canon_cut hinv hc _ hsA htA hclosed fun v hv' => ?_
  have hmem := (allTo_iff _ _).mp hcov v.val v.isLt
  simp only [(mem_setOf _ _ v).mp hv', Bool.not_true, Bool.false_or, List.contains_iff_mem] at hmem
  exact (treeOK_reach res (nNodes es) s hs hnn tree [s]
    (by intro u hu; simp at hu; subst hu; exact ⟨hs, Reach.refl⟩) htree v.val (by simpa using hmem)).2

theorem cutCertCore_congr (n : Nat) (c c' r r' : Nat → Nat → ℤ) (s t : Nat) (res : List E) (x : ℤ)
    (inA : Nat → Bool) (tree : List (Nat × Nat))
    (hc : ∀ u v, u < n → v < n → c u v = c' u v) (hr : ∀ u v, u < n → v < n → r u v = r' u v) :
    cutCertCore n c r s t res x inA tree = cutCertCore n c' r' s t res x inA tree := by
  by_cases hs : s < n
  · obtain ⟨h1, h2, h3⟩ := flowChecks_congr n c c' r r' s t hs hc hr
    simp only [cutCertCore, h1, h2, h3]
  · simp only [cutCertCore, decide_eq_false hs, Bool.false_and]

theorem cutCertFast_eq (es : List E) (s t : Nat) (res : List E) (x : ℤ) (inA : Nat → Bool)
    (tree : List (Nat × Nat)) : cutCertFast es s t res x inA tree = cutCertOK es s t res x inA tree := by
  unfold cutCertFast cutCertOK
  exact cutCertCore_congr _ _ _ _ _ s t res x inA tree (fun u v hu hv => look_matOf _ es u v hu hv)
    (fun u v hu hv => look_matOf _ res u v hu hv)

theorem take_drop_disjoint (l : List Nat) (k : Nat) (hnd : l.Nodup) (hk : 2 * k ≤ l.length) :
    ∀ x, x ∈ firstK l k → x ∉ lastK l k :=
  fun _ hx hy => List.disjoint_take_drop hnd (by omega) hx hy

theorem firstK_sub (l : List Nat) (k : Nat) : ∀ x, x ∈ firstK l k → x ∈ l :=
  fun _ h => List.mem_of_mem_take h
theorem lastK_sub (l : List Nat) (k : Nat) : ∀ x, x ∈ lastK l k → x ∈ l :=
  fun _ h => List.mem_of_mem_drop h

theorem firstK_ne_nil (l : List Nat) (k : Nat) (hk : 1 ≤ k) (hl : 1 ≤ l.length) : firstK l k ≠ [] := by
  unfold firstK
  intro h
  have := congrArg List.length h
  rw [List.length_take] at this
  simp only [List.length_nil] at this
  omega

theorem preOK_iff {edges : List (Nat × Nat)} {sorted : List Nat} {k : Nat} :
    preOK edges sorted k = true ↔
      sorted.Nodup ∧ 2 ≤ sorted.length ∧ 1 ≤ k ∧ 2 * k ≤ sorted.length ∧ ∀ e, e ∈ edges → e.1 ∈ sorted := by
  simp only [preOK, Bool.and_eq_true, decide_eq_true_eq, List.all_eq_true, List.contains_iff_mem, and_assoc]

theorem rho_cases (S T : List Nat) (x : Nat) :
    (x ∈ S ∧ rho S T x = 0) ∨ (x ∉ S ∧ x ∈ T ∧ rho S T x = 1) ∨ (x ∉ S ∧ x ∉ T ∧ rho S T x = x + 2) := by
  unfold rho
  simp only [List.contains_iff_mem]
  by_cases hs : x ∈ S
  · exact Or.inl ⟨hs, if_pos hs⟩
  · rw [if_neg hs]
    by_cases ht : x ∈ T
    · exact Or.inr (Or.inl ⟨hs, ht, if_pos ht⟩)
    · exact Or.inr (Or.inr ⟨hs, ht, if_neg ht⟩)

theorem rho_of_two_le {S T : List Nat} {x : Nat} (h : 2 ≤ rho S T x) : rho S T x = x + 2 := by
  rcases rho_cases S T x with ⟨_, e⟩ | ⟨_, _, e⟩ | ⟨_, _, e⟩ <;> omega

theorem contr_rho (edges : List (Nat × Nat)) (sorted : List Nat) (k : Nat) (hpre : preOK edges sorted k = true) :
    Contr edges sorted (firstK sorted k) (lastK sorted k) (rho (firstK sorted k) (lastK sorted k))
      (fun x => (firstK sorted k).contains x || (lastK sorted k).contains x || touched edges x) := by
  obtain ⟨hnd, _, _, hk2, hsrc⟩ := preOK_iff.mp hpre
  have hdisj := take_drop_disjoint sorted k hnd hk2
  refine ⟨?_, ?_, ?_, ?_, hsrc, firstK_sub sorted k, lastK_sub sorted k⟩
  · intro x _
    rcases rho_cases (firstK sorted k) (lastK sorted k) x with ⟨a, e⟩ | ⟨a, _, e⟩ | ⟨a, _, e⟩ <;> simp [e, a]
  · intro x _
    rcases rho_cases (firstK sorted k) (lastK sorted k) x with ⟨a, e⟩ | ⟨_, b, e⟩ | ⟨_, b, e⟩
    · simp [e, hdisj x a]
    · simp [e, b]
    · simp [e, b]
  · intro x y _ _ h2 heq
    have ex := rho_of_two_le h2
    have ey := rho_of_two_le (heq ▸ h2)
    omega
  · intro x
    simp only [Bool.or_eq_true, List.contains_iff_mem, or_assoc]

theorem sideOf_rho (edges : List (Nat × Nat)) (sorted : List Nat) (k : Nat) (left : List Nat) {x : Nat}
    (hx : x ∈ sorted) (hL : ∀ x, x ∈ firstK sorted k → x ∈ left) (hR : ∀ x, x ∈ lastK sorted k → x ∉ left) :
    sideOf edges sorted k left (rho (firstK sorted k) (lastK sorted k) x) = left.contains x := by
  rcases rho_cases (firstK sorted k) (lastK sorted k) x with ⟨a, e⟩ | ⟨_, b, e⟩ | ⟨a, b, e⟩
  · rw [e, List.contains_iff_mem.mpr (hL x a)]; rfl
  · rw [e, Bool.eq_false_iff.mpr (mt List.contains_iff_mem.mp (hR x b))]; rfl
  · rw [e]
    simp [sideOf, a, b, hx]

theorem cutE_zero_of_empty (ρ : Nat → Nat) (edges : List (Nat × Nat)) (h : contractBy ρ edges = [])
    (inS : Nat → Bool) : cutE ρ edges inS = 0 := by
  have := cutCapL_contractBy ρ edges inS
  rw [h] at this
  simp [cutCapL] at this
  omega

/-- no edge between two different contracted nodes: the side {0} is the canonical minimum cut -/
theorem mincut_of_empty (ρ : Nat → Nat) (edges : List (Nat × Nat)) (inA : Nat → Bool)
    (he : contractBy ρ edges = []) (h0 : inA 0 = true) (hA : ∀ p, inA p = true → p = 0) :
    MinCut edges ρ 0 inA := by
  refine ⟨h0, ?_, ?_, ?_, ?_⟩
  · cases h : inA 1 with
    | false => rfl
    | true => have := hA 1 h; omega
  · rw [cutE_zero_of_empty ρ edges he]; rfl
  · intro inS _ _; rw [cutE_zero_of_empty ρ edges he]; exact Int.le_refl _
  · intro inS a _ _ p hp
    rw [hA p hp]; exact a

theorem checker_sound (edges : List (Nat × Nat)) (sorted : List Nat) (k : Nat) (flow : ℤ)
    (left right : List Nat) (res : List E) (tree : List (Nat × Nat))
    (h : checkerOK edges sorted k flow left right res tree = true) :
    Valid edges sorted k flow left right := by
  unfold checkerOK at h
  simp only [Bool.and_eq_true] at h
  obtain ⟨⟨⟨hpre, hst⟩, hlt⟩, hcert⟩ := h
  have hc := contr_rho edges sorted k hpre
  simp only [structOK, Bool.and_eq_true, List.all_eq_true, decide_eq_true_eq] at hst
  obtain ⟨⟨⟨⟨⟨⟨⟨hdis, hlc⟩, hrc⟩, hdom⟩, hcov⟩, hendL⟩, hendR⟩, _hflow⟩ := hst
  simp only [List.contains_iff_mem] at hlc hrc hendL hendR
  simp only [List.all_eq_true, decide_eq_true_eq] at hlt
  let S := firstK sorted k
  let T := lastK sorted k
  let ρ := rho S T
  let n := nNodes (contract S T edges)
  let inA : Nat → Bool := fun p => decide (p < n) && sideOf edges sorted k left p
  have hdis' : ∀ x, x ∈ left → x ∉ right := fun x hx hr => by
    have := hdis x hx
    rw [List.contains_iff_mem.mpr hr] at this; cases this
  have hside : ∀ x, x ∈ sorted → (inA (ρ x) = true ↔ x ∈ left) := by
    intro x hx
    show (decide (ρ x < n) && sideOf edges sorted k left (ρ x)) = true ↔ _
    rw [sideOf_rho edges sorted k left hx hendL (fun y hy hl => hdis' y hl (hendR y hy)), Bool.and_eq_true,
      decide_eq_true_eq, List.contains_iff_mem]
    exact ⟨fun h => h.2, fun h => ⟨hlt x h, h⟩⟩
  refine valid_of_mincut hc (inA := inA) ?_ left right
    (fun x => ⟨fun hx => ⟨hlc x hx, hdom x (List.mem_append_left _ hx), (hside x (hlc x hx)).mpr hx⟩,
      fun ⟨a, _, b⟩ => (hside x a).mp b⟩)
    (fun x => ⟨fun hx => ⟨hrc x hx, hdom x (List.mem_append_right _ hx),
        Bool.eq_false_iff.mpr fun h => hdis' x ((hside x (hrc x hx)).mp h) hx⟩, fun ⟨a, b, c⟩ => ?_⟩)
  · by_cases hempty : (contract S T edges).isEmpty = true
    · rw [if_pos hempty] at hcert
      have he : contract S T edges = [] := List.isEmpty_iff.mp hempty
      have hn : n = 1 := by show nNodes (contract S T edges) = 1; rw [he]; rfl
      rw [of_decide_eq_true hcert]
      apply mincut_of_empty ρ edges inA ((contract_eq S T edges).symm.trans he)
      · show (decide (0 < n) && sideOf edges sorted k left 0) = true
        rw [hn]; rfl
      · intro p hp
        simp only [inA, hn, Bool.and_eq_true, decide_eq_true_eq] at hp
        omega
    · rw [if_neg hempty] at hcert
      obtain ⟨hs, ht, _, hcut⟩ :=
        cutCertOK_sound (contract S T edges) 0 1 res flow (sideOf edges sorted k left) tree hcert
      exact mincut_of_finset ρ edges flow (sideOf edges sorted k left) _ (contract_eq S T edges).symm hs ht hcut
  · have := hcov x a
    rw [b, Bool.not_true, Bool.false_or, Bool.or_eq_true, List.contains_iff_mem,
      List.contains_iff_mem] at this
    rcases this with h | h
    · rw [(hside x a).mpr h] at c; cases c
    · exact h

theorem checkerFast_eq (edges : List (Nat × Nat)) (sorted : List Nat) (k : Nat) (flow : ℤ)
    (left right : List Nat) (res : List E) (tree : List (Nat × Nat)) :
    checkerFast edges sorted k flow left right res tree = checkerOK edges sorted k flow left right res tree := by
  unfold checkerFast checkerOK
  simp only [cutCertFast_eq]

end Tbx.BisectionTheory
