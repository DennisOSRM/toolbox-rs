import Tbx.Model.GraphFiles
/-
Facts about the text -> token glue for the CANONICAL spelling of numbers (`Nat.toDigits 10`, a leading
'-' for negative numbers) and single-blank separated tokens.  Other spellings the generator uses (leading
'+', leading zeros, tabs, runs of blanks, trailing blanks) are covered by the correspondence run only.
-/
namespace Tbx.GraphFiles

def digitStep (acc : Option Nat) (c : Char) : Option Nat :=
  match acc, digitVal c with
  | some a, some d => some (10 * a + d)
  | _, _ => none

theorem foldl_digitStep (cs : List Char) (a : Nat) (h : ∀ c ∈ cs, c.isDigit = true) :
    cs.foldl digitStep (some a) = some (Nat.ofDigitChars 10 cs a) := by
  induction cs generalizing a with
  | nil => simp
  | cons c cs ih =>
    have hc := h c List.mem_cons_self
    simp only [List.foldl_cons, Nat.ofDigitChars_cons]
    have : digitStep (some a) c = some (10 * a + (c.toNat - '0'.toNat)) := by
      simp [digitStep, digitVal, hc]
    rw [this]
    exact ih _ (fun d hd => h d (List.mem_cons_of_mem _ hd))

theorem digitsVal_toDigits (n : Nat) : digitsVal (Nat.toDigits 10 n) = some n := by
  have hne : Nat.toDigits 10 n ≠ [] := Nat.toDigits_ne_nil
  match hcs : Nat.toDigits 10 n with
  | [] => exact absurd hcs hne
  | c :: cs =>
    show (c :: cs).foldl digitStep (some 0) = some n
    rw [foldl_digitStep]
    · rw [← hcs, Nat.ofDigitChars_ten_toDigits]
    · intro d hd
      exact Nat.isDigit_of_mem_toDigits (by decide) (by decide) (hcs ▸ hd)

theorem head_toDigits_isDigit (n : Nat) :
    ∃ c cs, Nat.toDigits 10 n = c :: cs ∧ c.isDigit = true := by
  match hcs : Nat.toDigits 10 n with
  | [] => exact absurd hcs Nat.toDigits_ne_nil
  | c :: cs =>
    exact ⟨c, cs, rfl, Nat.isDigit_of_mem_toDigits (by decide) (by decide) (hcs ▸ List.mem_cons_self)⟩

theorem stripPlus_cons_ne (c : Char) (cs : List Char) (h : c ≠ '+') : stripPlus (c :: cs) = c :: cs := by
  unfold stripPlus
  split
  · rename_i r heq
    injection heq with h1 _
    exact absurd h1 h
  · rfl

/-- `usize::from_str` on the canonical decimal spelling -/
theorem parseUsize_toDigits (n : Nat) (h : n < 18446744073709551616) :
    parseUsize (Nat.toDigits 10 n) = some n := by
  obtain ⟨c, cs, hcs, hd⟩ := head_toDigits_isDigit n
  have hne : c ≠ '+' := by
    intro he; subst he; simp [Char.isDigit] at hd
  have hv := digitsVal_toDigits n
  rw [hcs] at hv ⊢
  simp [parseUsize, stripPlus_cons_ne c cs hne, hv, h]

def intChars (i : Int) : List Char :=
  if i < 0 then '-' :: Nat.toDigits 10 (-i).toNat else Nat.toDigits 10 i.toNat

/-- `i32::from_str` on the canonical decimal spelling -/
theorem parseI32_intChars (i : Int) (h : Bincode.I32 i) : parseI32 (intChars i) = some i := by
  unfold Bincode.I32 at h
  unfold intChars
  split
  · rename_i hneg
    have hv := digitsVal_toDigits (-i).toNat
    have hle : (-i).toNat ≤ 2147483648 := by omega
    simp only [parseI32, hv, hle, if_true, Int.ofNat_eq_natCast]
    congr 1; omega
  · rename_i hpos
    obtain ⟨c, cs, hcs, hd⟩ := head_toDigits_isDigit i.toNat
    have hne1 : c ≠ '-' := by
      intro he; subst he; simp [Char.isDigit] at hd
    have hne2 : c ≠ '+' := by
      intro he; subst he; simp [Char.isDigit] at hd
    have hv := digitsVal_toDigits i.toNat
    rw [hcs] at hv ⊢
    have hle : i.toNat ≤ 2147483647 := by omega
    unfold parseI32
    split
    · rename_i r heq
      injection heq with h1 _
      exact absurd h1 hne1
    · simp only [stripPlus_cons_ne c cs hne2, hv, hle, if_true, Int.ofNat_eq_natCast]
      congr 1; omega

def IsToken (t : List Char) : Prop := t ≠ [] ∧ ∀ c ∈ t, isWs c = false

theorem splitAux_token (p : Char → Bool) (t rest cur : List Char) (h : ∀ c ∈ t, p c = false) :
    splitAux p (t ++ rest) cur = splitAux p rest (t.reverse ++ cur) := by
  induction t generalizing cur with
  | nil => simp
  | cons c t ih =>
    have hc := h c List.mem_cons_self
    simp only [List.cons_append, splitAux, hc, Bool.false_eq_true, if_false]
    rw [ih _ (fun d hd => h d (List.mem_cons_of_mem _ hd))]
    simp

def joinBlank : List (List Char) → List Char
  | [] => []
  | [t] => t
  | t :: t' :: ts => t ++ ' ' :: joinBlank (t' :: ts)

theorem splitWs_joinBlank (ts : List (List Char)) (h : ∀ t ∈ ts, IsToken t) :
    splitWs (joinBlank ts) = ts := by
  unfold splitWs
  induction ts with
  | nil => simp [joinBlank, splitAux]
  | cons t ts ih =>
    obtain ⟨hne, hws⟩ := h t List.mem_cons_self
    have ih' := ih (fun u hu => h u (List.mem_cons_of_mem _ hu))
    cases ts with
    | nil =>
      have := splitAux_token isWs t [] [] hws
      simp only [List.append_nil] at this
      simp only [joinBlank, this, splitAux]
      simp [hne]
    | cons t' ts =>
      simp only [joinBlank]
      rw [splitAux_token isWs t _ [] hws]
      have hb : isWs ' ' = true := by decide
      simp only [List.append_nil, splitAux, hb, if_true]
      simp [hne, ih']

theorem isToken_toDigits (n : Nat) : IsToken (Nat.toDigits 10 n) := by
  refine ⟨Nat.toDigits_ne_nil, ?_⟩
  intro c hc
  have hd := Nat.isDigit_of_mem_toDigits (b := 10) (by decide) (by decide) hc
  by_cases hw : isWs c = true
  · exfalso
    unfold isWs isAsciiWs at hw
    simp only [Bool.or_eq_true, beq_iff_eq] at hw
    rcases hw with ((((hw | hw) | hw) | hw) | hw) | hw <;> (subst hw; simp [Char.isDigit] at hd)
  · simpa using hw

end Tbx.GraphFiles
