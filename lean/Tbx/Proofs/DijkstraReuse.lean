import Tbx.Proofs.DijkstraExact
import Tbx.Proofs.DijkstraHeapInst
/-
The searches on the real heap: the queue laws are discharged by `heapLaws`, so `uniRun_post`,
`o2mRun_post` say what holds of whatever `run` returns.  In particular `run` leaves a `WFq` object
(`Core.wf` is part of the postcondition), so any sequence of queries on one object yields, query by
query, what fresh objects yield.
-/
namespace Tbx.Dijkstra
open Tbx Tbx.AHeap

theorem uniRun_post {adj : Adj} {n : Nat} {st st' : Uni} {s t : Nat} {r : Int} (hw : WFq st.queue)
    (h : uniRun adj n st s t = .ok (st', r)) : UniPost AHeap.Inv adj s t st' r :=
  (uniRun_spec heapLaws adj n st s t hw).1.2 _ h

theorem o2mRun_post {adj : Adj} {n : Nat} {st st' : O2M} {s : Nat} {ts : List Nat} {ok : Bool} (hw : WFq st.queue)
    (h : o2mRun adj n st s ts = .ok (st', ok)) : O2MPost AHeap.Inv adj s ts st' :=
  ((o2mRun_spec heapLaws adj n st s ts hw).1.2 _ h).1

theorem uniRun_wf (adj : Adj) (n : Nat) (st st' : Uni) (s t : Nat) (r : Int)
    (h : uniRun adj n st s t = .ok (st', r)) (hw : WFq st.queue) : WFq st'.queue :=
  (uniRun_post hw h).ready.wf

theorem o2mRun_wf (adj : Adj) (n : Nat) (st st' : O2M) (source : Nat) (targets : List Nat) (ok : Bool)
    (h : o2mRun adj n st source targets = .ok (st', ok)) (hw : WFq st.queue) : WFq st'.queue :=
  (o2mRun_post hw h).linv.wf

/-- results of consecutive `run(s,t)` calls on ONE object (stops at the first call that does not return) -/
def uniSeq (adj : Adj) (n : Nat) : Uni → List (Nat × Nat) → List (Option (Uni × Int))
  | _, [] => []
  | st, q :: qs =>
    match uniRun adj n st q.1 q.2 with
    | .ok (st', d) => some (st', d) :: uniSeq adj n st' qs
    | _ => [none]

def uniSeqFresh (adj : Adj) (n : Nat) : List (Nat × Nat) → List (Option (Uni × Int))
  | [] => []
  | q :: qs =>
    match uniRun adj n Uni.new q.1 q.2 with
    | .ok (st', d) => some (st', d) :: uniSeqFresh adj n qs
    | _ => [none]

theorem uniSeq_eq_fresh (adj : Adj) (n : Nat) (st : Uni) (hw : WFq st.queue) (qs : List (Nat × Nat)) :
    uniSeq adj n st qs = uniSeqFresh adj n qs := by
  induction qs generalizing st with
  | nil => rfl
  | cons q qs ih =>
    unfold uniSeq uniSeqFresh
    rw [uniRun_reuse adj n st q.1 q.2 hw]
    cases hr : uniRun adj n Uni.new q.1 q.2 with
    | ok a =>
      obtain ⟨st', d⟩ := a
      simp only
      rw [ih st' (uniRun_wf adj n Uni.new st' q.1 q.2 d hr WFq_new_uni)]
    | panic => rfl
    | fuel => rfl

def o2mSeq (adj : Adj) (n : Nat) : O2M → List (Nat × List Nat) → List (Option (O2M × Bool))
  | _, [] => []
  | st, q :: qs =>
    match o2mRun adj n st q.1 q.2 with
    | .ok (st', b) => some (st', b) :: o2mSeq adj n st' qs
    | _ => [none]

def o2mSeqFresh (adj : Adj) (n : Nat) : List (Nat × List Nat) → List (Option (O2M × Bool))
  | [] => []
  | q :: qs =>
    match o2mRun adj n O2M.new q.1 q.2 with
    | .ok (st', b) => some (st', b) :: o2mSeqFresh adj n qs
    | _ => [none]

theorem o2mSeq_eq_fresh (adj : Adj) (n : Nat) (st : O2M) (hw : WFq st.queue) (qs : List (Nat × List Nat)) :
    o2mSeq adj n st qs = o2mSeqFresh adj n qs := by
  induction qs generalizing st with
  | nil => rfl
  | cons q qs ih =>
    unfold o2mSeq o2mSeqFresh
    rw [o2mRun_reuse adj n st q.1 q.2 hw]
    cases hr : o2mRun adj n O2M.new q.1 q.2 with
    | ok a =>
      obtain ⟨st', d⟩ := a
      simp only
      rw [ih st' (o2mRun_wf adj n O2M.new st' q.1 q.2 d hr WFq_new_o2m)]
    | panic => rfl
    | fuel => rfl

end Tbx.Dijkstra
