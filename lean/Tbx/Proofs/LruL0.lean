import Tbx.Spec.Lru
/-
The abstract recency list (L0): the invariant `Inv` (distinct keys, length ≤ capacity) is kept by every
operation, and under it `push` has a closed form (`push_items`: new entry in front, old entry of the key
removed, cut to the capacity).
-/
namespace Tbx.LruL0
open Tbx.LruSpec

set_option linter.unusedSectionVars false
variable {K V : Type} [DecidableEq K]

theorem contains_iff (s : Cache K V) (k : K) : contains s k = true ↔ k ∈ keys s := by
  simp [contains, keys]

theorem contains_false_iff (s : Cache K V) (k : K) : contains s k = false ↔ k ∉ keys s := by
  rw [← contains_iff]; cases contains s k <;> simp

theorem keys_remove (l : List (K × V)) (k : K) :
    (remove l k).map (·.1) = (l.map (·.1)).filter (fun k' => !(k' == k)) := by
  simp [remove, List.filter_map, Function.comp_def]

theorem not_mem_keys_remove (l : List (K × V)) (k : K) : k ∉ (remove l k).map (·.1) := by
  rw [keys_remove]; simp

theorem nodup_keys_remove (l : List (K × V)) (k : K) (h : (l.map (·.1)).Nodup) :
    ((remove l k).map (·.1)).Nodup := by
  rw [keys_remove]; exact h.filter _

theorem find_remove_of_split (m1 m2 : List (K × V)) (k : K) (v0 : V)
    (hn : ((m1 ++ (k, v0) :: m2).map (·.1)).Nodup) :
    (m1 ++ (k, v0) :: m2).find? (fun p => p.1 == k) = some (k, v0) ∧
    remove (m1 ++ (k, v0) :: m2) k = m1 ++ m2 := by
  simp only [List.map_append, List.map_cons] at hn
  obtain ⟨_, h2, hd⟩ := List.nodup_append.1 hn
  have hk1 : ∀ p ∈ m1, ¬ p.1 = k := fun p hp e => hd p.1 (List.mem_map_of_mem hp) k (by simp) e
  have hk2 : ∀ p ∈ m2, ¬ p.1 = k := fun p hp e => (List.nodup_cons.1 h2).1 (e ▸ List.mem_map_of_mem hp)
  constructor
  · rw [List.find?_append]
    have : m1.find? (fun p => p.1 == k) = none := by
      rw [List.find?_eq_none]; intro p hp; simpa using hk1 p hp
    simp [this]
  · simp only [remove, List.filter_append, List.filter_cons, beq_self_eq_true, Bool.not_true,
      Bool.false_eq_true, if_false]
    congr 1
    · rw [List.filter_eq_self]; intro p hp; simpa using hk1 p hp
    · rw [List.filter_eq_self]; intro p hp; simpa using hk2 p hp

theorem length_remove (l : List (K × V)) (k : K) (h : (l.map (·.1)).Nodup) (hk : k ∈ l.map (·.1)) :
    (remove l k).length + 1 = l.length := by
  obtain ⟨⟨k', v⟩, hp, rfl⟩ := List.mem_map.1 hk
  obtain ⟨l1, l2, rfl⟩ := List.append_of_mem hp
  rw [(find_remove_of_split l1 l2 k' v h).2]
  simp only [List.length_append, List.length_cons]; omega

theorem push_hit (s : Cache K V) (k : K) (v : V) (hc : contains s k = true) :
    push s k v = (setFront (get s k).1 v).1 := by
  cases hf : s.items.find? (fun p => p.1 == k) with
  | none =>
    rw [contains, List.any_eq_true] at hc
    obtain ⟨p, hp, hpk⟩ := hc
    exact absurd hpk (List.find?_eq_none.1 hf p hp)
  | some p =>
    have hp : p.1 = k := by simpa using List.find?_some hf
    simp only [push, hc, if_true, get, hf, setFront, hp]

theorem get_miss (s : Cache K V) (k : K) (hc : contains s k = false) : get s k = (s, none) := by
  unfold get; split
  · next p hf =>
    rw [contains, List.any_eq_false] at hc
    exact absurd (List.find?_some hf) (hc p (List.mem_of_find?_eq_some hf))
  · rfl

theorem getFront_push (s : Cache K V) (k : K) (v : V) : getFront (push s k v) = some (k, v) := by
  unfold push getFront; split
  · rfl
  · split <;> rfl

structure Inv (s : Cache K V) : Prop where
  nodup : (keys s).Nodup
  le_cap : s.items.length ≤ s.cap

theorem inv_init (cap : Nat) : Inv (init cap : Cache K V) := ⟨by simp [init, keys], by simp [init]⟩

theorem cap_push (s : Cache K V) (k : K) (v : V) : (push s k v).cap = s.cap := by
  unfold push; split <;> first | rfl | (split <;> rfl)

theorem cap_get (s : Cache K V) (k : K) : (get s k).1.cap = s.cap := by
  unfold get; split <;> rfl

theorem cap_setFront (s : Cache K V) (v : V) : (setFront s v).1.cap = s.cap := by
  unfold setFront; split <;> rfl

theorem cap_step (s : Cache K V) (op : Op K V) : (step s op).1.cap = s.cap := by
  cases op <;> simp [step, cap_push, cap_get, cap_setFront, clear]

theorem inv_front (s : Cache K V) (k : K) (v : V) (hk : k ∈ keys s) (h : Inv s) :
    Inv { s with items := (k, v) :: remove s.items k } := by
  refine ⟨List.nodup_cons.2 ⟨not_mem_keys_remove _ _, nodup_keys_remove _ _ h.nodup⟩, ?_⟩
  have := length_remove s.items k h.nodup hk
  have := h.le_cap
  simp only [List.length_cons]; omega

/-- the cut drops an entry only when the key is new and the cache is full: the `pop_back` of `push` -/
theorem push_items (s : Cache K V) (k : K) (v : V) (hc : 1 ≤ s.cap) (h : Inv s) :
    (push s k v).items = ((k, v) :: remove s.items k).take s.cap := by
  have hl := h.le_cap
  unfold push
  split
  · next hk =>
    have := length_remove s.items k h.nodup ((contains_iff s k).1 hk)
    exact (List.take_of_length_le (by simp only [List.length_cons]; omega)).symm
  · next hk =>
    have hr : remove s.items k = s.items := List.filter_eq_self.2 fun p hp => by
      simpa using fun e => (contains_false_iff s k).1 (by simpa using hk) (List.mem_map.2 ⟨p, hp, e⟩)
    obtain ⟨c, hcap⟩ : ∃ c, s.cap = c + 1 := ⟨s.cap - 1, by omega⟩
    rw [hr, hcap, List.take_succ_cons]
    split
    · next hfull => rw [List.dropLast_eq_take, hfull]; rfl
    · next hfull => rw [List.take_of_length_le (by omega)]

theorem inv_push (s : Cache K V) (k : K) (v : V) (hc : 1 ≤ s.cap) (h : Inv s) : Inv (push s k v) := by
  constructor
  · rw [keys, push_items s k v hc h, List.map_take]
    exact (List.nodup_cons.2 ⟨not_mem_keys_remove _ _, nodup_keys_remove _ _ h.nodup⟩).sublist (List.take_sublist _ _)
  · rw [push_items s k v hc h, cap_push]; exact List.length_take_le _ _

theorem keys_push (s : Cache K V) (k : K) (v : V) (hc : 1 ≤ s.cap) (h : Inv s) :
    ∃ rest, keys (push s k v) = k :: rest ∧ rest.Sublist ((keys s).filter (fun k' => !(k' == k))) := by
  obtain ⟨c, hcap⟩ : ∃ c, s.cap = c + 1 := ⟨s.cap - 1, by omega⟩
  refine ⟨((keys s).filter _).take c, ?_, List.take_sublist _ _⟩
  rw [keys, push_items s k v hc h, hcap, List.take_succ_cons, List.map_cons, List.map_take, keys_remove]
  rfl

theorem inv_get (s : Cache K V) (k : K) (h : Inv s) : Inv (get s k).1 := by
  unfold get
  split
  · rename_i p hf
    obtain ⟨k', v⟩ := p
    obtain rfl : k' = k := by simpa using List.find?_some hf
    exact inv_front s k' v (List.mem_map_of_mem (List.mem_of_find?_eq_some hf)) h
  · exact h

theorem inv_setFront (s : Cache K V) (v : V) (h : Inv s) : Inv (setFront s v).1 := by
  obtain ⟨hn, hl⟩ := h
  unfold setFront
  split
  · exact ⟨hn, hl⟩
  · rename_i k old rest e
    constructor
    · simp only [keys, e, List.map_cons] at hn ⊢; exact hn
    · simp only [e, List.length_cons] at hl ⊢; exact hl

theorem inv_step (s : Cache K V) (op : Op K V) (hc : 1 ≤ s.cap) (h : Inv s) : Inv (step s op).1 := by
  cases op with
  | push k v => exact inv_push s k v hc h
  | get k => exact inv_get s k h
  | contains k => exact h
  | front => exact h
  | setFront v => exact inv_setFront s v h
  | clear => exact ⟨by simp [step, clear, keys], by simp [step, clear]⟩
  | len => exact h

theorem run_snoc (s : Cache K V) (ops : List (Op K V)) (op : Op K V) :
    run s (ops ++ [op]) = (step (run s ops) op).1 := by
  simp [run, List.foldl_append]

theorem run_cons (s : Cache K V) (ops : List (Op K V)) (op : Op K V) :
    run s (op :: ops) = run (step s op).1 ops := by
  simp [run]

theorem runOut_fst (s : Cache K V) (ops : List (Op K V)) : (runOut s ops).1 = run s ops := by
  induction ops generalizing s with
  | nil => rfl
  | cons op ops ih => simp only [runOut, run_cons, ih]

theorem cap_run (s : Cache K V) (ops : List (Op K V)) : (run s ops).cap = s.cap := by
  induction ops using snoc_induction with
  | nil => rfl
  | snoc ops op ih => rw [run_snoc, cap_step, ih]

theorem inv_run (s : Cache K V) (ops : List (Op K V)) (hc : 1 ≤ s.cap) (h : Inv s) : Inv (run s ops) := by
  induction ops using snoc_induction with
  | nil => exact h
  | snoc ops op ih => rw [run_snoc]; exact inv_step _ op (by rw [cap_run]; exact hc) ih

end Tbx.LruL0
