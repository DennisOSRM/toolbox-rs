import Tbx.Proofs.DijkstraLoop
/-
One theorem per search (relative to `HeapLaws`): `uniRun_spec`, `o2mRun_spec` say that `run` on a
well-formed object does not panic, that what it returns satisfies the loop's postcondition, and that
the fuel `n + 1` it hands to the loop suffices on a graph whose edges stay below `n`.  `UniPost` states
exactness itself (what `run` returns is the true distance / the unreachable marker); `O2MPost.exact`
reads it off for one-to-many: success is reported iff all targets are reachable, and every target holds
its exact distance either way.
-/
namespace Tbx.Dijkstra
open Tbx Tbx.AHeap
variable {Inv : Heap → Prop}

theorem start_enough (s n : Nat) : Enough (startQ s) n (n + 1) :=
  Nat.lt_add_right _ (Nat.lt_succ_self n)

theorem uniRun_spec (L : HeapLaws Inv) (adj : Adj) (n : Nat) (st : Uni) (s t : Nat) (hw : WFq st.queue) :
    (uniRun adj n st s t).Holds (fun p => UniPost Inv adj s t p.1 p.2) ∧
    (Bounded adj n → s < n → uniRun adj n st s t ≠ .fuel) := by
  rw [uniRun_eq adj n s t hw]
  obtain ⟨a, b⟩ := uniLoop_spec L adj s t (n + 1) ⟨_, UMAX⟩ (LInv.start L adj s) rfl (not_settled_start L s _)
  exact ⟨a, fun hb hs => b n hb hs (start_enough s n)⟩

theorem o2mRun_spec (L : HeapLaws Inv) (adj : Adj) (n : Nat) (st : O2M) (s : Nat) (targets : List Nat)
    (hw : WFq st.queue) :
    (o2mRun adj n st s targets).Holds
      (fun p => O2MPost Inv adj s targets p.1 ∧ p.2 = (p.1.reached == targets.length)) ∧
    (Bounded adj n → s < n → o2mRun adj n st s targets ≠ .fuel) := by
  rw [o2mRun_eq adj n s targets hw]
  obtain ⟨a, b⟩ := o2mLoop_spec L adj s targets (n + 1) ⟨_, 0⟩ (LInv.start L adj s) fun _ =>
    (List.length_eq_zero_iff.mpr (List.filter_eq_nil_iff.mpr fun _ _ h =>
      not_settled_start L s _ (of_decide_eq_true h))).symm
  exact ⟨a.map _ fun _ h => ⟨h, rfl⟩, fun hb hs => Res.map_ne_fuel _ (b n hb hs (start_enough s n))⟩

theorem settledCount_full {q : Heap} {targets : List Nat} :
    settledCount q targets = targets.length ↔ ∀ t ∈ targets, Settled q (t : Int) := by
  simp only [settledCount, List.length_filter_eq_length_iff, decide_eq_true_eq]

theorem O2MPost.exact (L : HeapLaws Inv) {adj : Adj} {s : Nat} {targets : List Nat} {st' : O2M}
    (P : O2MPost Inv adj s targets st') (hnd : targets.Nodup) :
    ((st'.reached == targets.length) = true ↔ ∀ t ∈ targets, SP.Reachable adj s t) ∧
    ∀ t ∈ targets,
      (∃ d : Nat, st'.distance t = (d : Int) ∧ SP.IsDist adj s t d) ∨
      (st'.distance t = UMAX ∧ ¬ SP.Reachable adj s t) := by
  have C := P.linv.toCore
  have hcnt := P.count hnd
  -- whichever way the loop ended, every reachable target has been settled
  have key : ∀ t ∈ targets, SP.Reachable adj s t → Settled st'.queue (t : Int) := by
    rcases P.exit with h | h
    · have := settledCount_le st'.queue targets
      exact fun t ht _ => settledCount_full.mp (by omega) t ht
    · exact fun t _ hr => (P.linv.drained h t).1 hr
  refine ⟨?_, fun t ht => ?_⟩
  · rw [beq_iff_eq, hcnt, settledCount_full]
    exact ⟨fun h t ht => (C.settled_exact (h t ht)).imp fun _ h => h.2.1, fun h t ht => key t ht (h t ht)⟩
  · by_cases hr : SP.Reachable adj s t
    · exact Or.inl (C.settled_exact (key t ht hr))
    · exact Or.inr ⟨C.weight_not_inserted L (C.not_inserted hr), hr⟩

end Tbx.Dijkstra
