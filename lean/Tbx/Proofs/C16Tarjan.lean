import Tbx.Model.Tarjan
import Tbx.Proofs.C16Arr
/-
Tarjan (`Model/Tarjan.lean`) as the proofs read it: through a `View` (index / lowlink / caller / on_stack as
functions, the Tarjan stack, the assignment, the two counters) and the slot counters `nb`.  The Tarjan stack is read
as a list: `InStack` is membership, "indices increase along the stack" is `List.Pairwise`, the SCC pop loop cuts
`pre ++ last :: post` back to `pre` and makes its two writes at the popped nodes (`popLoop_eq`, a closed form; read
through `view` it is `View.pop`, `popLoop_spec`).  `TS` is the invariant that holds at every point of `run`.
-/
namespace Tbx.Tarjan
open Tbx Tbx.Csr

theorem size_upd (a : Array DFSNode) (i : Nat) (f : DFSNode → DFSNode) : (upd a i f).size = a.size :=
  size_st _ _ _

theorem gt_upd (a : Array DFSNode) (i j : Nat) (f : DFSNode → DFSNode) :
    gt (upd a i f) j = if i = j ∧ i < a.size then f (gt a i) else gt a j :=
  gt_st _ _ _ _

theorem gt_upd_proj {α : Type} (P : DFSNode → α) (a : Array DFSNode) (i j : Nat) (f : DFSNode → DFSNode)
    (hP : ∀ d, P (f d) = P d) : P (gt (upd a i f) j) = P (gt a j) := by
  rw [gt_upd]
  split
  · rename_i h; obtain ⟨rfl, _⟩ := h; exact hP _
  · rfl

theorem gt_upd_at {α : Type} (P : DFSNode → α) (a : Array DFSNode) (i j : Nat) (f : DFSNode → DFSNode)
    (hi : i < a.size) : P (gt (upd a i f) j) = if j = i then P (f (gt a i)) else P (gt a j) := by
  rw [upd, gt_st_lt _ _ _ _ hi, apply_ite P]

theorem gt_st_proj {α : Type} (P : DFSNode → α) (a : Array DFSNode) (w u : Nat) (d : DFSNode) (hw : w < a.size) :
    P (gt (st a w d) u) = if u = w then P d else P (gt a u) :=
  gt_upd_at P a w u (fun _ => d) hw

/-- `I`, `L`, `C`, `O`: `index`, `lowlink`, `caller`, `on_stack` of `dfs_state[v]` as functions of `v` -/
structure View where
  n : Nat
  I : Nat → Nat
  L : Nat → Nat
  C : Nat → Nat
  O : Nat → Bool
  stack : Array Nat
  asg : Array Nat
  index : Nat
  numScc : Nat

def view (r : Run) : View :=
  { n := r.dfs.size,
    I := fun v => (gt r.dfs v).index, L := fun v => (gt r.dfs v).lowlink,
    C := fun v => (gt r.dfs v).caller, O := fun v => (gt r.dfs v).onStack,
    stack := r.stack, asg := r.asg, index := r.index, numScc := r.numScc }

/-- `dfs_state[u].neighbor`: how many edge slots of `u` the loop has looked at -/
def nb (r : Run) (u : Nat) : Nat := (gt r.dfs u).neighbor

/-- the Tarjan stack is read as a list, bottom first -/
def InStack (stack : Array Nat) (v : Nat) : Prop := v ∈ stack.toList

def View.setL (V : View) (v x : Nat) : View :=
  { V with L := fun u => if u = v then min (V.L v) x else V.L u }

theorem View.setL_of_le (V : View) {q y : Nat} (h : V.L q ≤ y) : V.setL q y = V := by
  have : (fun u => if u = q then min (V.L q) y else V.L u) = V.L := by
    funext u
    split
    · rename_i hu; subst hu; exact Nat.min_eq_left h
    · rfl
  show ({ V with L := _ } : View) = V
  rw [this]

def View.push (V : View) (w c : Nat) : View :=
  { V with I := fun u => if u = w then V.index else V.I u,
           L := fun u => if u = w then V.index else V.L u,
           C := fun u => if u = w then c else V.C u,
           O := fun u => if u = w then true else V.O u,
           stack := V.stack.push w, index := V.index + 1 }

theorem view_incNeighbor (r : Run) (last : Nat) : view (incNeighbor r last) = view r := by
  simp only [view, incNeighbor, size_upd, View.mk.injEq, true_and, and_true]
  exact ⟨funext fun _ => gt_upd_proj (·.index) _ _ _ _ (fun _ => rfl),
    funext fun _ => gt_upd_proj (·.lowlink) _ _ _ _ (fun _ => rfl),
    funext fun _ => gt_upd_proj (·.caller) _ _ _ _ (fun _ => rfl),
    funext fun _ => gt_upd_proj (·.onStack) _ _ _ _ (fun _ => rfl)⟩

theorem view_minLow (r : Run) (v x : Nat) (hv : v < r.dfs.size) : view (minLow r v x) = (view r).setL v x := by
  simp only [view, minLow, size_upd, View.setL, View.mk.injEq, true_and, and_true]
  exact ⟨funext fun _ => gt_upd_proj (·.index) _ _ _ _ (fun _ => rfl),
    funext fun _ => gt_upd_at (·.lowlink) _ _ _ _ hv,
    funext fun _ => gt_upd_proj (·.caller) _ _ _ _ (fun _ => rfl),
    funext fun _ => gt_upd_proj (·.onStack) _ _ _ _ (fun _ => rfl)⟩

theorem view_stackPush (r : Run) (w c : Nat) (hw : w < r.dfs.size) : view (stackPush r w c) = (view r).push w c := by
  simp only [view, stackPush, size_st, View.push, View.mk.injEq, true_and, and_true]
  exact ⟨funext fun _ => gt_st_proj (·.index) _ _ _ _ hw, funext fun _ => gt_st_proj (·.lowlink) _ _ _ _ hw,
    funext fun _ => gt_st_proj (·.caller) _ _ _ _ hw, funext fun _ => gt_st_proj (·.onStack) _ _ _ _ hw⟩

theorem nb_incNeighbor (r : Run) (last : Nat) (hl : last < r.dfs.size) (u : Nat) :
    nb (incNeighbor r last) u = if u = last then nb r last + 1 else nb r u :=
  gt_upd_at (·.neighbor) r.dfs last u (fun d => { d with neighbor := d.neighbor + 1 }) hl

theorem nb_minLow (r : Run) (v y : Nat) : nb (minLow r v y) = nb r :=
  funext fun u => gt_upd_proj (·.neighbor) r.dfs v u (fun d => { d with lowlink := min d.lowlink y }) (fun _ => rfl)

theorem nb_stackPush (r : Run) (w c : Nat) (hw : w < r.dfs.size) (u : Nat) :
    nb (stackPush r w c) u = if u = w then 0 else nb r u :=
  gt_st_proj (·.neighbor) _ _ _ _ hw

/-- `idx_cnt` and `scc_le` bound `index` and `numScc` by `n` (`V.n` is the length of `dfs_state`) -/
structure TS (n : Nat) (V : View) : Prop where
  sz : V.n = n
  asz : V.asg.size = n
  idx_cnt : V.index = (List.range n).countP (fun v => V.I v != maxU)
  scc_le : V.numScc + V.stack.size ≤ V.index
  K : ∀ v, v < n → V.I v ≠ maxU → InStack V.stack v ∨ (1 ≤ gt V.asg v ∧ gt V.asg v ≤ V.numScc)
  M : ∀ v, v < n → (V.O v = true ↔ InStack V.stack v)
  stk : ∀ {v}, InStack V.stack v → v < n ∧ V.I v ≠ maxU ∧ V.I v < V.index
  stk_mono : V.stack.toList.Pairwise fun a b => V.I a < V.I b
  L1 : ∀ v, v < n → V.I v ≠ maxU → V.L v ≤ V.I v

theorem TS.index_le {n : Nat} {V : View} (h : TS n V) : V.index ≤ n := by
  rw [h.idx_cnt]
  have := @List.countP_le_length _ (fun v => V.I v != maxU) (List.range n)
  simpa using this

theorem TS_setL {n : Nat} {V : View} (h : TS n V) (v x : Nat) : TS n (V.setL v x) := by
  refine ⟨h.sz, h.asz, h.idx_cnt, h.scc_le, h.K, h.M, h.stk, h.stk_mono, ?_⟩
  intro u hu hvis
  simp only [View.setL]
  split
  · rename_i huv; subst huv
    exact Nat.le_trans (Nat.min_le_left _ _) (h.L1 u hu hvis)
  · exact h.L1 u hu hvis

theorem inStack_push_iff {stack : Array Nat} {w u : Nat} : InStack (stack.push w) u ↔ u = w ∨ InStack stack u := by
  simp only [InStack, Array.toList_push, List.mem_append, List.mem_singleton]
  exact Or.comm

theorem not_inStack_of_empty {stack : Array Nat} (h : stack.size = 0) (v : Nat) : ¬ InStack stack v := by
  rw [InStack, Array.eq_empty_of_size_eq_zero h]; exact List.not_mem_nil

theorem TS_push {n : Nat} {V : View} (h : TS n V) (hn : n < maxU) (w c : Nat) (hw : w < n) (hI : V.I w = maxU) :
    TS n (V.push w c) := by
  have hidx : V.index ≠ maxU := Nat.ne_of_lt (Nat.lt_of_le_of_lt h.index_le hn)
  have hne : ∀ v, InStack V.stack v → v ≠ w := fun v hv he => (h.stk hv).2.1 (he ▸ hI)
  have hIp : ∀ v, (V.push w c).I v = if v = w then V.index else V.I v := fun _ => rfl
  constructor
  · exact h.sz
  · exact h.asz
  · have := countP_range_update (fun v => (if v = w then V.index else V.I v) != maxU) (fun v => V.I v != maxU) w
      (by simp [hidx]) (by simp [hI]) (by intro i hi; simp [hi]) n hw
    exact (congrArg (· + 1) h.idx_cnt).trans this
  · show V.numScc + (V.stack.push w).size ≤ V.index + 1
    rw [Array.size_push]
    exact Nat.succ_le_succ h.scc_le
  · intro v hv hvis
    show InStack (V.stack.push w) v ∨ _
    rw [inStack_push_iff]
    by_cases hvw : v = w
    · exact Or.inl (Or.inl hvw)
    · rw [hIp, if_neg hvw] at hvis
      exact (h.K v hv hvis).imp_left Or.inr
  · intro v hv
    show (if v = w then true else V.O v) = true ↔ InStack (V.stack.push w) v
    rw [inStack_push_iff]
    by_cases hvw : v = w
    · rw [if_pos hvw]; exact ⟨fun _ => Or.inl hvw, fun _ => rfl⟩
    · rw [if_neg hvw, h.M v hv]; exact ⟨Or.inr, fun h => h.resolve_left hvw⟩
  · intro v hv
    rw [hIp]
    rcases inStack_push_iff.mp hv with rfl | hv
    · rw [if_pos rfl]; exact ⟨hw, hidx, Nat.lt_succ_self _⟩
    · rw [if_neg (hne v hv)]; exact ⟨(h.stk hv).1, (h.stk hv).2.1, Nat.lt_succ_of_lt (h.stk hv).2.2⟩
  · show (V.stack.push w).toList.Pairwise fun a b => (V.push w c).I a < (V.push w c).I b
    rw [Array.toList_push]
    refine List.pairwise_append.mpr ⟨h.stk_mono.imp_of_mem fun ha hb hab => ?_, List.pairwise_singleton _ _, fun a ha b hb => ?_⟩
    · rw [hIp, hIp, if_neg (hne _ ha), if_neg (hne _ hb)]; exact hab
    · rw [List.mem_singleton.mp hb, hIp, hIp, if_neg (hne a ha), if_pos rfl]; exact (h.stk ha).2.2
  · intro v hv hvis
    show (if v = w then V.index else V.L v) ≤ (V.push w c).I v
    rw [hIp] at hvis ⊢
    by_cases hvw : v = w
    · rw [if_pos hvw, if_pos hvw]; exact Nat.le_refl _
    · rw [if_neg hvw] at hvis ⊢
      rw [if_neg hvw]
      exact h.L1 v hv hvis

/-- `num_scc += 1` followed by the SCC pop loop, which cuts the stack `pre ++ popped` back to `pre` -/
def View.pop (V : View) (pre popped : List Nat) : View :=
  { V with O := fun v => if v ∈ popped then false else V.O v,
           stack := pre.toArray,
           asg := popped.foldr (fun x a => st a x (V.numScc + 1)) V.asg,
           numScc := V.numScc + 1 }

/-- the SCC pop loop as a closed form: the stack `pre ++ last :: post` is cut back to `pre`, and the two writes of a
    round are made at every popped node, topmost first -/
theorem popLoop_eq (last : Nat) (pre : List Nat) : ∀ (f : Nat) (r : Run) (post : List Nat),
    r.stack.toList = pre ++ last :: post → last ∉ post → (∀ v, v ∈ last :: post → v < r.dfs.size) → post.length < f →
    popLoop last f r = some { r with
      stack := pre.toArray,
      dfs := (last :: post).foldr (fun x a => upd a x (fun d => { d with onStack := false })) r.dfs,
      asg := (last :: post).foldr (fun x a => st a x r.numScc) r.asg } := by
  intro f
  induction f with
  | zero => intro r _ _ _ _ h; exact absurd h (Nat.not_lt_zero _)
  | succ f ih =>
    intro r post hsp hnp hlt hf
    rcases List.eq_nil_or_concat post with rfl | ⟨post', x, rfl⟩
    · obtain ⟨hS, hx, hpop⟩ := top_of_toList hsp
      rw [popLoop, if_neg hS, hx, if_neg (Nat.not_le_of_lt (hlt last List.mem_cons_self))]
      simp only [if_true, ← hpop, Array.toArray_toList]
      rfl
    · rw [List.concat_eq_append] at hsp hnp hlt hf ⊢
      obtain ⟨hS, hx, hpop⟩ := top_of_toList (l := pre ++ last :: post') (by rw [hsp, List.append_assoc]; rfl)
      have hxl : x ≠ last := fun h => hnp (List.mem_append_right _ (List.mem_singleton.mpr h.symm))
      rw [popLoop, if_neg hS, hx, if_neg (Nat.not_le_of_lt (hlt x (List.mem_cons_of_mem _ (List.mem_append_right _ List.mem_cons_self))))]
      simp only [if_neg hxl]
      rw [ih _ post' hpop (fun h => hnp (List.mem_append_left _ h))
        (fun v hv => by rw [size_upd]; exact hlt v (by rw [← List.cons_append]; exact List.mem_append_left _ hv))
        (by rw [List.length_append] at hf; exact Nat.lt_of_succ_lt_succ hf)]
      rw [← List.cons_append, List.foldr_append, List.foldr_append]
      rfl

theorem gt_foldr_off_proj {α : Type} (P : DFSNode → α) (hP : ∀ d, P { d with onStack := false } = P d) (a : Array DFSNode)
    (v : Nat) : ∀ l : List Nat, P (gt (l.foldr (fun x a => upd a x (fun d => { d with onStack := false })) a) v) = P (gt a v)
  | [] => rfl
  | _ :: l => (gt_upd_proj P _ _ v _ hP).trans (gt_foldr_off_proj P hP a v l)

theorem popLoop_spec (last : Nat) (pre : List Nat) (f : Nat) (r : Run) (post : List Nat)
    (hsp : r.stack.toList = pre ++ last :: post) (hnp : last ∉ post) (hlt : ∀ v, v ∈ last :: post → v < r.dfs.size)
    (hf : post.length < f) :
    ∃ r', popLoop last f (bumpScc r) = some r' ∧ nb r' = nb r ∧ view r' = (view r).pop pre (last :: post) := by
  obtain ⟨d1, d2⟩ := gt_foldr_st (fun d : DFSNode => { d with onStack := false }) (fun _ => rfl) r.dfs (last :: post) hlt
  refine ⟨_, popLoop_eq last pre f (bumpScc r) post hsp hnp hlt hf,
    funext fun v => gt_foldr_off_proj (·.neighbor) (fun _ => rfl) r.dfs v _, ?_⟩
  simp only [view, View.pop, View.mk.injEq, true_and]
  refine ⟨d1, funext fun v => gt_foldr_off_proj (·.index) (fun _ => rfl) r.dfs v _,
    funext fun v => gt_foldr_off_proj (·.lowlink) (fun _ => rfl) r.dfs v _,
    funext fun v => gt_foldr_off_proj (·.caller) (fun _ => rfl) r.dfs v _, funext fun v => ?_, rfl, rfl, rfl⟩
  split
  · rename_i hv; exact congrArg (·.onStack) ((d2 v).1 hv)
  · rename_i hv; exact congrArg (·.onStack) ((d2 v).2 hv)

theorem TS_pop {n : Nat} {V : View} {pre post : List Nat} {last : Nat} (h : TS n V)
    (hsp : V.stack.toList = pre ++ last :: post) : TS n (V.pop pre (last :: post)) := by
  have hmem := mem_split_iff hsp h.stk_mono
  obtain ⟨a1, a2⟩ := gt_foldr_st (fun _ => V.numScc + 1) (fun _ => rfl) V.asg (last :: post)
    fun x hx => h.asz ▸ (h.stk (show x ∈ V.stack.toList from hsp ▸ List.mem_append_right _ hx)).1
  constructor
  · exact h.sz
  · exact a1.trans h.asz
  · exact h.idx_cnt
  · show V.numScc + 1 + pre.toArray.size ≤ V.index
    have := h.scc_le
    rw [← Array.length_toList, hsp, List.length_append, List.length_cons] at this
    rw [List.size_toArray]
    omega
  · intro v hv hvis
    by_cases hpop : v ∈ last :: post
    · right
      rw [show gt (V.pop pre (last :: post)).asg v = V.numScc + 1 from (a2 v).1 hpop]
      exact ⟨Nat.succ_pos _, Nat.le_refl _⟩
    · rcases h.K v hv hvis with hk | hk
      · exact Or.inl ((hmem v).2.mpr ⟨hk, Nat.lt_of_not_le fun hle => hpop ((hmem v).1.mpr ⟨hk, hle⟩)⟩)
      · right
        rw [show gt (V.pop pre (last :: post)).asg v = gt V.asg v from (a2 v).2 hpop]
        exact ⟨hk.1, Nat.le_succ_of_le hk.2⟩
  · intro v hv
    show (if v ∈ last :: post then false else V.O v) = true ↔ v ∈ pre
    rw [(hmem v).2]
    split
    · rename_i hpop
      exact ⟨fun h => Bool.noConfusion h, fun h => absurd ((hmem v).1.mp hpop).2 (Nat.not_le_of_lt h.2)⟩
    · rename_i hpop
      rw [h.M v hv]
      exact ⟨fun h1 => ⟨h1, Nat.lt_of_not_le fun hle => hpop ((hmem v).1.mpr ⟨h1, hle⟩)⟩, fun h => h.1⟩
  · intro v hv
    exact h.stk ((hmem v).2.mp hv).1
  · exact (List.pairwise_append.mp (hsp ▸ h.stk_mono)).1
  · exact h.L1

/-- the edge slots of `v` the loop has looked at (`neighbor` of an unvisited node is stale) -/
def slots (r : Run) (v : Nat) : Nat := if (view r).I v = maxU then 0 else nb r v

/-- edge slots the loop may still look at -/
def remSum (g : Graph) (r : Run) : Nat := sumTo (fun v => outDegree g v - slots r v) (numNodes g)

/-- the measure of a root's `loop`: remaining edge slots + unvisited nodes + length of the caller chain
    `tl` below `last` -/
def mu (g : Graph) (r : Run) (tl : List Nat) : Nat := remSum g r + (numNodes g - r.index) + tl.length

theorem mu_congr (g : Graph) {r r' : Run} (tl : List Nat) (hI : (view r').I = (view r).I)
    (hnb : ∀ v, nb r' v = nb r v) (hidx : r'.index = r.index) : mu g r' tl = mu g r tl := by
  simp only [mu, remSum, slots, hI, hnb, hidx]

theorem mu_minLow (g : Graph) (r : Run) (v x : Nat) (tl : List Nat) : mu g (minLow r v x) tl = mu g r tl :=
  mu_congr g tl (funext fun _ => gt_upd_proj (·.index) _ _ _ _ (fun _ => rfl)) (congrFun (nb_minLow r v x)) rfl

theorem mu_incNeighbor (g : Graph) (r : Run) (last : Nat) (tl : List Nat) (hl : last < numNodes g)
    (hls : last < r.dfs.size) (hvis : (view r).I last ≠ maxU) (hlt : nb r last < outDegree g last) :
    mu g (incNeighbor r last) tl + 1 = mu g r tl := by
  have key : remSum g (incNeighbor r last) + 1 = remSum g r := sumTo_slot hl
    (by rw [slots, slots, view_incNeighbor, if_neg hvis, if_neg hvis, nb_incNeighbor r last hls, if_pos rfl])
    (fun u hu => by rw [slots, slots, view_incNeighbor, nb_incNeighbor r last hls, if_neg hu])
    (by rw [slots, if_neg hvis]; exact hlt)
  show remSum g (incNeighbor r last) + (numNodes g - r.index) + tl.length + 1 = remSum g r + _ + _
  rw [← key, Nat.add_right_comm _ 1, Nat.add_right_comm _ 1]

/-- a push moves one unit from "unvisited nodes" to "length of the caller chain" -/
theorem mu_stackPush (g : Graph) (r : Run) (w c x : Nat) (tl : List Nat) (hws : w < r.dfs.size)
    (hunv : (view r).I w = maxU) (hidx : r.index < numNodes g) :
    mu g (stackPush r w c) (x :: tl) = mu g r tl := by
  have hslots : slots (stackPush r w c) = slots r := funext fun u => by
    rw [slots, slots, view_stackPush r w c hws, nb_stackPush r w c hws]
    show (if (if u = w then _ else _) = maxU then 0 else _) = _
    by_cases hu : u = w
    · rw [hu, if_pos rfl, if_pos rfl, if_pos hunv]; split <;> rfl
    · rw [if_neg hu, if_neg hu]
  show remSum g (stackPush r w c) + (numNodes g - (r.index + 1)) + (tl.length + 1) = remSum g r + _ + _
  rw [remSum, hslots, show numNodes g - r.index = numNodes g - (r.index + 1) + 1 from
    (Nat.succ_pred_eq_of_pos (Nat.sub_pos_of_lt hidx)).symm, ← Nat.add_assoc, ← Nat.add_assoc, Nat.add_right_comm _ 1]
  rfl

end Tbx.Tarjan
