import Tbx.Spec.PQ
import Tbx.Proofs.AHeapOrder
/-
Back-pointer bookkeeping shared by `upLoop` and `downLoop` (C10).

`PtrX h ns x`   : back pointers (heap slot -> node) and forward pointers (node -> heap slot) agree,
                  except for the node slot `x` (the node `delete_min` is about to mark removed;
                  `x = ns.size` means "no exception").
`PInv h ns hole r x lo` : the same while a sift is in progress: position `hole` of the heap array is
                  stale, node `r` (the moving element) has a stale key, everything else is linked.
                  `lo` is a lower bound of the weights outside the hole; a sift carries it along so that its result
                  (`Sifted`) gives back `Inv.wlo`, by which the sentinel stops `upLoop` at the root.
`Frame ns ns'`  : the nodes of `ns'` stand for the same reference-queue entries (`ent`) as those of `ns`: they differ
                  in `key` fields only and no key changes zero <-> non-zero.
-/
namespace Tbx.AHeap
open Tbx

theorem toList_eq_map_range (ns : Array Node) :
    ns.toList = (List.range ns.size).map (fun i => gt ns i) := by
  apply List.ext_getElem
  · simp
  · intro i h1 h2
    simp only [List.getElem_map, List.getElem_range, Array.getElem_toList]
    rw [gt_eq_getElem]

@[simp] theorem size_setKey (ns : Array Node) (i k : Nat) : (setKey ns i k).size = ns.size := by
  simp [setKey]

theorem gt_setKey_ne (ns : Array Node) (i j k : Nat) (h : i ≠ j) :
    gt (setKey ns i k) j = gt ns j := by
  unfold setKey; exact gt_st_ne _ _ _ _ h

theorem gt_setKey_eq (ns : Array Node) (i k : Nat) (h : i < ns.size) :
    gt (setKey ns i k) i = { gt ns i with key := k } := by
  unfold setKey; exact gt_st_eq _ _ _ h

theorem setKey_key_eq (ns : Array Node) (i k : Nat) (h : i < ns.size) :
    (gt (setKey ns i k) i).key = k := by
  rw [gt_setKey_eq _ _ _ h]

theorem gt_st_field {α β : Type} [Inhabited α] (f : α → β) (ns : Array α) (i : Nat) (n' : α) (j : Nat)
    (hf : f n' = f (gt ns i)) : f (gt (st ns i n') j) = f (gt ns j) := by
  rw [gt_st]; split
  · rename_i h; rw [hf, h.1]
  · rfl

theorem gt_extract {α : Type} [Inhabited α] (a : Array α) (s e j : Nat) (h : e ≤ a.size) (hj : s + j < e) :
    gt (a.extract s e) j = gt a (s + j) := by
  simp only [gt, Array.getD_eq_getD_getElem?, Array.getElem?_extract]
  have : j < min e a.size - s := by omega
  simp [this]

theorem setKey_id (ns : Array Node) (i k j : Nat) : (gt (setKey ns i k) j).id = (gt ns j).id :=
  gt_st_field Node.id _ _ _ _ rfl

theorem setKey_weight (ns : Array Node) (i k j : Nat) :
    (gt (setKey ns i k) j).weight = (gt ns j).weight :=
  gt_st_field Node.weight _ _ _ _ rfl

theorem setKey_data (ns : Array Node) (i k j : Nat) : (gt (setKey ns i k) j).data = (gt ns j).data :=
  gt_st_field Node.data _ _ _ _ rfl

/-- the reference-queue entry a node stands for: `live` iff its back pointer is non-zero -/
def ent (n : Node) : PQ.Entry := ⟨n.id, n.weight, n.data, decide (n.key ≠ 0)⟩

def Frame (ns ns' : Array Node) : Prop := ns'.size = ns.size ∧ ∀ i, ent (gt ns' i) = ent (gt ns i)

theorem Frame.refl (ns : Array Node) : Frame ns ns := ⟨rfl, fun _ => rfl⟩

theorem Frame.trans {a b c : Array Node} (h1 : Frame a b) (h2 : Frame b c) : Frame a c :=
  ⟨h2.1.trans h1.1, fun i => (h2.2 i).trans (h1.2 i)⟩

theorem Frame.id_eq {ns ns' : Array Node} (F : Frame ns ns') (i : Nat) : (gt ns' i).id = (gt ns i).id :=
  congrArg PQ.Entry.id (F.2 i)

theorem frame_setKey (ns : Array Node) (i k : Nat) (h1 : (gt ns i).key ≠ 0) (hk : k ≠ 0) :
    Frame ns (setKey ns i k) := by
  refine ⟨size_setKey _ _ _, fun j => ?_⟩
  unfold setKey
  rw [gt_st]
  split
  · rename_i h
    rw [← h.1]
    simp [ent, h1, hk]
  · rfl

structure PtrX (h : Array Elem) (ns : Array Node) (x : Nat) : Prop where
  back : ∀ k, 1 ≤ k → k < h.size → (gt h k).index < ns.size ∧ (gt h k).index ≠ x ∧
    (gt ns (gt h k).index).key = k ∧ (gt ns (gt h k).index).weight = (gt h k).weight
  fwd : ∀ i, i < ns.size → i ≠ x → (gt ns i).key ≠ 0 →
    (gt ns i).key < h.size ∧ (gt h (gt ns i).key).index = i

structure PInv (h : Array Elem) (ns : Array Node) (hole r x : Nat) (lo : Int) : Prop where
  hole_pos : 1 ≤ hole
  hole_lt : hole < h.size
  r_lt : r < ns.size
  r_ne_x : r ≠ x
  r_key : (gt ns r).key ≠ 0
  wlo : ∀ k, k < h.size → k ≠ hole → lo ≤ (gt h k).weight
  back : ∀ k, 1 ≤ k → k < h.size → k ≠ hole → (gt h k).index < ns.size ∧ (gt h k).index ≠ r ∧
    (gt h k).index ≠ x ∧ (gt ns (gt h k).index).key = k ∧
    (gt ns (gt h k).index).weight = (gt h k).weight
  fwd : ∀ i, i < ns.size → i ≠ r → i ≠ x → (gt ns i).key ≠ 0 →
    (gt ns i).key < h.size ∧ (gt ns i).key ≠ hole ∧ (gt h (gt ns i).key).index = i

def Sifted (s s' : Heap) (x : Nat) (lo : Int) : Prop :=
  s'.heap.size = s.heap.size ∧ Ord s'.heap ∧ PtrX s'.heap s'.nodes x ∧ Frame s.nodes s'.nodes ∧
  (∀ k, k < s.heap.size → lo ≤ (gt s'.heap k).weight) ∧ gt s'.heap 0 = gt s.heap 0

theorem PInv.start {h : Array Elem} {ns : Array Node} {x : Nat} {lo : Int} (P : PtrX h ns x)
    (key : Nat) (h1 : 1 ≤ key) (h2 : key < h.size) (hlo : ∀ k, k < h.size → lo ≤ (gt h k).weight) :
    PInv h ns key (gt h key).index x lo := by
  obtain ⟨b1, b2, b3, b4⟩ := P.back key h1 h2
  refine ⟨h1, h2, b1, b2, by omega, fun k hk _ => hlo k hk, ?_, ?_⟩
  · intro k k1 k2 kne
    obtain ⟨c1, c2, c3, c4⟩ := P.back k k1 k2
    refine ⟨c1, ?_, c2, c3, c4⟩
    intro e; rw [e] at c3; omega
  · intro i i1 i2 i3 i4
    obtain ⟨c1, c2⟩ := P.fwd i i1 i3 i4
    refine ⟨c1, ?_, c2⟩
    intro e; rw [e] at c2; exact i2 c2.symm

/-- the move both sift loops make, `src` being the parent resp. the lighter child of the hole -/
theorem PInv.move {h : Array Elem} {ns : Array Node} {hole r x : Nat} {lo : Int}
    (P : PInv h ns hole r x lo) (src : Nat) (h1 : 1 ≤ src) (h2 : src < h.size) (hne : src ≠ hole) :
    PInv (st h hole (gt h src)) (setKey ns (gt h src).index hole) src r x lo ∧
    Frame ns (setKey ns (gt h src).index hole) := by
  obtain ⟨s1, s2, s3, s4, s5⟩ := P.back src h1 h2 hne
  have hpos : hole ≠ 0 := Nat.ne_of_gt P.hole_pos
  refine ⟨⟨h1, (size_st h _ _).symm ▸ h2, (size_setKey ns _ _).symm ▸ P.r_lt, P.r_ne_x, ?_, ?_, ?_, ?_⟩,
    frame_setKey _ _ _ (by rw [s4]; exact Nat.ne_of_gt h1) hpos⟩
  · rw [gt_setKey_ne _ _ _ _ s2]; exact P.r_key
  · intro k k1 k2
    rw [size_st] at k1
    by_cases e : k = hole
    · rw [e, gt_st_eq _ _ _ P.hole_lt]; exact P.wlo src h2 hne
    · rw [gt_st_ne _ _ _ _ (Ne.symm e)]; exact P.wlo k k1 e
  · intro k k1 k2 kne
    rw [size_st] at k2
    rw [size_setKey]
    by_cases e : k = hole
    · rw [e, gt_st_eq _ _ _ P.hole_lt, setKey_weight]
      exact ⟨s1, s2, s3, setKey_key_eq _ _ _ s1, s5⟩
    · rw [gt_st_ne _ _ _ _ (Ne.symm e)]
      obtain ⟨c1, c2, c3, c4, c5⟩ := P.back k k1 k2 e
      rw [gt_setKey_ne _ _ _ _ fun e' => kne (by rw [e', c4] at s4; exact s4)]
      exact ⟨c1, c2, c3, c4, c5⟩
  · intro i i1 i2 i3 i4
    rw [size_setKey] at i1
    rw [size_st]
    by_cases e : (gt h src).index = i
    · rw [← e, setKey_key_eq _ _ _ s1, gt_st_eq _ _ _ P.hole_lt]
      exact ⟨P.hole_lt, Ne.symm hne, rfl⟩
    · rw [gt_setKey_ne _ _ _ _ e] at i4 ⊢
      obtain ⟨c1, c2, c3⟩ := P.fwd i i1 i2 i3 i4
      rw [gt_st_ne _ _ _ _ (Ne.symm c2)]
      exact ⟨c1, fun e' => e (by rw [e'] at c3; exact c3), c3⟩

theorem PInv.close {h : Array Elem} {ns : Array Node} {hole r x : Nat} {lo : Int}
    (P : PInv h ns hole r x lo) (w : Int) (hw : (gt ns r).weight = w) (hlo : lo ≤ w) :
    PtrX (st h hole ⟨r, w⟩) (setKey ns r hole) x ∧ Frame ns (setKey ns r hole) ∧
    (∀ k, k < h.size → lo ≤ (gt (st h hole ⟨r, w⟩) k).weight) ∧
    (gt (st h hole ⟨r, w⟩) 0) = gt h 0 := by
  have hpos : hole ≠ 0 := Nat.ne_of_gt P.hole_pos
  refine ⟨⟨?_, ?_⟩, frame_setKey _ _ _ P.r_key hpos, ?_, gt_st_ne _ _ _ _ hpos⟩
  · intro k k1 k2
    rw [size_st] at k2
    rw [size_setKey]
    by_cases e : k = hole
    · rw [e, gt_st_eq _ _ _ P.hole_lt, setKey_weight]
      exact ⟨P.r_lt, P.r_ne_x, setKey_key_eq _ _ _ P.r_lt, hw⟩
    · rw [gt_st_ne _ _ _ _ (Ne.symm e)]
      obtain ⟨c1, c2, c3, c4, c5⟩ := P.back k k1 k2 e
      rw [gt_setKey_ne _ _ _ _ (Ne.symm c2)]
      exact ⟨c1, c3, c4, c5⟩
  · intro i i1 i3 i4
    rw [size_setKey] at i1
    rw [size_st]
    by_cases e : r = i
    · rw [← e, setKey_key_eq _ _ _ P.r_lt, gt_st_eq _ _ _ P.hole_lt]
      exact ⟨P.hole_lt, rfl⟩
    · rw [gt_setKey_ne _ _ _ _ e] at i4 ⊢
      obtain ⟨c1, c2, c3⟩ := P.fwd i i1 (Ne.symm e) i3 i4
      rw [gt_st_ne _ _ _ _ (Ne.symm c2)]
      exact ⟨c1, c3⟩
  · intro k k1
    by_cases e : k = hole
    · rw [e, gt_st_eq _ _ _ P.hole_lt]; exact hlo
    · rw [gt_st_ne _ _ _ _ (Ne.symm e)]; exact P.wlo k k1 e

end Tbx.AHeap
