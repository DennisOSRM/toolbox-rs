import Tbx.Proofs.GeoEnclose
/-
Global strict convexity of the monotone chain's output for inputs that are not all collinear.

`Good P x r`: the facts established by `Tbx.Geo.Inv` for the stack `x :: r` (top first) of a finished pass
over the sorted points `P`, plus non-degeneracy.  On such a chain
  * points collinear with an edge lie between its end points (`Good.between`),
  * neighbours are different and the chain has no repetition (`Good.nodup`).
Read the other way round, a point strictly before the start of an edge is strictly on its left
(`Good.strict_before`); this is all the two-chain lemmas use.  The upper chain is a `Good` chain of the
point-reflected input.  A vertex of the other chain strictly inside an edge's segment has a chain edge
leaving it, with the ends of the first edge on opposite sides of it (`strict_other`); a vertex of both chains
other than their ends has an edge leaving it in each, each end strictly on the left of the other (`inter`).
-/
namespace Tbx.Geo

/-- q beyond a on the line o → a, strict left turn o → a → a': q is strictly right of a → a' -/
theorem collinear_after {o a a' q : Coord} (hoa : LexLt o a) (haq : LexLt a q) (hcol : cross o a q = 0)
    (hturn : 0 < cross o a a') : cross a a' q < 0 := by
  have hcol' : cross a o q = 0 := by rw [cross_flip, hcol]; rfl
  exact (opposite_sides hoa haq hcol' a').mp (cross_cycle o a a' ▸ hturn)

/-- q before o on the line o → a, strict left turn o' → o → a: q is strictly right of o' → o -/
theorem collinear_before {o' o a q : Coord} (hoa : LexLt o a) (hqo : LexLt q o) (hcol : cross o a q = 0)
    (hturn : 0 < cross o' o a) : cross o' o q < 0 := by
  have hcol' : cross o q a = 0 := by rw [cross_swap, hcol]; rfl
  rw [← Int.neg_neg (cross o' o a), ← cross_flip, neg_pos] at hturn
  rw [← Int.neg_neg (cross o' o q), ← cross_flip, neg_neg_iff_pos]
  exact (opposite_sides hqo hoa hcol' o').mpr hturn

structure Good (P : List Coord) (x : Coord) (r : List Coord) : Prop where
  sub : ∀ v ∈ x :: r, v ∈ P
  desc : Desc (x :: r)
  turns : Turns (x :: r)
  sup : Sup P (x :: r)
  top : ∀ q ∈ P, LexLe q x
  bot : ∀ q ∈ P, LexLe (lastD x r) q
  two : r ≠ []
  ne : x ≠ lastD x r

theorem Inv.good {P : List Coord} {x : Coord} {r : List Coord} (h : Inv P x r) (hne : x ≠ lastD x r) : Good P x r :=
  ⟨h.sub, h.desc, h.turns, h.sup, h.top, h.bot, fun h0 => hne (h0 ▸ rfl), hne⟩

theorem mem_pairs_split {l : List Coord} {e : Coord × Coord} (h : e ∈ pairs l) :
    ∃ pre post, l = pre ++ e.1 :: e.2 :: post := by
  obtain ⟨pre, post, h⟩ := mem_pairs_iff.mp h
  exact ⟨pre, post, by rw [← h]; simp⟩

theorem mem_of_mem_pairs {l : List Coord} {e : Coord × Coord} (h : e ∈ pairs l) : e.1 ∈ l ∧ e.2 ∈ l := by
  obtain ⟨pre, post, rfl⟩ := mem_pairs_split h
  simp

theorem Turns.above {st : List Coord} (ht : Turns st) {a o : Coord} (he : (a, o) ∈ pairs st) :
    (∃ post, st = a :: o :: post) ∨ ∃ a', (a', a) ∈ pairs st ∧ isCW o a a' = true := by
  induction st with
  | nil => cases he
  | cons x r ih =>
    cases r with
    | nil => cases he
    | cons y r' =>
      rw [pairs_cons2] at he ⊢
      rcases List.mem_cons.mp he with h | h
      · cases h; exact Or.inl ⟨r', rfl⟩
      · right
        rcases ih (Turns_tail ht) h with ⟨post, hp⟩ | ⟨a', ha', hcw⟩
        · cases hp; exact ⟨x, List.mem_cons_self, ht.1⟩
        · exact ⟨a', List.mem_cons_of_mem _ ha', hcw⟩

theorem Turns.below {x : Coord} {r : List Coord} (ht : Turns (x :: r)) {a o : Coord} (he : (a, o) ∈ pairs (x :: r)) :
    o = lastD x r ∨ ∃ o', (o, o') ∈ pairs (x :: r) ∧ isCW o' o a = true := by
  induction r generalizing x with
  | nil => cases he
  | cons y r' ih =>
    rw [pairs_cons2] at he ⊢
    rcases List.mem_cons.mp he with h | h
    · cases h
      cases r' with
      | nil => exact Or.inl rfl
      | cons z _ => exact Or.inr ⟨z, List.mem_cons_of_mem _ List.mem_cons_self, ht.1⟩
    · exact (ih (Turns_tail ht) h).imp id fun ⟨o', ho', hcw⟩ => ⟨o', List.mem_cons_of_mem _ ho', hcw⟩

theorem exists_above {x v : Coord} {r : List Coord} (hv : v ∈ x :: r) (hx : v ≠ x) : ∃ a, (a, v) ∈ pairs (x :: r) := by
  induction r generalizing x with
  | nil => exact absurd (List.mem_singleton.mp hv) hx
  | cons o r ih =>
    rw [pairs_cons2]
    by_cases ho : v = o
    · exact ⟨x, ho ▸ List.mem_cons_self⟩
    · obtain ⟨a, ha⟩ := ih ((List.mem_cons.mp hv).resolve_left hx) ho
      exact ⟨a, List.mem_cons_of_mem _ ha⟩

theorem Desc.nodup {l : List Coord} (hd : Desc l) (hne : ∀ e ∈ pairs l, e.1 ≠ e.2) : l.Nodup := by
  induction l with
  | nil => exact List.nodup_nil
  | cons a t ih =>
    have hd' := List.pairwise_cons.mp hd
    refine List.nodup_cons.mpr ⟨?_, ih hd'.2 (fun e he => hne e (pairs_suffix (List.suffix_cons _ _) e he))⟩
    intro hmem
    cases t with
    | nil => cases hmem
    | cons o t' =>
      have hao : a ≠ o := hne (a, o) (by rw [pairs_cons2]; exact List.mem_cons_self)
      have h1 : LexLe o a := hd'.1 o List.mem_cons_self
      have h2 : LexLe a o := by
        rcases List.mem_cons.mp hmem with h | h
        · exact absurd h hao
        · exact (List.pairwise_cons.mp hd'.2).1 a h
      exact hao (LexLe.antisymm h2 h1)

namespace Good

variable {P : List Coord} {x : Coord} {r : List Coord}

theorem adj_ne (g : Good P x r) : ∀ e ∈ pairs (x :: r), e.1 ≠ e.2 := by
  rintro ⟨a, o⟩ he (rfl : a = o)
  rcases g.turns.above he with ⟨post, hp⟩ | ⟨a', _, hcw⟩
  · rcases g.turns.below he with hl | ⟨o', _, hcw⟩
    · exact g.ne ((List.cons.inj hp).1.trans hl)
    · have := (isCW_iff o' a a).mp hcw
      rw [cross_self_right] at this; omega
  · have := (isCW_iff a a a').mp hcw
    rw [cross_self_left] at this; omega

theorem lt_of_pair (g : Good P x r) {a o : Coord} (he : (a, o) ∈ pairs (x :: r)) : LexLt o a := by
  obtain ⟨pre, post, hsp⟩ := mem_pairs_split he
  have hd := g.desc
  rw [hsp] at hd
  exact ⟨(List.pairwise_cons.mp (List.pairwise_append.mp hd).2.1).1 o List.mem_cons_self, fun h => g.adj_ne _ he h.symm⟩

theorem between (g : Good P x r) {a o : Coord} (he : (a, o) ∈ pairs (x :: r)) {q : Coord} (hq : q ∈ P)
    (hcol : cross o a q = 0) : LexLe o q ∧ LexLe q a := by
  have hoa := g.lt_of_pair he
  constructor
  · by_contra hn
    rcases g.turns.below he with hol | ⟨o', hpair, hcw⟩
    · exact hn (hol ▸ g.bot q hq)
    · exact absurd (g.sup _ hpair q hq) (Int.not_le.mpr
        (collinear_before hoa (lexLt_of_not_le hn) hcol ((isCW_iff o' o a).mp hcw)))
  · by_contra hn
    rcases g.turns.above he with ⟨post, hp⟩ | ⟨a', hpair, hcw⟩
    · exact hn ((List.cons.inj hp).1 ▸ g.top q hq)
    · exact absurd (g.sup _ hpair q hq) (Int.not_le.mpr
        (collinear_after hoa (lexLt_of_not_le hn) hcol ((isCW_iff o a a').mp hcw)))

theorem nodup (g : Good P x r) : (x :: r).Nodup := g.desc.nodup g.adj_ne

theorem strict_same (g : Good P x r) {a o : Coord} (he : (a, o) ∈ pairs (x :: r)) {p : Coord}
    (hp : p ∈ x :: r) (hpa : p ≠ a) (hpo : p ≠ o) : cross o a p ≠ 0 := by
  intro hcol
  obtain ⟨h1, h2⟩ := g.between he (g.sub p hp) hcol
  obtain ⟨pre, post, hsp⟩ := mem_pairs_split he
  simp only at hsp
  have hd := g.desc
  rw [hsp] at hd hp
  rcases List.mem_append.mp hp with hm | hm
  · have : LexLe a p := (List.pairwise_append.mp hd).2.2 p hm a List.mem_cons_self
    exact hpa (LexLe.antisymm h2 this)
  · rcases List.mem_cons.mp hm with h | hm
    · exact hpa h
    · rcases List.mem_cons.mp hm with h | hm
      · exact hpo h
      · have hd2 := (List.pairwise_append.mp hd).2.1
        have : LexLe p o := (List.pairwise_cons.mp (List.pairwise_cons.mp hd2).2).1 p hm
        exact hpo (LexLe.antisymm this h1)

theorem strict_before (g : Good P x r) {a o : Coord} (he : (a, o) ∈ pairs (x :: r)) {q : Coord} (hq : q ∈ P)
    (h : LexLt q o) : 0 < cross o a q :=
  lt_of_le_of_ne (g.sup _ he q hq) fun hc => h.2 (LexLe.antisymm h.1 (g.between he hq hc.symm).1)

theorem strict_other {P' : List Coord} {y : Coord} {s : List Coord} (g : Good P x r) (g' : Good P' y s)
    (h1 : ∀ q ∈ P, neg q ∈ P') (h2 : ∀ q' ∈ P', neg q' ∈ P)
    {a o : Coord} (he : (a, o) ∈ pairs (x :: r)) {p : Coord} (hp' : neg p ∈ y :: s)
    (hpa : p ≠ a) (hpo : p ≠ o) : cross o a p ≠ 0 := by
  intro hcol
  obtain ⟨hop, hpa'⟩ := g.between he (neg_neg p ▸ h2 _ (g'.sub _ hp')) hcol
  have ha' := h1 a (g.sub a (mem_of_mem_pairs he).1)
  have ho' := h1 o (g.sub o (mem_of_mem_pairs he).2)
  have hup : LexLt (neg a) (neg p) := LexLt_neg.mpr ⟨hpa', hpa⟩
  have hpv : LexLt (neg p) (neg o) := LexLt_neg.mpr ⟨hop, hpo.symm⟩
  obtain ⟨a2, he2⟩ := exists_above hp' fun h => hpv.2 (LexLe.antisymm hpv.1 (h ▸ g'.top _ ho'))
  have hcol' : cross (neg p) (neg a) (neg o) = 0 := by
    rw [cross_neg, ← cross_cycle, cross_flip, hcol]; rfl
  exact absurd (g'.sup _ he2 _ ho')
    (Int.not_le.mpr ((opposite_sides hup hpv hcol' a2).mp (g'.strict_before he2 ha' hup)))

theorem strict {P' : List Coord} {y : Coord} {s : List Coord} (g : Good P x r) (g' : Good P' y s)
    (h1 : ∀ q ∈ P, neg q ∈ P') (h2 : ∀ q' ∈ P', neg q' ∈ P)
    {a o : Coord} (he : (a, o) ∈ pairs (x :: r)) {p : Coord} (hp : p ∈ x :: r ∨ neg p ∈ y :: s)
    (hpa : p ≠ a) (hpo : p ≠ o) : 0 < cross o a p := by
  have hP : p ∈ P := hp.elim (g.sub p) fun h => neg_neg p ▸ h2 _ (g'.sub _ h)
  exact lt_of_le_of_ne (g.sup _ he p hP) (Ne.symm (hp.elim (fun h => g.strict_same he h hpa hpo)
    fun h => g.strict_other g' h1 h2 he h hpa hpo))

theorem inter {P' : List Coord} {y : Coord} {s : List Coord} (g : Good P x r) (g' : Good P' y s)
    (h1 : ∀ q ∈ P, neg q ∈ P') (h2 : ∀ q' ∈ P', neg q' ∈ P) {p : Coord} (hp : p ∈ x :: r) (hp' : neg p ∈ y :: s) :
    p = x ∨ neg p = y := by
  by_contra hn
  obtain ⟨a, he⟩ := exists_above hp fun h => hn (Or.inl h)
  obtain ⟨a2, he2⟩ := exists_above hp' fun h => hn (Or.inr h)
  have hlt : LexLt (neg a2) p := neg_neg p ▸ LexLt_neg.mpr (g'.lt_of_pair he2)
  have w1 := g.strict_before he (h2 a2 (g'.sub a2 (mem_of_mem_pairs he2).1)) hlt
  have w2 := g'.strict_before he2 (h1 a (g.sub a (mem_of_mem_pairs he).1)) (LexLt_neg.mpr (g.lt_of_pair he))
  rw [← neg_neg a2, cross_neg, cross_swap] at w2
  omega

end Good

end Tbx.Geo
