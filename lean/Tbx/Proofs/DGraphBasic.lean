import Tbx.Model.DynGraph
import Tbx.Proofs.SumTo
namespace Tbx.DG
open Tbx
open Tbx.SG (EEntry maxId)

@[simp] theorem size_swapE (a : Array EEntry) (i j : Nat) : (swapE a i j).size = a.size := by
  simp [swapE]

theorem gt_swapE (a : Array EEntry) (i j k : Nat) (hi : i < a.size) (hj : j < a.size) :
    gt (swapE a i j) k = if k = j then gt a i else if k = i then gt a j else gt a k := by
  unfold swapE
  rw [gt_st, gt_st]
  simp only [size_st]
  by_cases h1 : k = j
  · subst h1; simp [hj]
  · by_cases h2 : k = i
    · subst h2
      have : ¬ j = k := fun h => h1 h.symm
      simp [this, hi, h1]
    · have a1 : ¬ j = k := fun h => h1 h.symm
      have a2 : ¬ i = k := fun h => h2 h.symm
      simp [a1, a2, h1, h2]

theorem gt_append_replicate (a : Array EEntry) (n : Nat) (x : EEntry) (k : Nat) :
    gt (a ++ Array.replicate n x) k = if k < a.size then gt a k else if k < a.size + n then x else default := by
  simp only [gt, Array.getD_eq_getD_getElem?]
  by_cases h1 : k < a.size
  · simp [h1, Array.getElem?_append_left]
  · have h1' : a.size ≤ k := by omega
    rw [Array.getElem?_append_right h1']
    by_cases h2 : k < a.size + n
    · have : k - a.size < n := by omega
      simp [h1, h2, this]
    · have : ¬ k - a.size < n := by omega
      simp [h1, h2, this]

@[simp] theorem size_moveLoop (nf f k : Nat) (a : Array EEntry) : (moveLoop nf f k a).size = a.size := by
  induction k with
  | zero => rfl
  | succ k ih => simp [moveLoop, ih]

theorem gt_moveLoop (nf f k : Nat) (a : Array EEntry) (hd : f + k ≤ nf) (hb : nf + k ≤ a.size) :
    ∀ j, gt (moveLoop nf f k a) j =
      if nf ≤ j ∧ j < nf + k then gt a (f + (j - nf))
      else if f ≤ j ∧ j < f + k then gt a (nf + (j - f))
      else gt a j := by
  induction k with
  | zero =>
    intro j
    rw [if_neg (fun h => Nat.lt_irrefl _ (Nat.lt_of_lt_of_le h.2 h.1)),
      if_neg (fun h => Nat.lt_irrefl _ (Nat.lt_of_lt_of_le h.2 h.1))]
    rfl
  | succ k ih =>
    intro j
    have ih := ih (Nat.le_of_succ_le hd) (Nat.le_of_succ_le hb)
    have hd : f + k < nf := hd
    have hs1 : nf + k < a.size := hb
    have hs2 : f + k < a.size := Nat.lt_trans (Nat.lt_of_lt_of_le hd (Nat.le_add_right nf k)) hs1
    -- the two slots swapped in this step are still untouched
    have e1 : gt (moveLoop nf f k a) (nf + k) = gt a (nf + k) := by
      rw [ih, if_neg (fun h => Nat.lt_irrefl _ h.2),
        if_neg (fun h => Nat.lt_irrefl _ (Nat.lt_trans h.2 (Nat.lt_of_lt_of_le hd (Nat.le_add_right nf k))))]
    have e2 : gt (moveLoop nf f k a) (f + k) = gt a (f + k) := by
      rw [ih, if_neg (fun h => Nat.not_le.mpr hd h.1), if_neg (fun h => Nat.lt_irrefl _ h.2)]
    rw [moveLoop, gt_swapE _ _ _ _ (by rw [size_moveLoop]; exact hs1) (by rw [size_moveLoop]; exact hs2), e1, e2, ih j]
    by_cases c1 : j = f + k
    · have : ¬ (nf ≤ j ∧ j < nf + (k + 1)) ∧ (f ≤ j ∧ j < f + (k + 1)) := by omega
      rw [if_pos c1, if_neg this.1, if_pos this.2, c1, Nat.add_sub_cancel_left]
    · by_cases c2 : j = nf + k
      · have : nf ≤ j ∧ j < nf + (k + 1) := by omega
        rw [if_neg c1, if_pos c2, if_pos this, c2, Nat.add_sub_cancel_left]
      · rw [if_neg c1, if_neg c2]
        have : ((nf ≤ j ∧ j < nf + k) ↔ (nf ≤ j ∧ j < nf + (k + 1))) ∧
            ((f ≤ j ∧ j < f + k) ↔ (f ≤ j ∧ j < f + (k + 1))) := by omega
        simp only [this.1, this.2]

def owns (g : Graph) (v e : Nat) : Prop :=
  (gt g.nodes v).first ≤ e ∧ e < (gt g.nodes v).first + (gt g.nodes v).count

def sumCounts (nodes : Array NEntry) : Nat → Nat
  | 0 => 0
  | n + 1 => sumCounts nodes n + (gt nodes n).count

structure Inv (g : Graph) : Prop where
  size : g.nodes.size = g.numNodes + 2
  bound : ∀ v, v < g.nodes.size → (gt g.nodes v).first + (gt g.nodes v).count ≤ g.edges.size
  extra : ∀ v, g.numNodes ≤ v → (gt g.nodes v).count = 0
  /-- slices with count 0 own nothing -/
  disj : ∀ u v e, owns g u e → owns g v e → u = v
  used : ∀ v e, owns g v e → (gt g.edges e).tgt ≠ maxId
  spare : ∀ e, e < g.edges.size → (gt g.edges e).tgt ≠ maxId → ∃ v, v < g.numNodes ∧ owns g v e
  edges : g.numEdges = sumCounts g.nodes g.numNodes

theorem sumCounts_eq (nodes : Array NEntry) : ∀ n, sumCounts nodes n = sumTo (fun v => (gt nodes v).count) n
  | 0 => rfl
  | n + 1 => congrArg (· + _) (sumCounts_eq nodes n)

theorem adjList_congr (g g' : Graph) (v : Nat) (hn : gt g'.nodes v = gt g.nodes v)
    (he : ∀ e, owns g v e → gt g'.edges e = gt g.edges e) : adjList g' v = adjList g v := by
  unfold adjList edgeRange beginEdges outDegree target data
  rw [hn]
  apply List.map_congr_left
  intro e hm
  have := List.mem_range'_1.mp hm
  rw [he e ⟨this.1, this.2⟩]

/-- abstraction function: adjacency of `v` as the API shows it -/
def adjM (g : Graph) (v : Nat) : List (Nat × Int) := if v < g.numNodes then adjList g v else []

theorem adjM_slice (g : Graph) (s : Nat) (hs : s < g.numNodes) :
    adjM g s = (List.range' (gt g.nodes s).first (gt g.nodes s).count).map
      fun e => ((gt g.edges e).tgt, (gt g.edges e).data) := by
  unfold adjM
  rw [if_pos hs]
  rfl

theorem Inv.owns_lt {g : Graph} (hI : Inv g) {v e : Nat} (ho : owns g v e) : e < g.edges.size := by
  unfold owns at ho
  by_cases c : v < g.nodes.size
  · exact Nat.lt_of_lt_of_le ho.2 (hI.bound v c)
  · rw [hI.extra v (by have := hI.size; omega)] at ho
    exact absurd ho.2 (Nat.not_lt.mpr ho.1)

/-- `a'` is `a` with the live slice `[F, F+C)` replaced by the live slice `[F', F'+C')`: the live slots
    outside the old slice keep their content and lie outside the new slice, and every live slot outside the
    new slice was a live slot outside the old slice -/
structure Reslot (a a' : Array EEntry) (F C F' C' : Nat) : Prop where
  size : a.size ≤ a'.size
  bound : F' + C' ≤ a'.size
  keep : ∀ e, e < a.size → (gt a e).tgt ≠ maxId → ¬ (F ≤ e ∧ e < F + C) →
    gt a' e = gt a e ∧ ¬ (F' ≤ e ∧ e < F' + C')
  used : ∀ e, F' ≤ e → e < F' + C' → (gt a' e).tgt ≠ maxId
  spare : ∀ e, e < a'.size → (gt a' e).tgt ≠ maxId → ¬ (F' ≤ e ∧ e < F' + C') →
    e < a.size ∧ (gt a e).tgt ≠ maxId ∧ ¬ (F ≤ e ∧ e < F + C)

/-- `insert_edge` (each of its three ways of making room, and the final write) and `remove_edge` are instances -/
theorem Inv.reslice {g g' : Graph} {s F C F' C' : Nat} (hI : Inv g) (hs : s < g.numNodes)
    (hF : (gt g.nodes s).first = F) (hC : (gt g.nodes s).count = C)
    (hn : g'.nodes = st g.nodes s ⟨F', C'⟩) (hnn : g'.numNodes = g.numNodes)
    (hne : g'.numEdges + C = g.numEdges + C')
    (hr : (∀ e, F ≤ e → e < F + C → (gt g.edges e).tgt ≠ maxId) → Reslot g.edges g'.edges F C F' C') :
    Inv g' ∧ ∀ v, v ≠ s → adjM g' v = adjM g v := by
  subst hF hC
  have hr := hr fun e h1 h2 => hI.used s e ⟨h1, h2⟩
  have hsn : s < g.nodes.size := by have := hI.size; omega
  have gn : ∀ v, gt g'.nodes v = if v = s then ⟨F', C'⟩ else gt g.nodes v :=
    fun v => by rw [hn, gt_st_lt _ _ _ _ hsn]
  have ow_ne : ∀ {v : Nat} (e : Nat), v ≠ s → (owns g' v e ↔ owns g v e) := by
    intro v e hv; unfold owns; rw [gn, if_neg hv]
  have ow_s : ∀ e, owns g' s e ↔ (F' ≤ e ∧ e < F' + C') := by
    intro e; unfold owns; rw [gn, if_pos rfl]
  have live : ∀ {v : Nat} (e : Nat), v ≠ s → owns g v e →
      gt g'.edges e = gt g.edges e ∧ ¬ (F' ≤ e ∧ e < F' + C') :=
    fun {v} e hv ho => hr.keep e (hI.owns_lt ho) (hI.used v e ho) (fun h => hv (hI.disj v s e ho h))
  refine ⟨⟨?_, ?_, ?_, ?_, ?_, ?_, ?_⟩, ?_⟩
  · rw [hn, size_st, hnn]; exact hI.size
  · intro v hv
    rw [hn, size_st] at hv
    rw [gn]
    by_cases c : v = s
    · rw [if_pos c]; exact hr.bound
    · rw [if_neg c]; exact Nat.le_trans (hI.bound v hv) hr.size
  · intro v hv
    rw [hnn] at hv
    rw [gn, if_neg (by omega)]; exact hI.extra v hv
  · intro u v e h1 h2
    by_cases cu : u = s <;> by_cases cv : v = s
    · exact cu.trans cv.symm
    · subst cu
      exact absurd ((ow_s e).mp h1) (live e cv ((ow_ne e cv).mp h2)).2
    · subst cv
      exact absurd ((ow_s e).mp h2) (live e cu ((ow_ne e cu).mp h1)).2
    · exact hI.disj u v e ((ow_ne e cu).mp h1) ((ow_ne e cv).mp h2)
  · intro v e ho
    by_cases cv : v = s
    · subst cv
      have := (ow_s e).mp ho
      exact hr.used e this.1 this.2
    · have ho' := (ow_ne e cv).mp ho
      rw [(live e cv ho').1]; exact hI.used v e ho'
  · intro e hlt hl
    rw [hnn]
    by_cases c : F' ≤ e ∧ e < F' + C'
    · exact ⟨s, hs, (ow_s e).mpr c⟩
    · obtain ⟨h1, h2, h3⟩ := hr.spare e hlt hl c
      obtain ⟨v, hv, ho⟩ := hI.spare e h1 h2
      exact ⟨v, hv, (ow_ne e (fun h => h3 (h ▸ ho))).mpr ho⟩
  · have h : sumCounts g'.nodes g.numNodes + (gt g.nodes s).count = sumCounts g.nodes g.numNodes + C' := by
      have := sumTo_update (fun v => (gt g.nodes v).count) (fun v => (gt g'.nodes v).count) s
        (fun v hv => by rw [gn, if_neg hv]) g.numNodes hs
      rwa [gn, if_pos rfl, ← sumCounts_eq, ← sumCounts_eq] at this
    have := hI.edges
    rw [hnn]
    omega
  · intro v hv
    unfold adjM
    rw [hnn]
    split
    · exact adjList_congr g g' v (by rw [gn, if_neg hv]) (fun e ho => (live e hv ho).1)
    · rfl

end Tbx.DG
