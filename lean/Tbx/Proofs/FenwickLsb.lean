import Tbx.Proofs.FenwickBits
/-
`n & n.wrapping_neg()` on a w-bit word is the largest power of two dividing n: the bit formula of
`largest_power_of_two_divisor` (`lsbBits`) equals the recursive `lsb` the proofs use.
-/
namespace Tbx.Fenwick

theorem and_bits (a b i j : Nat) (hi : i < 2) (hj : j < 2) :
    (2 * a + i) &&& (2 * b + j) = 2 * (a &&& b) + (i &&& j) := by
  have hd := @Nat.and_div_two (2 * a + i) (2 * b + j)
  have hm := @Nat.and_mod_two_pow (2 * a + i) (2 * b + j) 1
  rw [Nat.mul_add_div (by decide), Nat.mul_add_div (by decide), Nat.div_eq_of_lt hi, Nat.div_eq_of_lt hj] at hd
  rw [Nat.pow_one, Nat.mul_add_mod, Nat.mul_add_mod, Nat.mod_eq_of_lt hi, Nat.mod_eq_of_lt hj] at hm
  rw [← Nat.div_add_mod (_ &&& _) 2, hd, hm]
  rfl

/-- m and its complement in w bits share no bit -/
theorem and_compl (w m m' : Nat) (h : m + m' + 1 = 2 ^ w) : m &&& m' = 0 := by
  induction w generalizing m m' with
  | zero =>
    have : m = 0 := by rw [Nat.pow_zero] at h; omega
    subst this; exact Nat.zero_and _
  | succ w ih =>
    rw [Nat.pow_succ] at h
    obtain ⟨a, rfl | rfl⟩ := binary_cases m <;> obtain ⟨a', rfl | rfl⟩ := binary_cases m'
    · omega
    · exact (and_bits a a' 0 1 (by decide) (by decide)).trans (by rw [ih a a' (by omega)]; rfl)
    · exact (and_bits a a' 1 0 (by decide) (by decide)).trans (by rw [ih a a' (by omega)]; rfl)
    · omega

/-- a positive n and its negation in w bits share exactly the lowest set bit of n -/
theorem and_neg (w n n' : Nat) (hn : 0 < n) (hn' : 0 < n') (h : n + n' = 2 ^ w) : n &&& n' = lsb n := by
  induction w generalizing n n' with
  | zero => rw [Nat.pow_zero] at h; omega
  | succ w ih =>
    rw [Nat.pow_succ] at h
    obtain ⟨a, rfl | rfl⟩ := binary_cases n <;> obtain ⟨a', rfl | rfl⟩ := binary_cases n'
    · rw [lsb_two_mul, ← ih a a' (by omega) (by omega) (by omega)]
      exact and_bits a a' 0 0 (by decide) (by decide)
    · omega
    · omega
    · rw [lsb_two_mul_add_one]
      exact (and_bits a a' 1 1 (by decide) (by decide)).trans (by rw [and_compl w a a' (by omega)]; rfl)

theorem lsbBits_eq (n : Nat) (h : n < 2 ^ 64) : lsbBits n = lsb n := by
  unfold lsbBits
  by_cases h0 : n = 0
  · subst h0; rw [Nat.zero_and, lsb_zero]
  · rw [Nat.mod_eq_of_lt (by omega)]
    exact and_neg 64 n _ (by omega) (by omega) (by omega)

end Tbx.Fenwick
