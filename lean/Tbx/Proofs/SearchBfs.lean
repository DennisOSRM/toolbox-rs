import Tbx.Proofs.SearchSound
/-
C15: with the QUEUE discipline (`popFront`) the tree path of the discovered
target has the minimal number of edges.

Ghost level function `d` (never stored by the code): `d v + 1` = length of the tree path of `v`; `BInv` holds at the
boundaries of the outer loop.  Consequence (`BInv.near`): when `u` is at the head of the queue every node
with a walk of `k ≤ d u` edges from a source is already marked — so none of them is a target.
-/
namespace Tbx.Search
open Tbx

structure BInv (g : Graph) (filt isT : Nat → Bool) (isSrc : Nat → Prop) (d : Nat → Nat) (s : S) : Prop where
  tree   : ∀ v, marked s.par v → ∃ l, Tree g filt isSrc (gt s.par) v l ∧ l.length = d v + 1
  wl     : ∀ x, x ∈ s.wl → marked s.par x
  sorted : s.wl.Pairwise (fun x y => d x ≤ d y)
  proc   : ∀ v, marked s.par v → v ∉ s.wl → ∀ w, Reach.Edge g filt v w → marked s.par w ∧ d w ≤ d v + 1
  span   : ∀ v, marked s.par v → ∀ x, x ∈ s.wl → d v ≤ d x + 1
  src    : ∀ v, isSrc v → marked s.par v ∧ d v = 0
  noT    : ∀ v, marked s.par v → isSrc v ∨ isT v = false

theorem BInv.near {g : Graph} {filt isT : Nat → Bool} {isSrc : Nat → Prop} {d : Nat → Nat} {s : S}
    (hi : BInv g filt isT isSrc d s) (u : Nat) (rest : List Nat) (hw : s.wl = u :: rest) :
    ∀ k w, Reach.Walk g filt isSrc k w → k ≤ d u → marked s.par w ∧ d w ≤ k := by
  intro k w hwalk
  induction hwalk with
  | src v hs =>
    intro _
    obtain ⟨a, b⟩ := hi.src v hs
    exact ⟨a, by omega⟩
  | step k x w _ he ih =>
    intro hk
    obtain ⟨hmx, hdx⟩ := ih (by omega)
    have hs := hi.sorted
    rw [hw, List.pairwise_cons] at hs
    have hx : x ∉ s.wl := by
      rw [hw]
      intro hmem
      rcases List.mem_cons.mp hmem with rfl | hmem
      · omega
      · have := hs.1 x hmem
        omega
    obtain ⟨a, b⟩ := hi.proc x hmx hx w he
    exact ⟨a, by omega⟩

theorem BInv.step {g : Graph} {filt isT : Nat → Bool} {isSrc : Nat → Prop} {d : Nat → Nat} {s s1 : S}
    (hi : BInv g filt isT isSrc d s) (u : Nat) (rest news : List Nat) (hw : s.wl = u :: rest)
    (hd : Disc filt u (g u) { s with wl := rest } s1 news) (hw1 : s1.wl = rest ++ news)
    (hT : ∀ v, v ∈ news → isT v = false)
    (hm : ∀ v e, (v, e) ∈ g u → filt e = false → marked s1.par v) :
    BInv g filt isT isSrc (fun x => if x ∈ news then d u + 1 else d x) s1 := by
  have mk := hd.marked_iff
  simp only at mk
  have hu : marked s.par u := hi.wl u (by rw [hw]; simp)
  have hold : ∀ x, marked s.par x → x ∉ news := by
    intro x hx hn
    have := (hd.fresh x hn).1
    simp only at this
    unfold marked at hx; rw [this] at hx; cases hx
  have hs := hi.sorted
  rw [hw, List.pairwise_cons] at hs
  have hrest : ∀ x, x ∈ rest → marked s.par x := fun x hx => hi.wl x (by rw [hw]; simp [hx])
  have hub : ∀ v, marked s.par v → d v ≤ d u + 1 := fun v hv => hi.span v hv u (by rw [hw]; simp)
  obtain ⟨lu, hlu, hlen⟩ := hi.tree u hu
  constructor
  · intro v hv
    rcases (mk v).mp hv with h1 | h1
    · refine ⟨lu ++ [v], hd.tree_new hlu h1, ?_⟩
      simp [h1, hlen]
    · obtain ⟨l, hl, hl2⟩ := hi.tree v h1
      refine ⟨l, hd.tree_old hl, ?_⟩
      simp [hold v h1, hl2]
  · exact hd.wl_marked popFront_ok (by rw [hw]; rfl) hw1 hi.wl
  · rw [hw1, List.pairwise_append]
    refine ⟨?_, ?_, ?_⟩
    · apply List.Pairwise.imp_of_mem _ hs.2
      intro a b ha hb hab
      simp only [hold a (hrest a ha), hold b (hrest b hb), if_false]
      exact hab
    · apply List.pairwise_of_forall_mem_list
      intro a ha b hb
      simp [ha, hb]
    · intro a ha b hb
      simp only [hold a (hrest a ha), hb, if_false, if_true]
      exact hub a (hrest a ha)
  · intro v hv hnw w he
    rw [hw1] at hnw
    have hvn : v ∉ news := fun h => hnw (List.mem_append_right _ h)
    have hvr : v ∉ rest := fun h => hnw (List.mem_append_left _ h)
    have hvm : marked s.par v := by
      rcases (mk v).mp hv with h1 | h1
      · exact absurd h1 hvn
      · exact h1
    simp only [hvn, if_false]
    by_cases hvu : v = u
    · subst hvu
      obtain ⟨e, he1, he2⟩ := he
      have hmw := hm w e he1 he2
      refine ⟨hmw, ?_⟩
      by_cases hwn : w ∈ news
      · simp [hwn]
      · simp only [hwn, if_false]
        rcases (mk w).mp hmw with h1 | h1
        · exact absurd h1 hwn
        · exact hub w h1
    · have hvwl : v ∉ s.wl := by
        rw [hw]
        intro hmem
        rcases List.mem_cons.mp hmem with h1 | h1
        · exact hvu h1
        · exact hvr h1
      obtain ⟨a, b⟩ := hi.proc v hvm hvwl w he
      refine ⟨(mk w).mpr (Or.inr a), ?_⟩
      simp only [hold w a, if_false]
      exact b
  · intro v hv x hx
    rw [hw1] at hx
    have hlow : d u ≤ (if x ∈ news then d u + 1 else d x) := by
      rcases List.mem_append.mp hx with h1 | h1
      · simp only [hold x (hrest x h1), if_false]
        exact hs.1 x h1
      · simp [h1]
    have hup : (if v ∈ news then d u + 1 else d v) ≤ d u + 1 := by
      rcases (mk v).mp hv with h1 | h1
      · simp [h1]
      · simp only [hold v h1, if_false]
        exact hub v h1
    omega
  · intro v hv
    obtain ⟨a, b⟩ := hi.src v hv
    refine ⟨(mk v).mpr (Or.inr a), ?_⟩
    simp only [hold v a, if_false]
    exact b
  · intro v hv
    rcases (mk v).mp hv with h1 | h1
    · exact Or.inr (hT v h1)
    · exact hi.noT v h1

theorem loop_bfs (g : Graph) (filt isT : Nat → Bool) (isSrc : Nat → Prop)
    (hdisj : ∀ v, isSrc v → isT v = false)
    (fuel : Nat) (s s' : S) (t : Nat) (d : Nat → Nat) (hi : BInv g filt isT isSrc d s)
    (h : loop g filt isT popFront fuel s = .done (some t) s') :
    isT t = true ∧ ∃ l, Tree g filt isSrc (gt s'.par) t l ∧
      Reach.NoShorter g filt isSrc (fun v => isT v = true) (l.length - 1) := by
  fun_induction loop g filt isT popFront fuel s generalizing d with
  | case1 | case2 | case3 | case4 => cases h
  | case5 _ s u rest hpop _ _ t' _ he =>
    cases h
    have hw := popFront_some hpop
    obtain ⟨news, hd, hmem, hTt⟩ := edges_found filt isT u _ (g u) _ _ t he
    obtain ⟨lu, hlu, hlen⟩ := hi.tree u (hi.wl u (by rw [hw]; simp))
    refine ⟨hTt, lu ++ [t], hd.tree_new hlu hmem, ?_⟩
    intro k w hk hwalk hTw
    have hk' : k ≤ d u := by simp [hlen] at hk; omega
    obtain ⟨hmw, _⟩ := hi.near u rest hw k w hwalk hk'
    rcases hi.noT w hmw with h1 | h1
    · rw [hdisj w h1] at hTw; cases hTw
    · rw [h1] at hTw; cases hTw
  | case6 _ s u rest hpop _ _ s1 he ih =>
    obtain ⟨news, hd, hw1, hT, hm⟩ := edges_cont filt isT u _ (g u) _ s1 he
    exact ih _ (hi.step u rest news (popFront_some hpop) hd hw1 hT hm) h

theorem init_BInv (g : Graph) (filt isT : Nat → Bool) (sr : Searcher) (par : Array (Option Nat))
    (h : resetParents sr = some par) :
    BInv g filt isT (· ∈ sr.sources) (fun _ => 0) { par := par, wl := sr.sources } := by
  have hs := init_SInv g filt sr par h
  have hm := init_marked sr par h
  constructor
  · intro v hv
    have hsv : v ∈ sr.sources := (hm v).mp hv
    obtain ⟨_, _, h3⟩ := resetParents_spec sr par h
    exact ⟨[v], .root v hsv (by simp only; rw [h3 v]; simp [hsv]), rfl⟩
  · exact hs.wl
  · exact List.pairwise_of_forall (fun _ _ => Nat.le_refl 0)
  · intro v hv hn; exact absurd ((hm v).mp hv) hn
  · intro v _ x _; omega
  · intro v hv; exact ⟨(hm v).mpr hv, rfl⟩
  · intro v hv; exact Or.inl ((hm v).mp hv)

end Tbx.Search
