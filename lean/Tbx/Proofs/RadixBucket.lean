import Tbx.Proofs.RadixArith
/-
Bucket-level lemmas (C17): a pass is stable (`pass_stable`), hence a permutation; it orders by the rank of the
bucket and, inside a bucket, keeps whatever order the list had (`pass_lex`); skipped rounds are the identity.
-/
namespace Tbx.Radix
open Tbx Tbx.SortSpec

theorem flatMap_single {β : Type} (bo : List Nat) (f : Nat → List β) (b : Nat) (hnd : bo.Nodup) (hb : b ∈ bo)
    (hz : ∀ b' ∈ bo, b' ≠ b → f b' = []) : bo.flatMap f = f b := by
  induction bo with
  | nil => cases hb
  | cons c bo ih =>
    rw [List.flatMap_cons]
    rw [List.nodup_cons] at hnd
    rcases List.mem_cons.mp hb with rfl | hb'
    · have : bo.flatMap f = [] := by
        rw [List.flatMap_eq_nil_iff]
        intro b' hb'
        exact hz b' (List.mem_cons_of_mem _ hb') (fun h => hnd.1 (h ▸ hb'))
      rw [this, List.append_nil]
    · have hc : f c = [] := hz c List.mem_cons_self (fun h => hnd.1 (h ▸ hb'))
      rw [hc, List.nil_append]
      exact ih hnd.2 hb' (fun b' h1 h2 => hz b' (List.mem_cons_of_mem _ h1) h2)

theorem mem_bucketOrder (t : Ty) (k b : Nat) : b ∈ bucketOrder t k ↔ b < 256 := by
  unfold bucketOrder
  split
  · rw [List.mem_append, List.mem_range'_1, List.mem_range'_1]; omega
  · rw [List.mem_range'_1]; omega

theorem rank_lt (t : Ty) (k b : Nat) (hb : b < 256) : rank t k b < 256 := by
  unfold rank; split <;> omega

theorem bucketOrder_map_rank (t : Ty) (k : Nat) : (bucketOrder t k).map (rank t k) = List.range' 0 256 := by
  unfold bucketOrder rank
  split
  · decide +kernel
  · exact List.map_id' _

theorem bucketOrder_pairwise_rank (t : Ty) (k : Nat) :
    (bucketOrder t k).Pairwise (fun b1 b2 => rank t k b1 < rank t k b2) :=
  List.pairwise_map.1 (bucketOrder_map_rank t k ▸ List.pairwise_lt_range')

theorem bucketOrder_nodup (t : Ty) (k : Nat) : (bucketOrder t k).Nodup :=
  (bucketOrder_pairwise_rank t k).imp fun {a b} h (e : a = b) => Nat.lt_irrefl _ (e ▸ h)

theorem pass_stable (t : Ty) (k : Nat) (xs : List Nat) (b : Nat) (hb : b < 256) :
    (pass t k xs).filter (fun x => key t x k == b) = bucket t k b xs := by
  unfold pass bucket
  rw [List.filter_flatMap, flatMap_single _ _ b (bucketOrder_nodup t k) ((mem_bucketOrder t k b).2 hb)]
  · rw [List.filter_filter]
    congr 1
    funext x
    simp
  · intro b' _ hne
    rw [List.filter_filter, List.filter_eq_nil_iff]
    intro x _
    simp only [Bool.and_eq_true, beq_iff_eq, not_and]
    intro h1 h2
    exact hne (h2 ▸ h1)

/-- every bucket keeps its elements, so the pass keeps every count -/
theorem pass_perm (t : Ty) (k : Nat) (xs : List Nat) : (pass t k xs).Perm xs := by
  rw [List.perm_iff_count]
  intro a
  rw [← List.count_filter (p := fun x => key t x k == key t a k) (l := pass t k xs) (by simp),
    pass_stable t k xs _ (key_lt t a k)]
  exact List.count_filter (by simp)

theorem pass_lex (t : Ty) (k : Nat) (xs : List Nat) {R : Nat → Nat → Prop} (h : xs.Pairwise R) :
    (pass t k xs).Pairwise (fun a b => rank t k (key t a k) < rank t k (key t b k) ∨ key t a k = key t b k ∧ R a b) := by
  unfold pass bucket
  rw [List.pairwise_flatMap]
  refine ⟨fun b _ => (h.sublist List.filter_sublist).imp_of_mem ?_, (bucketOrder_pairwise_rank t k).imp ?_⟩
  · intro x y hx hy hxy
    rw [List.mem_filter] at hx hy
    exact Or.inr ⟨(eq_of_beq hx.2).trans (eq_of_beq hy.2).symm, hxy⟩
  · intro b1 b2 hr x hx y hy
    rw [List.mem_filter] at hx hy
    rw [eq_of_beq hx.2, eq_of_beq hy.2]
    exact Or.inl hr

theorem pass_grouped (t : Ty) (k : Nat) (xs : List Nat) :
    (pass t k xs).Pairwise (fun a b => rank t k (key t a k) ≤ rank t k (key t b k)) :=
  (pass_lex t k xs (List.pairwise_of_forall fun _ _ => trivial)).imp fun h =>
    h.elim Nat.le_of_lt fun e => Nat.le_of_eq (congrArg (rank t k) e.1)

theorem skipRound_iff (t : Ty) (k : Nat) (xs : List Nat) :
    skipRound t k xs = true ↔ ∃ b, b < 256 ∧ xs.countP (fun x => key t x k == b) = xs.length := by
  unfold skipRound
  rw [List.any_eq_true]
  constructor
  · rintro ⟨b, hb, h⟩
    rw [List.mem_range'_1] at hb
    exact ⟨b, by omega, by simpa using h⟩
  · rintro ⟨b, hb, h⟩
    exact ⟨b, by rw [List.mem_range'_1]; omega, by simpa using h⟩

theorem pass_of_all_eq (t : Ty) (k : Nat) (l : List Nat) (b : Nat) (hb : b < 256)
    (h : ∀ x ∈ l, key t x k = b) : pass t k l = l := by
  have hs := pass_stable t k l b hb
  rw [bucket, List.filter_eq_self.2 fun x hx => beq_iff_eq.2 (h x hx),
    List.filter_eq_self.2 fun x hx => beq_iff_eq.2 (h x ((pass_perm t k l).subset hx))] at hs
  exact hs

theorem pass_of_skip (t : Ty) (k : Nat) (xs : List Nat) (h : skipRound t k xs = true) (l : List Nat) (hp : l.Perm xs) :
    pass t k l = l := by
  rcases (skipRound_iff t k xs).1 h with ⟨b, hb, hc⟩
  rw [List.countP_eq_length] at hc
  exact pass_of_all_eq t k l b hb (fun x hx => by simpa using hc x (hp.subset hx))

theorem skipRound_perm (t : Ty) (k : Nat) (xs l : List Nat) (hp : l.Perm xs) :
    skipRound t k l = skipRound t k xs := by
  unfold skipRound
  congr 1
  funext b
  rw [hp.countP_eq, hp.length_eq]

end Tbx.Radix
