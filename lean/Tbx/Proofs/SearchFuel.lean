import Tbx.Proofs.SearchBasic
/-
C15: totality of the model on the property's domain.
* the fuel `sources.length + number_of_nodes + 1` that `runWith` passes is sufficient (potential: queue length +
  number of unmarked nodes `unm` drops by exactly one per iteration of the outer loop);
* on a graph whose edge targets are all below `number_of_nodes` no panic branch is reached.
-/
namespace Tbx.Search
open Tbx

def PopLen (pop : List Nat → Option (Nat × List Nat)) : Prop :=
  ∀ l u rest, pop l = some (u, rest) → rest.length + 1 = l.length

theorem popFront_len : PopLen popFront := fun _ _ _ h => by rw [popFront_some h]; rfl

theorem popBack_len : PopLen popBack := fun _ _ _ h => by rw [popBack_some h, List.length_append]; rfl

def unm (par : Array (Option Nat)) : Nat :=
  ((List.range par.size).filter (fun i => (gt par i).isNone)).length

theorem unm_le (par : Array (Option Nat)) : unm par ≤ par.size := by
  unfold unm
  have := List.length_filter_le (fun i => (gt par i).isNone) (List.range par.size)
  simpa using this

theorem unm_lt {par : Array (Option Nat)} {v : Nat} (h : marked par v) : unm par < par.size := by
  have := List.length_filter_lt_length_iff_exists (p := fun i => (gt par i).isNone) (l := List.range par.size)
  rw [List.length_range] at this
  exact this.mpr ⟨v, List.mem_range.mpr (marked_lt _ _ h), by
    rw [marked] at h; rw [Option.isNone_eq_false_iff.mpr h]; exact Bool.false_ne_true⟩

theorem Disc.count {filt : Nat → Bool} {u : Nat} {vs : List (Nat × Nat)} {s s' : S} {news : List Nat}
    (hd : Disc filt u vs s s' news) : unm s'.par + news.length = unm s.par := by
  -- the unmarked nodes before the pass are, up to order, `news` followed by the unmarked nodes after it
  unfold unm
  rw [hd.size]
  have hn1 : ((List.range s.par.size).filter (fun i => (gt s.par i).isNone)).Nodup :=
    List.Nodup.sublist List.filter_sublist List.nodup_range
  have hn2 : (news ++ (List.range s.par.size).filter (fun i => (gt s'.par i).isNone)).Nodup := by
    rw [List.nodup_append]
    refine ⟨hd.nodup, List.Nodup.sublist List.filter_sublist List.nodup_range, ?_⟩
    intro a ha b hb hab
    subst hab
    simp only [List.mem_filter] at hb
    have := hb.2
    rw [hd.par a] at this
    simp [ha] at this
  have hp := (List.perm_ext_iff_of_nodup hn1 hn2).mpr (by
    intro x
    simp only [List.mem_filter, List.mem_range, List.mem_append]
    rw [hd.par x]
    constructor
    · rintro ⟨h1, h2⟩
      by_cases hx : x ∈ news
      · exact Or.inl hx
      · right; simp only [hx, if_false]; exact ⟨h1, h2⟩
    · rintro (h1 | ⟨h1, h2⟩)
      · obtain ⟨a, b, _⟩ := hd.fresh x h1
        exact ⟨b, by rw [a]; rfl⟩
      · by_cases hx : x ∈ news
        · simp [hx] at h2
        · simp only [hx, if_false] at h2; exact ⟨h1, h2⟩)
  have := hp.length_eq
  simp only [List.length_append] at this
  omega

theorem loop_ne_fuel (g : Graph) (filt isT : Nat → Bool) (pop : List Nat → Option (Nat × List Nat))
    (hp : PopLen pop) (fuel : Nat) (s : S) (hf : s.wl.length + unm s.par < fuel) :
    loop g filt isT pop fuel s ≠ .fuel := by
  fun_induction loop g filt isT pop fuel s with
  | case1 => exact absurd hf (Nat.not_lt_zero _)
  | case2 | case3 | case4 | case5 => exact LR.noConfusion
  | case6 _ s u rest hpop _ _ s1 he ih =>
    have hl := hp _ _ _ hpop
    obtain ⟨news, hd, hw, _, _⟩ := edges_cont filt isT u _ (g u) _ s1 he
    have hc := hd.count
    simp only at hc hw
    apply ih
    rw [hw, List.length_append]
    omega

theorem edges_ne_panic (filt isT : Nat → Bool) (u : Nat) (b : Bool) (vs : List (Nat × Nat)) (s : S)
    (hv : ∀ v e, (v, e) ∈ vs → v < s.par.size) : edges filt isT u b vs s ≠ .panic := by
  fun_induction edges filt isT u b vs s with
  | case1 | case5 => exact ER.noConfusion
  | case2 v e rest s _ ih | case4 v e rest s _ _ _ ih => exact ih fun v' e' h => hv v' e' (List.mem_cons_of_mem _ h)
  | case3 v e rest s _ hlt => exact absurd (hv v e List.mem_cons_self) (Nat.not_lt.mpr hlt)
  | case6 v e rest s _ _ _ _ _ ih =>
    exact ih fun v' e' h => by rw [size_st]; exact hv v' e' (List.mem_cons_of_mem _ h)

theorem loop_ne_panic (g : Graph) (filt isT : Nat → Bool) (pop : List Nat → Option (Nat × List Nat))
    (hp : PopOK pop) (fuel : Nat) (s : S)
    (hg : ∀ u v e, u < s.par.size → (v, e) ∈ g u → v < s.par.size)
    (hwl : ∀ x, x ∈ s.wl → marked s.par x) :
    loop g filt isT pop fuel s ≠ .panic := by
  fun_induction loop g filt isT pop fuel s with
  | case1 | case2 | case5 => exact LR.noConfusion
  | case3 _ s u rest hpop hu =>
    exact absurd (marked_lt _ _ (hwl u ((hp.2 _ _ _ hpop u).mpr (Or.inl rfl)))) (Nat.not_lt.mpr hu)
  | case4 _ s u rest _ hu _ he =>
    exact absurd he (edges_ne_panic filt isT u _ (g u) _ (fun v e h => hg u v e (Nat.lt_of_not_le hu) h))
  | case6 _ s u rest hpop _ _ s1 he ih =>
    obtain ⟨news, hd, hw, _, _⟩ := edges_cont filt isT u _ (g u) _ s1 he
    exact ih (by rw [hd.size]; exact hg) (hd.wl_marked hp hpop hw hwl)

end Tbx.Search
