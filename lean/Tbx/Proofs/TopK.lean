import Tbx.Model.TopK
import Tbx.Proofs.Sorting
/-
`top_k xs k = (sort xs).take k`, for any `select_nth_unstable` / `sort_unstable` that satisfy their
contracts.  The selection may run at any buffer length `limit ≥ k` (the Rust uses 2k, saturated at usize::MAX).
The loop is read through what it still has to deliver (buf = the vector, xs = the items to come, th = threshold): the
k smallest of its result are the k smallest of `buf ++ xs`.  Every step leaves in the buffer the k smallest of
`buf ++ [x]`, and the k smallest of `a ++ c` depend on `a` only through its k smallest (`take_isort_append`); if a
threshold t is set, buf has at least k items and its k smallest are all ≤ t (`Thr`).
-/
namespace Tbx.TopK
open Tbx.Sorting

theorem take_ins_take (x : Int) (s : List Int) (k : Nat) :
    (ins x s).take k = (ins x (s.take k)).take k := by
  induction s generalizing k with
  | nil => simp
  | cons y ys ih =>
    cases k with
    | zero => simp
    | succ k =>
      simp only [List.take_succ_cons, ins]
      split
      · simp only [List.take_succ_cons]
        congr 1
        cases k with
        | zero => simp
        | succ k => simp [List.take_take]
      · simp only [List.take_succ_cons]
        rw [ih k]

theorem take_ins_of_le (x : Int) (s : List Int) (k : Nat) (h : ∀ y ∈ s.take k, y ≤ x) (hk : k ≤ s.length) :
    (ins x s).take k = s.take k := by
  induction s generalizing k with
  | nil => simp at hk; subst hk; simp
  | cons y ys ih =>
    cases k with
    | zero => simp
    | succ k =>
      have hy : y ≤ x := h y (by simp)
      have : ¬ (x < y) := by omega
      simp only [ins, if_neg this, List.take_succ_cons]
      rw [ih k (fun z hz => h z (by simp [hz])) (by simpa using hk)]

theorem isort_snoc (l : List Int) (x : Int) : isort (l ++ [x]) = ins x (isort l) := by
  have : (l ++ [x]).Perm (x :: l) := List.perm_append_comm
  rw [isort_congr this]; rfl

theorem mem_isort {l : List Int} {y : Int} : y ∈ isort l ↔ y ∈ l := (isort_perm l).mem_iff

theorem isort_append_of_le (a c : List Int) (h : ∀ x ∈ a, ∀ y ∈ c, x ≤ y) :
    isort (a ++ c) = isort a ++ isort c := by
  symm
  rw [eq_isort_iff]
  constructor
  · unfold Sorted
    rw [List.pairwise_append]
    exact ⟨isort_sorted a, isort_sorted c, fun x hx y hy => h x (mem_isort.mp hx) y (mem_isort.mp hy)⟩
  · exact (isort_perm a).append (isort_perm c)

/-- the k smallest of `a ++ c` depend on `a` only through its k smallest -/
theorem take_isort_append (k : Nat) (c : List Int) : ∀ (a b : List Int), (isort a).take k = (isort b).take k →
    (isort (a ++ c)).take k = (isort (b ++ c)).take k := by
  induction c with
  | nil => intro a b h; simpa using h
  | cons x c ih =>
    intro a b h
    rw [List.append_cons a, List.append_cons b]
    apply ih
    rw [isort_snoc, isort_snoc, take_ins_take x (isort a), take_ins_take x (isort b), h]

/-- a threshold `t`, if set, bounds the k smallest of a buffer that holds at least k items -/
def Thr (k : Nat) (buf : List Int) (th : Option Int) : Prop :=
  ∀ t, th = some t → k ≤ buf.length ∧ ∀ y ∈ (isort buf).take k, y ≤ t

/-- the selection step: keep the k smallest, remember the k-th smallest as threshold -/
theorem select_spec (S : Std) (hsel : SelectContract S.selectNth) (k limit : Nat) (hk : 0 < k) (hlim : k ≤ limit)
    (buf : List Int) (hfull : buf.length = limit) :
    (isort ((S.selectNth buf (k - 1)).take k)).take k = (isort buf).take k ∧
    Thr k ((S.selectNth buf (k - 1)).take k) (S.selectNth buf (k - 1))[k - 1]? := by
  have hk1 : k - 1 < limit := Nat.lt_of_lt_of_le (Nat.sub_lt hk Nat.one_pos) hlim
  obtain ⟨hperm, hc⟩ := hsel buf (k - 1) (hfull ▸ hk1)
  generalize S.selectNth buf (k - 1) = b at hperm hc ⊢
  have hblen : b.length = limit := by rw [hperm.length_eq, hfull]
  have hm : b[k - 1]? = some (b[k - 1]'(hblen ▸ hk1)) := List.getElem?_eq_getElem _
  generalize b[k - 1]'(hblen ▸ hk1) = m at hm
  obtain ⟨hlo, hhi⟩ := hc m hm
  have htk : ∀ y ∈ b.take k, y ≤ m := by
    intro y hy
    obtain ⟨j, hj⟩ := List.mem_iff_getElem?.mp hy
    rw [List.getElem?_take] at hj
    split at hj
    · rename_i hjk
      by_cases hj1 : j < k - 1
      · exact hlo j y hj1 hj
      · have : j = k - 1 := by omega
        subst this
        rw [hm] at hj; cases hj; exact Int.le_refl _
    · cases hj
  have hdk : ∀ y ∈ b.drop k, m ≤ y := by
    intro y hy
    obtain ⟨j, hj⟩ := List.mem_iff_getElem?.mp hy
    rw [List.getElem?_drop] at hj
    exact hhi (k + j) y (Nat.lt_of_lt_of_le (Nat.sub_lt hk Nat.one_pos) (Nat.le_add_right k j)) hj
  have hlen : (b.take k).length = k := by rw [List.length_take, hblen]; exact Nat.min_eq_left hlim
  have hsplit : isort b = isort (b.take k) ++ isort (b.drop k) := by
    rw [← isort_append_of_le _ _ (fun x hx y hy => Int.le_trans (htk x hx) (hdk y hy)),
      List.take_append_drop]
  refine ⟨?_, ?_⟩
  · rw [← isort_congr hperm, hsplit, List.take_left' (by rw [length_isort, hlen])]
    exact List.take_of_length_le (by rw [length_isort, hlen]; exact Nat.le_refl _)
  · intro t ht
    rw [hm] at ht; cases ht
    exact ⟨Nat.le_of_eq hlen.symm, fun y hy => htk y (mem_isort.mp (List.mem_of_mem_take hy))⟩

theorem loop_spec (S : Std) (hsel : SelectContract S.selectNth) (k limit : Nat) (hk : 0 < k) (hlim : k ≤ limit)
    (xs buf : List Int) (th : Option Int) (hI : Thr k buf th) :
    (isort (loop S k limit xs buf th)).take k = (isort (buf ++ xs)).take k := by
  induction xs generalizing buf th with
  | nil => simp [loop]
  | cons x xs ih =>
    rw [List.append_cons]
    unfold loop
    have hsel' : (buf ++ [x]).length = limit → _ := select_spec S hsel k limit hk hlim (buf ++ [x])
    cases hth : th with
    | some t =>
      obtain ⟨hlen, hle⟩ := hI t hth
      by_cases hskip : x ≥ t
      · -- the item is skipped: it cannot be among the k smallest
        simp only [hskip, decide_true, if_true]
        rw [← hth, ih buf th hI]
        apply take_isort_append
        rw [isort_snoc]
        exact (take_ins_of_le x _ k (fun y hy => Int.le_trans (hle y hy) hskip) (by rw [length_isort]; exact hlen)).symm
      · simp only [hskip, decide_false, Bool.false_eq_true, if_false]
        by_cases hfull : (buf ++ [x]).length = limit
        · simp only [hfull, if_true]
          rw [ih _ _ (hsel' hfull).2]
          exact take_isort_append k xs _ _ (hsel' hfull).1
        · simp only [hfull, if_false]
          rw [← hth]
          apply ih
          intro t' ht'
          rw [hth] at ht'; cases ht'
          refine ⟨by simp; omega, ?_⟩
          intro y hy
          rw [isort_snoc, take_ins_take] at hy
          rcases mem_ins.mp (List.mem_of_mem_take hy) with rfl | hy'
          · omega
          · exact hle y hy'
    | none =>
      simp only [Bool.false_eq_true, if_false]
      by_cases hfull : (buf ++ [x]).length = limit
      · simp only [hfull, if_true]
        rw [ih _ _ (hsel' hfull).2]
        exact take_isort_append k xs _ _ (hsel' hfull).1
      · simp only [hfull, if_false]
        exact ih _ _ (fun t' ht' => by cases ht')

theorem le_limitOf (k : Nat) (hk : k ≤ usizeMax) : k ≤ limitOf k := by
  unfold limitOf; split <;> omega

theorem topK_eq (S : Std) (hsel : SelectContract S.selectNth) (hsort : SortContract S.sortUnstable)
    (xs : List Int) (k : Nat) (hku : k ≤ usizeMax) : topK S xs k = (isort xs).take k := by
  unfold topK
  by_cases hk : k = 0
  · simp [hk]
  · rw [if_neg hk]
    rw [(eq_isort_iff _ _).mpr (hsort _), loop_spec S hsel k (limitOf k) (by omega) (le_limitOf k hku) xs [] none
      (fun t ht => by cases ht)]
    simp

end Tbx.TopK
