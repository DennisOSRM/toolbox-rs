import Tbx.Proofs.FlowBuild
/-
Two more structural properties of the residual graph the constructors build (second half of `merge_cap`):
(source,target) pairs are unique (`Uniq`, FlowGraph.lean) — `find_edge_unchecked` is a function — and every edge
has its reverse (`RevClosed`).  Shown for the CSR graph of any merged list (`mergedList_uniq_rev`), hence for both
constructors.  Needed for the termination proofs (the bottleneck edge found by `find_edge_unchecked` is the positive
one; the reverse edge exists).
-/
namespace Tbx.Flow
open Tbx

theorem csr_uniq (L : List Edge) (hlt : L.Pairwise LtK) : Uniq (csr L) := by
  have hs := LtK.srcSorted hlt
  intro u e1 e2 r1 r2 ht
  by_cases hu : u ≤ maxId L
  · obtain ⟨l1, s1⟩ := (csr_inRange L hs u e1 hu).mp r1
    obtain ⟨l2, s2⟩ := (csr_inRange L hs u e2 hu).mp r2
    rw [csr_tgt, csr_tgt] at ht
    have key : ∀ i j, i < j → j < L.length → (L.getD i default).src = (L.getD j default).src →
        (L.getD i default).tgt = (L.getD j default).tgt → False := by
      intro i j hij hj hs' ht'
      have hi : i < L.length := Nat.lt_trans hij hj
      have := (List.pairwise_iff_getElem.mp hlt) i j hi hj hij
      simp only [List.getD_eq_getElem?_getD, List.getElem?_eq_getElem hj,
        List.getElem?_eq_getElem hi, Option.getD_some] at hs' ht'
      rcases this with h | ⟨_, h⟩
      · exact Nat.ne_of_lt h hs'
      · exact Nat.ne_of_lt h ht'
    rcases Nat.lt_trichotomy e1 e2 with h | h | h
    · exact (key e1 e2 h l2 (by rw [s1, s2]) ht).elim
    · exact h
    · exact (key e2 e1 h l1 (by rw [s1, s2]) ht.symm).elim
  · exact absurd (Nat.le_of_lt_succ (Nat.lt_of_lt_of_eq r1.src_lt (csr_numNodes L hs))) hu

theorem csr_revClosed (L : List Edge) (hs : SrcSorted L) (hrev : ∀ u v, HasKey L u v → HasKey L v u) :
    RevClosed (csr L) := by
  intro u e hu r
  have hu' : u ≤ maxId L := by rw [csr_numNodes L hs] at hu; omega
  obtain ⟨l1, s1⟩ := (csr_inRange L hs u e hu').mp r
  obtain ⟨y', hy', a, b⟩ := hrev _ _ ⟨_, getD_mem L e default l1, rfl, rfl⟩
  obtain ⟨i, hi, hget⟩ := List.mem_iff_getElem.mp hy'
  have hgi : L.getD i default = y' := by
    rw [List.getD_eq_getElem?_getD, List.getElem?_eq_getElem hi]; simp [hget]
  have hv : (L.getD e default).tgt ≤ maxId L := (le_maxId L _ (getD_mem L e default l1)).2
  refine ⟨i, ?_, ?_⟩
  · rw [csr_tgt]
    exact (csr_inRange L hs _ i hv).mpr ⟨hi, by rw [hgi, a]⟩
  · rw [csr_tgt, hgi, b, s1]

theorem mergedList_uniq_rev (le : Edge → Edge → Bool) (hle : KeyLe le) (es : List Edge) :
    Uniq (csr (mergedList le es)) ∧ RevClosed (csr (mergedList le es)) :=
  have hlt := mergedList_ltK le hle es
  ⟨csr_uniq _ hlt, csr_revClosed _ (LtK.srcSorted hlt) fun u v h =>
    (hasKey_mergedList le es v u).mpr ((hasKey_mergedList le es u v).mp h).symm⟩

theorem residualDinic_uniq_rev (es : List Edge) : Uniq (residualDinic es) ∧ RevClosed (residualDinic es) :=
  mergedList_uniq_rev leST leST_keyLe es

theorem residualEK_uniq_rev (es : List Edge) : Uniq (residualEK es) ∧ RevClosed (residualEK es) := by
  rw [residualEK_eq]; exact mergedList_uniq_rev leOrd leOrd_keyLe es

end Tbx.Flow
