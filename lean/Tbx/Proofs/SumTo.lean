import Tbx.Model.Arr
/-
Finite sums and counts over an initial segment of the naturals (core Lean only):
`sumTo f n = Σ_{i<n} f i` and `cntTo p n = #{i<n | p i}`, with the congruence, bound and single-point-update lemmas,
and what one array write does to such a sum.

Several slices define a counting measure by the same recursion, each over its own summand: `HashTable.cnt f`
(`cntTo (f · = true)`), `LoserTree.cnt lv` (`cntTo fun i => (gt lv i).isSome`), `Flow.cntP p a`
(`cntTo fun i => p (gt a i)`), `DG.sumCounts nodes` (`sumTo fun v => (gt nodes v).count`).  Each is tied to
`sumTo`/`cntTo` next to its definition by a lemma `cnt_eq` / `cntP_eq` / `sumCounts_eq` of the form
`| 0 => rfl | n + 1 => congrArg (· + _) (cnt_eq f n)` (the two recursions unfold to the same term, so only the
recursive call is rewritten); `cntTo` takes a `Prop` so that this works for `Bool`- and `Prop`-valued tests alike.
The proofs about the measures then use the lemmas below and have no induction of their own.  The C16 files use
`sumTo` as it stands (sums of out-degrees, the fuel of the DFS loops: `sumTo_slot`) and count over `List.range`
(`countP_range`).
-/
namespace Tbx

def sumTo (f : Nat → Nat) : Nat → Nat
  | 0 => 0
  | k + 1 => sumTo f k + f k

theorem sumTo_le (f h : Nat → Nat) : ∀ k, (∀ i, i < k → f i ≤ h i) → sumTo f k ≤ sumTo h k := by
  intro k
  induction k with
  | zero => intro _; exact Nat.le_refl _
  | succ k ih =>
    intro hh
    exact Nat.add_le_add (ih fun i hi => hh i (Nat.lt_succ_of_lt hi)) (hh k (Nat.lt_succ_self k))

theorem sumTo_congr (f h : Nat → Nat) (k : Nat) (hh : ∀ i, i < k → f i = h i) : sumTo f k = sumTo h k :=
  Nat.le_antisymm (sumTo_le _ _ _ fun i hi => Nat.le_of_eq (hh i hi)) (sumTo_le _ _ _ fun i hi => Nat.le_of_eq (hh i hi).symm)

theorem sumTo_const (f : Nat → Nat) (c k : Nat) (h : ∀ i, i < k → f i = c) : sumTo f k = k * c := by
  induction k with
  | zero => exact (Nat.zero_mul c).symm
  | succ k ih => rw [sumTo, ih fun i hi => h i (Nat.lt_succ_of_lt hi), h k (Nat.lt_succ_self k), Nat.succ_mul]

theorem le_sumTo (f : Nat → Nat) (t : Nat) : ∀ k, t < k → f t ≤ sumTo f k := by
  intro k
  induction k with
  | zero => exact fun h => absurd h (Nat.not_lt_zero t)
  | succ k ih =>
    intro hk
    by_cases htk : t = k
    · exact htk ▸ Nat.le_add_left _ _
    · exact Nat.le_trans (ih (Nat.lt_of_le_of_ne (Nat.le_of_lt_succ hk) htk)) (Nat.le_add_right _ _)

theorem sumTo_telescope (F : Nat → Nat) : ∀ n, (∀ j, j < n → F j ≤ F (j + 1)) →
    sumTo (fun j => F (j + 1) - F j) n + F 0 = F n := by
  intro n
  induction n with
  | zero => exact fun _ => Nat.zero_add _
  | succ n ih =>
    intro h
    rw [sumTo, Nat.add_right_comm, ih fun j hj => h j (Nat.lt_succ_of_lt hj), Nat.add_sub_cancel' (h n (Nat.lt_succ_self n))]

theorem sumTo_update (f f' : Nat → Nat) (t : Nat) (hne : ∀ i, i ≠ t → f' i = f i) :
    ∀ k, t < k → sumTo f' k + f t = sumTo f k + f' t := by
  intro k
  induction k with
  | zero => exact fun h => absurd h (Nat.not_lt_zero t)
  | succ k ih =>
    intro hk
    simp only [sumTo]
    by_cases htk : t = k
    · subst htk
      rw [sumTo_congr f' f t fun i hi => hne i (Nat.ne_of_lt hi), Nat.add_right_comm]
    · have := ih (Nat.lt_of_le_of_ne (Nat.le_of_lt_succ hk) htk)
      rw [hne k (Ne.symm htk), Nat.add_right_comm, this, Nat.add_right_comm]

/-- a counter `N` of slots looked at, out of `d`, advances by one at `v`: one slot less remains -/
theorem sumTo_slot {d N N' : Nat → Nat} {v n : Nat} (hv : v < n) (hinc : N' v = N v + 1) (hsame : ∀ u, u ≠ v → N' u = N u)
    (hlt : N v < d v) : sumTo (fun u => d u - N' u) n + 1 = sumTo (fun u => d u - N u) n := by
  have h : _ + (d v - N v) = _ + (d v - N' v) :=
    sumTo_update (fun u => d u - N u) (fun u => d u - N' u) v (fun i hi => by simp only [hsame i hi]) n hv
  rw [hinc, show d v - N v = d v - (N v + 1) + 1 from (Nat.succ_pred_eq_of_pos (Nat.sub_pos_of_lt hlt)).symm, ← Nat.add_assoc] at h
  exact Nat.add_right_cancel ((Nat.add_right_comm _ 1 _).trans h)

theorem sumTo_st {α : Type} [Inhabited α] (F : α → Nat) (a : Array α) (v : Nat) (x : α) (k : Nat) (hv : v < k)
    (hsz : v < a.size) : sumTo (fun i => F (gt (st a v x) i)) k + F (gt a v) = sumTo (fun i => F (gt a i)) k + F x := by
  have := sumTo_update (fun i => F (gt a i)) (fun i => F (gt (st a v x) i)) v
    (fun i hi => by rw [gt_st_ne _ _ _ _ (Ne.symm hi)]) k hv
  rwa [gt_st_eq _ _ _ hsz] at this

def cntTo (p : Nat → Prop) [DecidablePred p] (n : Nat) : Nat := sumTo (fun i => if p i then 1 else 0) n

theorem countP_range (p : Nat → Bool) : ∀ n, (List.range n).countP p = cntTo (p · = true) n
  | 0 => rfl
  | n + 1 => by rw [List.range_succ, List.countP_append, List.countP_singleton, countP_range p n]; rfl

section
variable (p q : Nat → Prop) [DecidablePred p] [DecidablePred q]

theorem cntTo_congr (n : Nat) (h : ∀ i, i < n → (p i ↔ q i)) : cntTo p n = cntTo q n :=
  sumTo_congr _ _ _ fun i hi => by simp only [h i hi]

theorem cntTo_all (n : Nat) (h : ∀ i, i < n → p i) : cntTo p n = n :=
  (sumTo_const _ 1 n fun i hi => if_pos (h i hi)).trans (Nat.mul_one n)

theorem cntTo_none (n : Nat) (h : ∀ i, i < n → ¬ p i) : cntTo p n = 0 :=
  sumTo_const _ 0 n fun i hi => if_neg (h i hi)

theorem cntTo_le (n : Nat) : cntTo p n ≤ n :=
  Nat.le_trans (sumTo_le _ (fun _ => 1) n fun i _ => by split <;> omega) (Nat.le_of_eq ((sumTo_const _ 1 n fun _ _ => rfl).trans (Nat.mul_one n)))

theorem cntTo_lt_exists (n : Nat) (h : cntTo p n < n) : ∃ i, i < n ∧ ¬ p i :=
  Classical.byContradiction fun hn =>
    Nat.ne_of_lt h (cntTo_all p n fun i hi => Classical.byContradiction fun hp => hn ⟨i, hi, hp⟩)

theorem cntTo_update (t : Nat) (hne : ∀ i, i ≠ t → (q i ↔ p i)) (n : Nat) (ht : t < n) :
    cntTo q n + (if p t then 1 else 0) = cntTo p n + (if q t then 1 else 0) :=
  sumTo_update (fun i => if p i then 1 else 0) _ t (fun i hi => by simp only [hne i hi]) n ht

theorem cntTo_unset (t : Nat) (hne : ∀ i, i ≠ t → (q i ↔ p i)) (n : Nat) (ht : t < n) (hp : p t) (hq : ¬ q t) :
    cntTo q n + 1 = cntTo p n := by
  have := cntTo_update p q t hne n ht
  rwa [if_pos hp, if_neg hq] at this

end

theorem cntTo_st_unset {α : Type} [Inhabited α] (P : α → Prop) [DecidablePred P] (a : Array α) (v : Nat) (x : α)
    (k : Nat) (hv : v < k) (hsz : v < a.size) (hI : P (gt a v)) (hx : ¬ P x) :
    cntTo (fun i => P (gt (st a v x) i)) k + 1 = cntTo (fun i => P (gt a i)) k := by
  have := sumTo_st (fun y => if P y then 1 else 0) a v x k hv hsz
  rwa [if_pos hI, if_neg hx] at this

end Tbx
