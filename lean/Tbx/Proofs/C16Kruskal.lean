import Tbx.Model.Kruskal
import Tbx.Proofs.C16UF
/-
Kruskal (`Model/Kruskal.lean`): the loop invariant `KInv` and what it gives at exit.  Every accepted edge is a
lightest input edge between two components of the edges accepted before it (`KInv.light`), so a further property
that survives such steps may ride along (`Accepts`); minimality does (`C16KruskalMin.lean`).
-/
namespace Tbx.Kruskal
open Tbx Tbx.UF Tbx.Comp

theorem better_le {a b : Nat × Nat} : (better a b = true → a.1 ≤ b.1) ∧ (¬ better a b = true → b.1 ≤ a.1) := by
  simp only [better, Bool.or_eq_true, decide_eq_true_eq, Bool.and_eq_true, beq_iff_eq, not_or, not_and]
  omega

/-- the heap's contract, read off `best`: a non-empty heap yields one of its entries, of least weight -/
theorem best_spec : ∀ h : List (Nat × Nat), h ≠ [] → ∃ b, best h = some b ∧ b ∈ h ∧ ∀ p, p ∈ h → b.1 ≤ p.1
  | [], hne => absurd rfl hne
  | x :: xs, _ => by
    simp only [best]
    by_cases hxs : xs = []
    · subst hxs
      exact ⟨x, rfl, List.mem_cons_self, fun p hp => List.mem_singleton.mp hp ▸ Nat.le_refl _⟩
    · obtain ⟨y, hy, hym, hmin⟩ := best_spec xs hxs
      rw [hy]
      dsimp only
      split
      · rename_i hb
        exact ⟨y, rfl, List.mem_cons_of_mem _ hym, fun p hp =>
          (List.mem_cons.mp hp).elim (fun e => e ▸ better_le.1 hb) (hmin p)⟩
      · rename_i hb
        exact ⟨x, rfl, List.mem_cons_self, fun p hp =>
          (List.mem_cons.mp hp).elim (fun e => e ▸ Nat.le_refl _) fun h => Nat.le_trans (better_le.2 hb) (hmin p h)⟩

def heapW (h : List (Nat × Nat)) : Nat := (h.map (·.1)).sum

theorem maxNode_ge : ∀ (es : List WEdge) (m : Nat), m ≤ maxNode es m ∧ ∀ e, e ∈ es → e.1 ≤ maxNode es m ∧ e.2.1 ≤ maxNode es m := by
  intro es
  induction es with
  | nil => intro m; exact ⟨Nat.le_refl _, fun e he => by cases he⟩
  | cons x xs ih =>
    intro m
    obtain ⟨h1, h2⟩ := ih (max x.2.1 (max x.1 m))
    obtain ⟨ha, hbm⟩ := Nat.max_le.mp h1
    obtain ⟨hb, hm⟩ := Nat.max_le.mp hbm
    refine ⟨hm, fun e he => ?_⟩
    rcases List.mem_cons.mp he with rfl | he
    · exact ⟨hb, ha⟩
    · exact h2 e he

/-- `proc`: an index that has left the heap has its ends connected by the accepted edges.  `budget`: cost so far +
    weights still in the heap ≤ `total`, so the `u32` cost cannot overflow. -/
structure KInv (inp : Array WEdge) (N total : Nat) (l : Loop) : Prop where
  uinv : Inv l.uf
  usz : l.uf.parent.size = N
  cls : ∀ i j, i < N → j < N → (Cls l.uf.parent i j ↔ Conn (ends l.mst.toList) i j)
  acyc : Acyclic (ends l.mst.toList)
  sub : ∀ e, e ∈ l.mst.toList → e ∈ inp.toList
  cost_eq : l.cost = cost l.mst.toList
  hidx : ∀ p, p ∈ l.heap → p.2 < inp.size ∧ p.1 = (gt inp p.2).2.2
  proc : ∀ idx, idx < inp.size → (∀ w, (w, idx) ∉ l.heap) →
    Conn (ends l.mst.toList) (gt inp idx).1 (gt inp idx).2.1
  nsets : l.uf.numSets + l.mst.size = N
  budget : l.cost + heapW l.heap ≤ total

theorem KInv.with_uf {inp : Array WEdge} {N total : Nat} {l : Loop} (hk : KInv inp N total l) {u' : UF}
    (hi : Inv u') (hS : SameRoots l.uf u') : KInv inp N total { l with uf := u' } :=
  ⟨hi, hS.size.trans hk.usz, fun i j hi' hj => (hS.cls i j).trans (hk.cls i j hi' hj), hk.acyc, hk.sub, hk.cost_eq,
    hk.hidx, hk.proc, (congrArg (· + l.mst.size) hS.numSets).trans hk.nsets, hk.budget⟩

theorem KInv.proc_erase {inp : Array WEdge} {N total : Nat} {l : Loop} (hk : KInv inp N total l) {w idx : Nat}
    {F : Edges} (hsub : ∀ p, p ∈ ends l.mst.toList → p ∈ F) (hc : Conn F (gt inp idx).1 (gt inp idx).2.1) :
    ∀ i, i < inp.size → (∀ w', (w', i) ∉ l.heap.erase (w, idx)) → Conn F (gt inp i).1 (gt inp i).2.1 := by
  intro i hi hnot
  by_cases hie : i = idx
  · exact hie ▸ hc
  · refine (hk.proc i hi fun w' hm => hnot w' ?_).mono hsub
    exact (List.mem_erase_of_ne (by intro hh; cases hh; exact hie rfl)).mpr hm

/-- every input edge between two components of the accepted edges is still in the heap (`proc`) under its own
    weight (`hidx`) -/
theorem KInv.light {inp : Array WEdge} {N total : Nat} {l : Loop} (hk : KInv inp N total l) {w : Nat}
    (hmin : ∀ p, p ∈ l.heap → w ≤ p.1) (f : WEdge) (hf : f ∈ inp.toList) (hn : ¬ Conn (ends l.mst.toList) f.1 f.2.1) :
    w ≤ f.2.2 := by
  obtain ⟨j, hj, rfl⟩ := mem_toList_iff_gt.mp hf
  obtain ⟨w', hw'⟩ : ∃ w', (w', j) ∈ l.heap :=
    Classical.byContradiction fun hno => hn (hk.proc j hj fun w' hw' => hno ⟨w', hw'⟩)
  exact (hk.hidx _ hw').2 ▸ hmin _ hw'

/-- `P`, a further property of the accepted edges, survives a greedy step: accepting a lightest input edge between
    two components (used for minimality) -/
def Accepts (inp : List WEdge) (P : List WEdge → Prop) : Prop :=
  ∀ (A : List WEdge) (e : WEdge), e ∈ inp → ¬ Conn (ends A) e.1 e.2.1 →
    (∀ f, f ∈ inp → ¬ Conn (ends A) f.1 f.2.1 → e.2.2 ≤ f.2.2) → P A → P (A ++ [e])

theorem loop_spec (inp : Array WEdge) (n total : Nat) (htot : total < 4294967296)
    (hends : ∀ idx, idx < inp.size → (gt inp idx).1 < n + 1 ∧ (gt inp idx).2.1 < n + 1)
    (P : List WEdge → Prop) (hacc : Accepts inp.toList P) :
    ∀ (f : Nat) (l : Loop), KInv inp (n + 1) total l → l.heap.length < f → P l.mst.toList →
      ∃ l', loop inp n f l = some l' ∧ KInv inp (n + 1) total l' ∧ (n ≤ l'.mst.size ∨ l'.heap = []) ∧
        P l'.mst.toList := by
  intro f
  induction f with
  | zero => exact fun l _ h => absurd h (Nat.not_lt_zero _)
  | succ f ih =>
    intro l hk hf hP
    unfold loop
    by_cases hc : l.mst.size < n ∧ l.heap ≠ []
    · rw [if_pos hc]
      obtain ⟨⟨w, idx⟩, hb, hbm, hmin⟩ := best_spec l.heap hc.2
      simp only [popBest, hb]
      obtain ⟨hidx, hw⟩ := hk.hidx _ hbm
      simp only at hidx hw
      rw [if_neg (Nat.not_le.mpr hidx)]
      obtain ⟨ha, hbn⟩ := hends idx hidx
      obtain ⟨u1, x, hf1, hi1, hS1, hx⟩ := find_spec hk.uinv (gt inp idx).1 (by rw [hk.usz]; exact ha)
      obtain ⟨u2, y, hf2, hi2, hS2, hy⟩ := find_spec hi1 (gt inp idx).2.1 (by rw [hS1.size, hk.usz]; exact hbn)
      have hS := hS1.trans hS2
      have hk2 := hk.with_uf hi2 hS
      have hx2 : RootOf u2.parent (gt inp idx).1 x := (hS.rootOf _ _).mpr hx
      have hy2 : RootOf u2.parent (gt inp idx).2.1 y := (hS2.rootOf _ _).mpr hy
      simp only [hf1, hf2]
      have hlen : (l.heap.erase (w, idx)).length < f := by
        rw [List.length_erase_of_mem hbm]
        exact Nat.lt_of_lt_of_le (Nat.pred_lt (Nat.ne_of_gt (List.length_pos_of_mem hbm))) (Nat.le_of_lt_succ hf)
      have hheap : ∀ p, p ∈ l.heap.erase (w, idx) → p.2 < inp.size ∧ p.1 = (gt inp p.2).2.2 :=
        fun p hp => hk.hidx p (List.mem_of_mem_erase hp)
      have hW : heapW (l.heap.erase (w, idx)) + w = heapW l.heap := sum_map_erase (·.1) _ _ hbm
      have hbud := hk.budget
      by_cases hxy : x = y
      · -- the edge closes a cycle: skipped
        rw [if_pos hxy]
        subst hxy
        have hconn : Conn (ends l.mst.toList) (gt inp idx).1 (gt inp idx).2.1 :=
          (hk2.cls _ _ ha hbn).mp ⟨x, hx2, hy2⟩
        exact ih _ ⟨hi2, hk2.usz, hk2.cls, hk.acyc, hk.sub, hk.cost_eq, hheap, hk.proc_erase (fun _ h => h) hconn,
          hk2.nsets, Nat.le_trans (Nat.add_le_add_left (Nat.le.intro hW) _) hbud⟩ hlen hP
      · rw [if_neg hxy]
        have hnc2 : ¬ Cls u2.parent x y := fun ⟨r, a, b⟩ =>
          hxy ((hx2.root_self.functional a).trans (b.functional hy2.root_self))
        have hnconn : ¬ Conn (ends l.mst.toList) (gt inp idx).1 (gt inp idx).2.1 := fun hcn =>
          hnc2 (hx2.cls.symm.trans (((hk2.cls _ _ ha hbn).mpr hcn).trans hy2.cls))
        obtain ⟨u3, hu3, hi3, hs3, hm3, _, hdec⟩ := union_spec hi2 x y hx2.is_root.1 hy2.is_root.1
        have hdec' := hdec hnc2
        simp only [hu3]
        have hwle : (gt inp idx).2.2 ≤ heapW l.heap := hw ▸ Nat.le.intro ((Nat.add_comm _ _).trans hW)
        rw [if_neg (Nat.not_le.mpr (Nat.lt_of_le_of_lt (Nat.le_trans (Nat.add_le_add_left hwle _) hbud) htot))]
        have hmem : gt inp idx ∈ inp.toList := mem_toList_iff_gt.mpr ⟨idx, hidx, rfl⟩
        have hpush : ends (l.mst.push (gt inp idx)).toList
            = ends l.mst.toList ++ [((gt inp idx).1, (gt inp idx).2.1)] := by simp [ends]
        refine ih _ ⟨hi3, hs3.trans hk2.usz, fun i j hi hj => ?_, hpush ▸ acyclic_snoc hk.acyc hnconn, fun e he => ?_,
          ?_, hheap, hk.proc_erase (fun p hp => by rw [hpush]; exact List.mem_append_left _ hp)
            (Conn.of_mem (by rw [hpush]; simp)), ?_, ?_⟩ hlen
          (Array.toList_push ▸ hacc _ _ hmem hnconn (fun f hf hnf => hw ▸ hk.light hmin f hf hnf) hP)
        · rw [hm3, Join.congr_reps (R := Cls u2.parent) Cls.symm Cls.trans hx2.cls hy2.cls, hpush, conn_snoc]
          simp only [Join, hk2.cls i j hi hj, hk2.cls i _ hi ha, hk2.cls _ j hbn hj, hk2.cls i _ hi hbn,
            hk2.cls _ j ha hj]
        · rcases List.mem_append.mp (Array.toList_push ▸ he) with he | he
          · exact hk.sub e he
          · exact List.mem_singleton.mp he ▸ hmem
        · show l.cost + _ = cost (l.mst.push (gt inp idx)).toList
          rw [hk.cost_eq]; simp [cost]
        · show u3.numSets + (l.mst.push (gt inp idx)).size = n + 1
          rw [Array.size_push, ← Nat.add_assoc, Nat.add_right_comm, hdec']
          exact hk2.nsets
        · show l.cost + (gt inp idx).2.2 + heapW (l.heap.erase (w, idx)) ≤ total
          rw [Nat.add_assoc, ← hw, Nat.add_comm w, hW]
          exact hbud
    · rw [if_neg hc]
      refine ⟨l, rfl, hk, ?_, hP⟩
      by_cases h1 : l.mst.size < n
      · exact Or.inr (Decidable.not_not.mp fun h2 => hc ⟨h1, h2⟩)
      · exact Or.inl (Nat.le_of_not_lt h1)

theorem heapW_heapOf (inp : List WEdge) : heapW (heapOf inp) = cost inp := by
  simp only [heapW, heapOf, cost, List.map_map]
  have : ((fun x : Nat × Nat => x.1) ∘ fun p : WEdge × Nat => (p.1.2.2, p.2)) = (fun e : WEdge => e.2.2) ∘ Prod.fst := by
    funext p; rfl
  rw [this, ← List.map_map, List.zipIdx_map_fst]

theorem mem_heapOf (inp : List WEdge) (p : Nat × Nat) :
    p ∈ heapOf inp ↔ p.2 < inp.toArray.size ∧ p.1 = (gt inp.toArray p.2).2.2 := by
  simp only [heapOf, List.mem_map, List.mem_zipIdx_iff_getElem?, List.size_toArray]
  constructor
  · rintro ⟨⟨e, i⟩, he, rfl⟩
    exact ⟨(List.getElem?_eq_some_iff.mp he).1, by simp [gt, he]⟩
  · rintro ⟨hlt, hw⟩
    exact ⟨(inp[p.2], p.2), by simp [hlt], by cases p; simp [gt, hlt] at hw ⊢; exact hw.symm⟩

theorem kruskal_spec (inp : List WEdge) (htot : cost inp < 4294967296) (P : List WEdge → Prop)
    (hacc : Accepts inp P) (h0 : P []) :
    ∃ c mst, kruskal inp = some (c, mst) ∧ SpanningForest inp mst ∧ c = cost mst ∧ P mst := by
  have hmax := (maxNode_ge inp 0).2
  have hends : ∀ idx, idx < inp.toArray.size →
      (gt inp.toArray idx).1 < maxNode inp 0 + 1 ∧ (gt inp.toArray idx).2.1 < maxNode inp 0 + 1 := by
    intro idx hidx
    have hm : gt inp.toArray idx ∈ inp := mem_toList_iff_gt (a := inp.toArray).mpr ⟨idx, hidx, rfl⟩
    exact ⟨Nat.lt_succ_of_le (hmax _ hm).1, Nat.lt_succ_of_le (hmax _ hm).2⟩
  have hinit : KInv inp.toArray (maxNode inp 0 + 1) (cost inp) ⟨heapOf inp, #[], UF.new (maxNode inp 0 + 1), 0⟩ := by
    constructor
    · exact new_inv _
    · simp [UF.new]
    · intro i j hi _
      simp only [ends, List.map_nil]
      rw [new_cls, conn_nil]
      exact ⟨fun h => h.1, fun h => ⟨h, hi⟩⟩
    · exact fun e he => nomatch he
    · intro e he; simp at he
    · simp [cost]
    · exact fun p => (mem_heapOf inp p).mp
    · exact fun idx hidx hnot => absurd ((mem_heapOf inp ((gt inp.toArray idx).2.2, idx)).mpr ⟨hidx, rfl⟩) (hnot _)
    · simp [UF.new]
    · simp only [Nat.zero_add]; rw [heapW_heapOf]; exact Nat.le_refl _
  obtain ⟨l, hl, hk, hexit, hPl⟩ := loop_spec inp.toArray (maxNode inp 0) (cost inp) htot hends P
    hacc (inp.length + 1) _ hinit (by simp [heapOf]) h0
  have hsub : ∀ e, e ∈ l.mst.toList → e ∈ inp := fun e he => by simpa using hk.sub e he
  refine ⟨l.cost, l.mst.toList, by simp only [kruskal, hl], ⟨subMulti_of_acyclic hsub hk.acyc, hk.acyc, fun a b => ⟨?_, ?_⟩⟩,
    hk.cost_eq, hPl⟩
  · refine Conn.mono fun p hp => ?_
    obtain ⟨e, he, rfl⟩ := List.mem_map.mp hp
    exact mem_ends (hsub e he)
  · refine Conn.least (Conn.refl _) Conn.symm Conn.trans fun p hp => ?_
    obtain ⟨e, he, rfl⟩ := List.mem_map.mp hp
    obtain ⟨idx, hidx, rfl⟩ := mem_toList_iff_gt (a := inp.toArray).mp he
    rcases hexit with hfull | hempty
    · -- n edges accepted: a single class is left
      obtain ⟨h1, h2⟩ := hends idx hidx
      exact (hk.cls _ _ h1 h2).mp (hk.uinv.cls_of_numSets_le_one
        (Nat.le_of_add_le_add_right (by rw [hk.nsets, Nat.add_comm 1]; exact Nat.succ_le_succ hfull))
        (hk.usz ▸ h1) (hk.usz ▸ h2))
    · exact hk.proc idx hidx (by rw [hempty]; intro w hw; cases hw)

end Tbx.Kruskal
