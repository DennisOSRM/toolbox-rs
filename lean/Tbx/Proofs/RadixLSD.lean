import Tbx.Proofs.RadixBucket
/-
LSD induction (C17): after the rounds `0..j-1` the list is ordered by `okey % 256^j`; a pass of round `j`
(in the pass's bucket order) extends this to `j+1`; a skipped round is a pass that changes nothing.
-/
namespace Tbx.Radix
open Tbx Tbx.SortSpec

def lowLe (t : Ty) (j : Nat) (a b : Nat) : Prop := okey t a % 256 ^ j ≤ okey t b % 256 ^ j

theorem lowLe_succ (t : Ty) (k : Nat) (hk : k < t.w) (a b : Nat)
    (h : rank t k (key t a k) < rank t k (key t b k) ∨ key t a k = key t b k ∧ lowLe t k a b) :
    lowLe t (k + 1) a b := by
  unfold lowLe at *
  rw [Nat.mod_pow_succ, Nat.mod_pow_succ, ← okey_digit t a k hk, ← okey_digit t b k hk]
  rcases h with h | ⟨h, hl⟩
  · have h1 : okey t a % 256 ^ k < 256 ^ k := Nat.mod_lt _ (pow_pos256 k)
    have h2 := Nat.mul_le_mul_left (256 ^ k) h
    rw [Nat.mul_succ] at h2
    omega
  · rw [h]
    omega

theorem pass_extends (t : Ty) (k : Nat) (hk : k < t.w) (l : List Nat) (h : l.Pairwise (lowLe t k)) :
    (pass t k l).Pairwise (lowLe t (k + 1)) :=
  (pass_lex t k l h).imp (lowLe_succ t k hk _ _)

theorem roundsB_spec (t : Ty) (xs : List Nat) (m : Nat) : ∀ (j : Nat) (l : List Nat), j + m ≤ t.w →
    l.Perm xs → l.Pairwise (lowLe t j) →
    (roundsB t xs (List.range' j m) l).Perm xs ∧ (roundsB t xs (List.range' j m) l).Pairwise (lowLe t (j + m)) := by
  induction m with
  | zero =>
    intro j l _ hp hs
    exact ⟨hp, hs⟩
  | succ m ih =>
    intro j l hj hp hs
    simp only [List.range'_succ, roundsB]
    have hjw : j < t.w := by omega
    rw [show j + (m + 1) = (j + 1) + m by omega]
    -- a skipped round is a pass that changes nothing
    have hskip : (if skipRound t j xs = true then l else pass t j l) = pass t j l := by
      split
      · rename_i hsk
        exact (pass_of_skip t j xs hsk l hp).symm
      · rfl
    rw [hskip]
    exact ih (j + 1) (pass t j l) (by omega) ((pass_perm t j l).trans hp) (pass_extends t j hjw l hs)

theorem sortB_sorted (t : Ty) (hw : 0 < t.w) (xs : List Nat) (hx : ∀ x ∈ xs, x < t.card) :
    IsSortOf t xs (sortB t xs) := by
  unfold sortB
  rw [List.range_eq_range']
  obtain ⟨hp, hs⟩ := roundsB_spec t xs t.w 0 xs (Nat.le_of_eq (Nat.zero_add _)) (List.Perm.refl _)
    (List.pairwise_of_forall (fun a b => by unfold lowLe; rw [Nat.pow_zero, Nat.mod_one, Nat.mod_one]; exact Nat.le_refl _))
  rw [Nat.zero_add] at hs
  refine ⟨hp, hs.imp_of_mem ?_⟩
  intro a b ha hb hab
  have ha' := hx a (hp.subset ha)
  have hb' := hx b (hp.subset hb)
  rw [le_iff_okey t hw a b ha' hb']
  unfold lowLe at hab
  rw [show (256 : Nat) ^ t.w = t.card from rfl, Nat.mod_eq_of_lt (okey_lt t hw a ha'),
    Nat.mod_eq_of_lt (okey_lt t hw b hb')] at hab
  exact hab

/-- the type's order is antisymmetric on patterns, so a multiset of them has one sorted arrangement: the one a
    comparison sort by that order produces -/
theorem eq_mergeSort (t : Ty) (hw : 0 < t.w) {xs l : List Nat} (hx : ∀ x ∈ xs, x < t.card) (h : IsSortOf t xs l) :
    l = xs.mergeSort (leB t) := by
  have tr : ∀ a b c : Nat, leB t a b = true → leB t b c = true → leB t a c = true := by
    intro a b c; simp only [leB, decide_eq_true_eq]; exact le_trans t
  have tot : ∀ a b : Nat, (leB t a b || leB t b a) = true := by
    intro a b; simp only [leB, Bool.or_eq_true, decide_eq_true_eq]; exact le_total t a b
  refine List.Perm.eq_of_pairwise (le := le t) ?_ h.2 (by simpa [leB] using List.pairwise_mergeSort tr tot xs)
    (h.1.trans (List.mergeSort_perm _ _).symm)
  intro a b ha hb
  exact le_antisymm t hw a b (hx a (h.1.subset ha)) (hx b ((List.mergeSort_perm _ _).subset hb))

theorem sortB_eq_of_sorted (t : Ty) (hw : 0 < t.w) (xs ys : List Nat) (hx : ∀ x ∈ xs, x < t.card)
    (h : IsSortOf t xs ys) : sortB t xs = ys :=
  (eq_mergeSort t hw hx (sortB_sorted t hw xs hx)).trans (eq_mergeSort t hw hx h).symm

end Tbx.Radix
