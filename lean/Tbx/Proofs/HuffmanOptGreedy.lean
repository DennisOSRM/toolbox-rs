import Tbx.Proofs.HuffmanOptDefs
import Tbx.Proofs.HuffmanCodes
/-
Huffman optimality, part "the constructions are greedy": a potential-function argument.
`Phi F = Σ interior weights of the forest F + optCost (root weights of F)` is unchanged when two trees of
minimal root weight are merged (`optCost_merge`); it starts as `optCost (table)` on the leaves and ends as the
interior-weight sum of the single final tree, which is the weighted length of its code book (`Good.final`).
Core Lean only.
-/
namespace Tbx.Huffman
open Tbx.Spec.Huff

def Tree.WF : Tree → Prop
  | .leaf _ _ => True
  | .node f l r => f = l.freq + r.freq ∧ l.WF ∧ r.WF

/-- sum of the weights of the interior nodes -/
def Tree.ic : Tree → Int
  | .leaf _ _ => 0
  | .node f l r => l.ic + r.ic + f

theorem cost_append (v : List (Nat × Int)) (b1 b2 : Book) : cost v (b1 ++ b2) = cost v b1 + cost v b2 := by
  simp [cost, List.map_append, List.sum_append]

theorem cost_codesRec (v : List (Nat × Int)) (t : Tree) (p : Code) (hwf : t.WF)
    (h : ∀ e ∈ t.entries, freqOf v e.1 = e.2) : cost v (codesRec t p) = p.length * t.freq + t.ic := by
  induction t generalizing p with
  | leaf s f =>
    have := h (s, f) (by simp [Tree.entries])
    simp [codesRec, cost, Tree.freq, Tree.ic, this, Int.mul_comm]
  | node f l r ihl ihr =>
    obtain ⟨hf, hl, hr⟩ := hwf
    simp only [codesRec, cost_append, Tree.freq, Tree.ic]
    rw [ihr (p ++ [true]) hr (fun e he => h e (by simp [Tree.entries, he])),
      ihl (p ++ [false]) hl (fun e he => h e (by simp [Tree.entries, he])), hf]
    simp only [List.length_append, List.length_cons, List.length_nil]
    push_cast
    rw [Int.add_mul, Int.add_mul, Int.mul_add, Int.one_mul]
    omega

def Phi (F : List Tree) : Int := (F.map Tree.ic).sum + optCost (F.map Tree.freq)

structure Good (v : List (Nat × Int)) (F : List Tree) : Prop where
  wf : ∀ t ∈ F, t.WF
  phi : Phi F = optCost (v.map (·.2))

theorem Good.perm {v : List (Nat × Int)} {F F' : List Tree} (h : F.Perm F') (g : Good v F) : Good v F' :=
  ⟨fun t ht => g.wf t (h.mem_iff.mpr ht),
    by rw [← g.phi, Phi, Phi, sum_perm (h.map _), optCost_perm (h.map _)]⟩

theorem Good.init (v : List (Nat × Int)) : Good v (Huffman.leaves v) := by
  refine ⟨fun t ht => ?_, ?_⟩
  · obtain ⟨e, _, rfl⟩ := List.mem_map.mp ht
    trivial
  · simp [Phi, leaves, Tree.ic, Tree.freq, Function.comp_def, List.map_const', List.sum_replicate_int]

theorem Good.merge {v : List (Nat × Int)} {F F' : List Tree} (g : Good v F) {x y : Tree} {R : List Tree}
    (hp : F.Perm (x :: y :: R)) (hp' : F'.Perm (Tree.node (x.freq + y.freq) x y :: R))
    (hxy : x.freq ≤ y.freq) (hR : ∀ r ∈ R, y.freq ≤ r.freq) : Good v F' := by
  have g' := g.perm hp
  refine Good.perm hp'.symm ⟨?_, ?_⟩
  · intro t ht
    rcases List.mem_cons.mp ht with rfl | ht
    · exact ⟨rfl, g'.wf x List.mem_cons_self, g'.wf y (List.mem_cons_of_mem _ List.mem_cons_self)⟩
    · exact g'.wf t (by simp [ht])
  · rw [← g'.phi]
    simp only [Phi, List.map_cons, List.sum_cons]
    rw [show (Tree.node (x.freq + y.freq) x y).ic = x.ic + y.ic + (x.freq + y.freq) from rfl,
      show (Tree.node (x.freq + y.freq) x y).freq = x.freq + y.freq from rfl,
      optCost_merge x.freq y.freq (R.map Tree.freq) hxy (List.forall_mem_map.mpr hR)]
    omega

theorem Good.final {v : List (Nat × Int)} {t : Tree} (g : Good v [t]) (hent : t.entries.Perm v)
    (hnd : (v.map (·.1)).Nodup) : cost v (codesRec t []) = optCost (v.map (·.2)) := by
  rw [cost_codesRec v t [] (g.wf t List.mem_cons_self) fun e he => freqOf_mem v hnd e (hent.mem_iff.mp he)]
  have := g.phi
  simp only [Phi, List.map_cons, List.map_nil, List.sum_cons, List.sum_nil, optCost_single] at this
  simp only [List.length_nil]
  omega

theorem bookOf_cost {tree : Option Tree} {v : List (Nat × Int)} {book : Book} (hnd : (v.map (·.1)).Nodup)
    (hg : v ≠ [] → ∀ t, tree = some t → Good v [t] ∧ t.entries.Perm v) (h : bookOf tree v = some book) :
    cost v book = optCost (v.map (·.2)) := by
  cases v with
  | nil => cases h; rfl
  | cons e v =>
    obtain ⟨t, ht, rfl⟩ := Option.map_eq_some_iff.mp (bookOf_of_ne_nil tree (List.cons_ne_nil e v) ▸ h)
    obtain ⟨g, hent⟩ := hg (List.cons_ne_nil e v) t ht
    exact g.final hent hnd

end Tbx.Huffman
