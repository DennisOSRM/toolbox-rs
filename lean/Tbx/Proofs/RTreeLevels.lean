import Tbx.Proofs.RTreePack
/-
C12: the level loop of `from_elements` terminates (for `B ≥ 2`) and the arrays it produces are exactly
the levels described by `Levels`.  Core Lean only.
-/
namespace Tbx.RTree

/-- exclusive end of level `k` in the search node array (`level_ends[k]`) -/
def lend (ends : List Nat) (k : Nat) : Nat := ends[k]?.getD 0
def lstart (ends : List Nat) : Nat → Nat
  | 0 => 0
  | k + 1 => lend ends k

def lwidth (ends : List Nat) (k : Nat) : Nat := lend ends k - lstart ends k

/-- What the search node array looks like: level 0 has one leaf group per `B` leaves, group `j` starting at
leaf `B*j`; every further level has one tree node per `B` nodes of the level below, node `j` starting at
child `lstart k + B*j`; a level is built above level `k` iff level `k` has at least two nodes. -/
structure Levels (B nl : Nat) (nodes : List SNode) (ends : List Nat) : Prop where
  nonempty : 0 < ends.length
  lvl0 : lend ends 0 = ceilDiv nl B
  step : ∀ k, k + 1 < ends.length → 2 ≤ lwidth ends k ∧ lend ends (k + 1) = lend ends k + ceilDiv (lwidth ends k) B
  mono : ∀ k, k < ends.length → lstart ends k ≤ lend ends k
  size : nodes.length = lend ends (ends.length - 1)
  groups : ∀ j, j < lend ends 0 → nodes[j]? = some ⟨0, B * j⟩
  inner : ∀ k, k + 1 < ends.length → ∀ j, j < lwidth ends (k + 1) →
    nodes[lend ends k + j]? = some ⟨1, lstart ends k + B * j⟩

theorem lend_append_lt (ends : List Nat) (x k : Nat) (hk : k < ends.length) :
    lend (ends ++ [x]) k = lend ends k := by
  unfold lend; rw [List.getElem?_append_left hk]

theorem lend_append_eq (ends : List Nat) (x : Nat) : lend (ends ++ [x]) ends.length = x := by
  unfold lend; rw [List.getElem?_concat_length]; rfl

theorem lstart_append_le (ends : List Nat) (x k : Nat) (hk : k ≤ ends.length) :
    lstart (ends ++ [x]) k = lstart ends k := by
  cases k with
  | zero => rfl
  | succ k => exact lend_append_lt ends x k hk

theorem lwidth_append_lt (ends : List Nat) (x k : Nat) (hk : k < ends.length) :
    lwidth (ends ++ [x]) k = lwidth ends k := by
  unfold lwidth
  rw [lend_append_lt ends x k hk, lstart_append_le ends x k (Nat.le_of_lt hk)]

theorem lend_eq_getElem (ends : List Nat) (k : Nat) (hk : k < ends.length) : lend ends k = ends[k] := by
  unfold lend; rw [List.getElem?_eq_getElem hk]; rfl

theorem lend_mono_of {ends : List Nat} (hmono : ∀ k, k < ends.length → lstart ends k ≤ lend ends k)
    {k m : Nat} (hk : k < ends.length) (hm : m ≤ k) : lend ends m ≤ lend ends k := by
  induction k with
  | zero => rw [Nat.le_zero.mp hm]; exact Nat.le_refl _
  | succ k ih =>
    rcases Nat.lt_or_eq_of_le hm with h | rfl
    · exact Nat.le_trans (ih (Nat.lt_of_succ_lt hk) (Nat.le_of_lt_succ h)) (hmono (k + 1) hk)
    · exact Nat.le_refl _

/-- the ends of the lower levels are not beyond the index, so `find` stops at `level_ends[k]` -/
theorem childrenCount_of_mem_level {B : Nat} {ends : List Nat}
    (hmono : ∀ k, k < ends.length → lstart ends k ≤ lend ends k) {k c : Nat} (hk : k < ends.length)
    (h1 : lstart ends k ≤ c) (h2 : c < lend ends k) : childrenCount B ends c = min B (lend ends k - c) := by
  have hfind : ends.find? (fun e => decide (c < e)) = some (lend ends k) := by
    rw [List.find?_eq_some_iff_getElem]
    refine ⟨decide_eq_true h2, k, hk, (lend_eq_getElem ends k hk).symm, ?_⟩
    intro m hm
    have hmk : lend ends m ≤ lstart ends k := by
      cases k with
      | zero => exact absurd hm (Nat.not_lt_zero m)
      | succ k' => exact lend_mono_of hmono (Nat.lt_of_succ_lt hk) (Nat.le_of_lt_succ hm)
    rw [← lend_eq_getElem ends m (Nat.lt_trans hm hk), Bool.not_eq_true', decide_eq_false_iff_not]
    exact Nat.not_lt.mpr (Nat.le_trans hmk h1)
  unfold childrenCount
  rw [hfind]; rfl

theorem levelNodes_length (B start cnt : Nat) : (levelNodes B start cnt).length = cnt := by
  unfold levelNodes; rw [List.length_map, List.length_range]

theorem levelNodes_get (B start cnt j : Nat) (hj : j < cnt) :
    (levelNodes B start cnt)[j]? = some ⟨1, start + B * j⟩ := by
  unfold levelNodes; rw [List.getElem?_map, List.getElem?_range hj]; rfl

/-- loop invariant of `buildLevels`: the arrays describe correct levels, except that the top level may
still be wider than one node -/
structure LevelsInv (B nl : Nat) (start end_ : Nat) (nodes : List SNode) (ends : List Nat) : Prop where
  nonempty : 0 < ends.length
  cur_end : lend ends (ends.length - 1) = end_
  cur_start : lstart ends (ends.length - 1) = start
  lvl0 : lend ends 0 = ceilDiv nl B
  step : ∀ k, k + 1 < ends.length → 2 ≤ lwidth ends k ∧ lend ends (k + 1) = lend ends k + ceilDiv (lwidth ends k) B
  mono : ∀ k, k < ends.length → lstart ends k ≤ lend ends k
  size : nodes.length = end_
  groups : ∀ j, j < lend ends 0 → nodes[j]? = some ⟨0, B * j⟩
  inner : ∀ k, k + 1 < ends.length → ∀ j, j < lwidth ends (k + 1) →
    nodes[lend ends k + j]? = some ⟨1, lstart ends k + B * j⟩

theorem levelsInv_init (B g0 nl : Nat) (hg : g0 = ceilDiv nl B) : LevelsInv B nl 0 g0 (level0 B g0) [g0] where
  nonempty := Nat.one_pos
  cur_end := rfl
  cur_start := rfl
  lvl0 := hg
  step := fun k hk => absurd hk (by simp)
  mono := fun k hk => by rw [Nat.lt_one_iff.mp hk]; exact Nat.zero_le _
  size := by unfold level0; rw [List.length_map, List.length_range]
  groups := fun j hj => by
    unfold level0; rw [List.getElem?_map, List.getElem?_range (show j < g0 from hj)]; rfl
  inner := fun k hk => absurd hk (by simp)

theorem levelsInv_step {B nl start end_ : Nat} {nodes : List SNode} {ends : List Nat}
    (h : LevelsInv B nl start end_ nodes ends) (hlt : start + 1 < end_) :
    LevelsInv B nl end_ (end_ + ceilDiv (end_ - start) B) (nodes ++ levelNodes B start (ceilDiv (end_ - start) B))
      (ends ++ [end_ + ceilDiv (end_ - start) B]) := by
  generalize hcnt : ceilDiv (end_ - start) B = cnt
  obtain ⟨K, hK⟩ : ∃ K, ends.length = K + 1 := ⟨ends.length - 1, (Nat.sub_add_cancel h.nonempty).symm⟩
  have hce : lend ends K = end_ := by have := h.cur_end; rwa [hK] at this
  have hcs : lstart ends K = start := by have := h.cur_start; rwa [hK] at this
  have hlen : (ends ++ [end_ + cnt]).length = K + 2 := by rw [List.length_append, hK]; rfl
  have e_lt : ∀ k, k ≤ K → lend (ends ++ [end_ + cnt]) k = lend ends k :=
    fun k hk => lend_append_lt _ _ _ (hK ▸ Nat.lt_succ_of_le hk)
  have s_le : ∀ k, k ≤ K + 1 → lstart (ends ++ [end_ + cnt]) k = lstart ends k :=
    fun k hk => lstart_append_le _ _ _ (hK ▸ hk)
  have w_lt : ∀ k, k ≤ K → lwidth (ends ++ [end_ + cnt]) k = lwidth ends k :=
    fun k hk => lwidth_append_lt _ _ _ (hK ▸ Nat.lt_succ_of_le hk)
  have hnew : lend (ends ++ [end_ + cnt]) (K + 1) = end_ + cnt := by
    rw [← hK]; exact lend_append_eq _ _
  have hwK : lwidth ends K = end_ - start := by unfold lwidth; rw [hce, hcs]
  have old : ∀ {i : Nat} {nd : SNode}, nodes[i]? = some nd →
      (nodes ++ levelNodes B start cnt)[i]? = some nd := by
    intro i nd hi
    rw [List.getElem?_append_left ((List.getElem?_eq_some_iff.mp hi).1)]; exact hi
  refine
    { nonempty := hlen ▸ Nat.succ_pos _
      cur_end := by rw [hlen]; exact hnew
      cur_start := by rw [hlen]; exact (e_lt K (Nat.le_refl K)).trans hce
      lvl0 := (e_lt 0 (Nat.zero_le K)).trans h.lvl0
      step := ?_
      mono := ?_
      size := by rw [List.length_append, levelNodes_length, h.size]
      groups := fun j hj => old (h.groups j ((e_lt 0 (Nat.zero_le K)) ▸ hj))
      inner := ?_ }
  · intro k hk
    rw [hlen] at hk
    have hkK : k ≤ K := Nat.le_of_lt_succ (Nat.lt_of_succ_lt_succ hk)
    rw [w_lt k hkK, e_lt k hkK]
    rcases Nat.lt_or_eq_of_le hkK with hk' | rfl
    · rw [e_lt (k + 1) hk']; exact h.step k (hK ▸ Nat.succ_lt_succ hk')
    · rw [hnew, hwK, hce, hcnt]; exact ⟨by omega, rfl⟩
  · intro k hk
    rw [hlen] at hk
    rcases Nat.lt_or_eq_of_le (Nat.le_of_lt_succ hk) with hk' | rfl
    · rw [s_le k (Nat.le_of_lt hk'), e_lt k (Nat.le_of_lt_succ hk')]
      exact h.mono k (hK ▸ hk')
    · rw [hnew, s_le (K + 1) (Nat.le_refl _)]
      exact hce ▸ Nat.le_add_right end_ cnt
  · intro k hk j hj
    rw [hlen] at hk
    have hkK : k ≤ K := Nat.le_of_lt_succ (Nat.lt_of_succ_lt_succ hk)
    rw [e_lt k hkK, s_le k (Nat.le_succ_of_le hkK)]
    rcases Nat.lt_or_eq_of_le hkK with hk' | rfl
    · rw [w_lt (k + 1) hk'] at hj
      exact old (h.inner k (hK ▸ Nat.succ_lt_succ hk') j hj)
    · have hw : lwidth (ends ++ [end_ + cnt]) (k + 1) = cnt := by
        unfold lwidth
        rw [hnew, s_le (k + 1) (Nat.le_refl _)]
        exact hce ▸ Nat.add_sub_cancel_left ..
      rw [hw] at hj
      rw [hce, hcs, List.getElem?_append_right (h.size ▸ Nat.le_add_right end_ j), h.size, Nat.add_sub_cancel_left]
      exact levelNodes_get B start cnt j hj

theorem LevelsInv.levels {B nl start end_ : Nat} {nodes : List SNode} {ends : List Nat}
    (h : LevelsInv B nl start end_ nodes ends) (hex : ¬ start + 1 < end_) :
    Levels B nl nodes ends ∧ lwidth ends (ends.length - 1) ≤ 1 := by
  refine ⟨⟨h.nonempty, h.lvl0, h.step, h.mono, h.size.trans h.cur_end.symm, h.groups, h.inner⟩, ?_⟩
  unfold lwidth; rw [h.cur_end, h.cur_start]; omega

theorem buildLevels_exit {B start end_ : Nat} (fuel : Nat) (nodes : List SNode) (ends : List Nat)
    (hex : ¬ start + 1 < end_) : buildLevels B fuel start end_ nodes ends = some (nodes, ends) := by
  cases fuel <;> exact if_neg hex

/-- invariant rule of the level loop; the width of the top level strictly decreases (`ceilDiv_lt`), so `fuel + 1`
at least that width is enough -/
theorem buildLevels_loop {B : Nat} (hB : 2 ≤ B) {I : Nat → Nat → List SNode → List Nat → Prop}
    (hstep : ∀ {start end_ nodes ends}, I start end_ nodes ends → start + 1 < end_ →
      I end_ (end_ + ceilDiv (end_ - start) B) (nodes ++ levelNodes B start (ceilDiv (end_ - start) B))
        (ends ++ [end_ + ceilDiv (end_ - start) B])) :
    ∀ (fuel : Nat) {start end_ : Nat} {nodes : List SNode} {ends : List Nat}, I start end_ nodes ends →
      end_ - start ≤ fuel + 1 →
      ∃ start' end' nodes' ends', buildLevels B fuel start end_ nodes ends = some (nodes', ends') ∧
        I start' end' nodes' ends' ∧ ¬ start' + 1 < end' := by
  intro fuel
  induction fuel with
  | zero =>
    intro start end_ nodes ends h hw
    have hex : ¬ start + 1 < end_ := by omega
    exact ⟨start, end_, nodes, ends, buildLevels_exit 0 nodes ends hex, h, hex⟩
  | succ fuel ih =>
    intro start end_ nodes ends h hw
    by_cases hlt : start + 1 < end_
    · have hdec : ceilDiv (end_ - start) B < end_ - start := ceilDiv_lt hB (by omega)
      obtain ⟨s', e', n', en', heq, hI, hex⟩ := ih (hstep h hlt) (by omega)
      exact ⟨s', e', n', en', (if_pos hlt).trans heq, hI, hex⟩
    · exact ⟨start, end_, nodes, ends, buildLevels_exit _ nodes ends hlt, h, hlt⟩

theorem bulkShape_spec {B L : Nat} (hB : 2 ≤ B) (hL : 1 ≤ L) (n : Nat) :
    ∃ s, bulkShape B L n = some s ∧ s.nLeaves = ceilDiv n L ∧ Levels B s.nLeaves s.nodes s.ends ∧
      lwidth s.ends (s.ends.length - 1) ≤ 1 := by
  obtain ⟨_, _, nodes, ends, heq, hI, hex⟩ :=
    buildLevels_loop hB (I := LevelsInv B (ceilDiv n L)) levelsInv_step (ceilDiv (ceilDiv n L) B)
      (levelsInv_init B _ _ rfl) (Nat.le_succ_of_le (Nat.sub_le _ _))
  refine ⟨⟨ceilDiv n L, nodes, ends⟩, ?_, rfl, hI.levels hex⟩
  unfold bulkShape
  rw [if_neg (by omega)]
  show (match buildLevels B _ 0 _ _ _ with | some (nodes, ends) => _ | none => _) = _
  rw [heq]

theorem Levels.width_succ {B nl : Nat} {nodes : List SNode} {ends : List Nat} (h : Levels B nl nodes ends)
    (k : Nat) (hk : k + 1 < ends.length) : lwidth ends (k + 1) = ceilDiv (lwidth ends k) B := by
  show lend ends (k + 1) - lend ends k = _
  rw [(h.step k hk).2]; exact Nat.add_sub_cancel_left ..

theorem childrenCount_levels {B nl : Nat} {nodes : List SNode} {ends : List Nat} (hB : 0 < B)
    (h : Levels B nl nodes ends) (k : Nat) (hk : k + 1 < ends.length) (j : Nat) (hj : j < lwidth ends (k + 1)) :
    childrenCount B ends (lstart ends k + B * j) = min (B * (j + 1)) (lwidth ends k) - B * j ∧
    lstart ends k + B * j + childrenCount B ends (lstart ends k + B * j) ≤ lend ends k := by
  rw [h.width_succ k hk] at hj
  have hlt : B * j < lwidth ends k := (lt_ceilDiv_iff hB _ _).mp hj
  have hc : lstart ends k + B * j < lend ends k := Nat.add_lt_of_lt_sub' hlt
  rw [childrenCount_of_mem_level h.mono (Nat.lt_of_succ_lt hk) (Nat.le_add_right _ _) hc]
  refine ⟨?_, Nat.add_le_of_le_sub' (Nat.le_of_lt hc) (Nat.min_le_right _ _)⟩
  rw [Nat.sub_add_eq, Nat.mul_succ]
  exact min_sub_left B (B * j) _

end Tbx.RTree
