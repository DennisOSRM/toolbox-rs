import Tbx.Proofs.DGraphBasic
namespace Tbx.DG
open Tbx
open Tbx.SG (EEntry maxId)

theorem writeEdge_shape (g g' : Graph) (s t : Nat) (d : Int) (h : writeEdge g s t d = some g') :
    s < g.nodes.size ∧ (gt g.nodes s).first + (gt g.nodes s).count < g.edges.size ∧
    g'.nodes = st g.nodes s ⟨(gt g.nodes s).first, (gt g.nodes s).count + 1⟩ ∧
    g'.edges = st g.edges ((gt g.nodes s).first + (gt g.nodes s).count) ⟨t, d⟩ ∧
    g'.numNodes = g.numNodes ∧ g'.numEdges = g.numEdges + 1 := by
  unfold writeEdge at h
  simp only at h
  split at h
  · cases h
  · rename_i hc
    cases h
    exact ⟨by omega, by omega, rfl, rfl, rfl, rfl⟩

theorem writeEdge_isSome (g : Graph) (s t : Nat) (d : Int) (hs : s < g.nodes.size)
    (hfree : (gt g.nodes s).first + (gt g.nodes s).count < g.edges.size) : (writeEdge g s t d).isSome := by
  unfold writeEdge
  simp only
  rw [if_neg (by omega)]; rfl

theorem reslot_write (a : Array EEntry) (F C : Nat) (x : EEntry) (hfree : F + C < a.size)
    (hsp : (gt a (F + C)).tgt = maxId) (hx : x.tgt ≠ maxId)
    (live : ∀ e, F ≤ e → e < F + C → (gt a e).tgt ≠ maxId) :
    Reslot a (st a (F + C) x) F C F (C + 1) := by
  have ge : ∀ e, gt (st a (F + C) x) e = if e = F + C then x else gt a e :=
    fun e => gt_st_lt _ _ _ _ hfree
  refine ⟨Nat.le_of_eq (size_st ..).symm, by rw [size_st]; exact hfree, ?_, ?_, ?_⟩
  · intro e _ hl hno
    have h1 : e ≠ F + C := fun c => hl (c ▸ hsp)
    rw [ge, if_neg h1]
    exact ⟨rfl, by omega⟩
  · intro e h1 h2
    rw [ge]
    by_cases c : e = F + C
    · rw [if_pos c]; exact hx
    · rw [if_neg c]; exact live e h1 (by omega)
  · intro e hlt hl hno
    rw [size_st] at hlt
    have : e ≠ F + C ∧ ¬ (F ≤ e ∧ e < F + C) := by omega
    rw [ge, if_neg this.1] at hl
    exact ⟨hlt, hl, this.2⟩

theorem writeEdge_inv (g g' : Graph) (s t : Nat) (d : Int) (hI : Inv g) (hs : s < g.numNodes) (ht : t ≠ maxId)
    (hsp : (gt g.edges ((gt g.nodes s).first + (gt g.nodes s).count)).tgt = maxId)
    (h : writeEdge g s t d = some g') :
    Inv g' ∧ g'.numNodes = g.numNodes ∧ g'.numEdges = g.numEdges + 1 ∧
    adjM g' s = adjM g s ++ [(t, d)] ∧ (∀ v, v ≠ s → adjM g' v = adjM g v) := by
  obtain ⟨hsn, hfree, hn, he, hnn, hne⟩ := writeEdge_shape g g' s t d h
  obtain ⟨hI', hoth⟩ := hI.reslice hs rfl rfl hn hnn (by rw [hne, Nat.add_right_comm]; rfl)
    (he ▸ reslot_write g.edges _ _ ⟨t, d⟩ hfree hsp ht)
  refine ⟨hI', hnn, hne, ?_, hoth⟩
  rw [adjM_slice g' s (hnn ▸ hs), adjM_slice g s hs, hn, gt_st_eq _ _ _ hsn, he]
  dsimp only
  rw [List.range'_concat, List.map_append, Nat.one_mul]
  congr 1
  · apply List.map_congr_left
    intro e hm
    rw [gt_st_ne _ _ _ _ (Nat.ne_of_gt (List.mem_range'_1.mp hm).2)]
  · rw [List.map_singleton, gt_st_eq _ _ _ hfree]

end Tbx.DG
