import Tbx.Proofs.LruL1Seg
/-
Well-formedness `WF s chain` of the L1 list and its preservation by every operation of `linked_list.rs`, in the shape
`WF s chain → ∃ s', op s … = .ok (s', result) ∧ WF s' chain'`: on a well-formed list the operation reaches no error
branch (use after free, wild pointer, failed unwrap / assertion, underflow) and the abstract chain changes as the
L0 model says.
-/
namespace Tbx.LruL1
open Tbx

variable {T : Type}

def MemOK (cells : Array (Option (Node T))) (freed : List Nat) (A : List Nat) : Prop :=
  (∀ a n, gt cells a = some n → a ∈ A) ∧ (∀ a, a ∈ freed ↔ (a < cells.size ∧ gt cells a = none))

theorem Upd.memOK {cells c' : Array (Option (Node T))} {a : Nat} {n' : Node T} (u : Upd cells c' a n')
    {freed A : List Nat} (h : MemOK cells freed A) : MemOK c' freed A := by
  constructor
  · intro a' m hm
    have h1 := u.isSome_eq a'
    rw [hm] at h1
    obtain ⟨m0, hm0⟩ := Option.isSome_iff_exists.1 h1.symm
    exact h.1 a' m0 hm0
  · intro a'
    rw [u.eq_none_iff, u.size]
    exact h.2 a'

structure WF (s : LL T) (ch : List (Nat × T)) : Prop where
  seg : Seg s.mem.cells none ch none
  nodup : (addrs ch).Nodup
  front : s.front = headOr ch none
  back : s.back = lastOr ch none
  len : s.len = ch.length
  freedNodup : s.mem.freed.Nodup
  mem : MemOK s.mem.cells s.mem.freed (addrs ch)

theorem WF.live {s : LL T} {ch : List (Nat × T)} (h : WF s ch) :
    ∀ a n, gt s.mem.cells a = some n → a ∈ addrs ch := h.mem.1
theorem WF.freed {s : LL T} {ch : List (Nat × T)} (h : WF s ch) :
    ∀ a, a ∈ s.mem.freed ↔ (a < s.mem.cells.size ∧ gt s.mem.cells a = none) := h.mem.2

theorem wf_new : WF (LL.new : LL T) [] := by
  refine ⟨trivial, by simp [addrs], rfl, rfl, rfl, by simp [LL.new, Mem.empty], ?_, ?_⟩
  · intro a n h
    simp [LL.new, Mem.empty, gt] at h
  · intro a; simp [LL.new, Mem.empty]

theorem WF.addr_lt {s : LL T} {ch : List (Nat × T)} (h : WF s ch) (a : Nat) (ha : a ∈ addrs ch) :
    a < s.mem.cells.size := by
  obtain ⟨n, hn⟩ := seg_live _ _ _ _ h.seg a ha
  exact lt_size_of_gt_some _ _ _ hn

theorem memOK_push (cells : Array (Option (Node T))) (freed A : List Nat) (n : Node T)
    (h : MemOK cells freed A) : MemOK (cells.push (some n)) freed (cells.size :: A) := by
  constructor
  · intro a m hm
    rw [gt_push] at hm
    split at hm
    · exact List.mem_cons_of_mem _ (h.1 a m hm)
    · split at hm
      · rename_i e; exact e ▸ List.mem_cons_self
      · cases hm
  · intro a
    rw [h.2 a, gt_push, Array.size_push]
    by_cases h1 : a < cells.size
    · simp only [h1, if_true, true_and, iff_and_self]; omega
    · by_cases h2 : a = cells.size
      · simp [h2]
      · simp only [h1, h2, if_false, false_and, false_iff]; omega

theorem pushFront_wf (s : LL T) (ch : List (Nat × T)) (t : T) (h : WF s ch) :
    ∃ s', LL.pushFront s t = .ok (s', s.mem.cells.size) ∧ WF s' ((s.mem.cells.size, t) :: ch) ∧
      s'.mem.cells.size = s.mem.cells.size + 1 := by
  have hfresh : s.mem.cells.size ∉ addrs ch := fun hm => Nat.lt_irrefl _ (h.addr_lt _ hm)
  have hseg0 : Seg (s.mem.cells.push (some ⟨none, none, t⟩)) none ch none :=
    seg_frame _ _ _ _ _ (fun a ha => gt_push_lt _ _ _ (h.addr_lt a ha)) h.seg
  have hnew0 := gt_push_eq s.mem.cells (some ⟨none, none, t⟩)
  have hm0 := memOK_push _ _ _ ⟨none, none, t⟩ h.mem
  have hnd : (addrs ((s.mem.cells.size, t) :: ch)).Nodup := List.nodup_cons.2 ⟨hfresh, h.nodup⟩
  cases ch with
  | nil =>
    have hf : s.front = none := h.front
    exact ⟨{ s with mem := ⟨s.mem.cells.push (some ⟨none, none, t⟩), s.mem.freed⟩, back := some s.mem.cells.size, front := some s.mem.cells.size,
                    len := s.len + 1 },
      by simp only [LL.pushFront, Mem.alloc, hf],
      ⟨⟨hnew0, trivial⟩, hnd, rfl, rfl, congrArg (· + 1) h.len, h.freedNodup, hm0⟩, Array.size_push _⟩
  | cons p rest =>
    obtain ⟨old, to⟩ := p
    have hf : s.front = some old := h.front
    have hne : s.mem.cells.size ≠ old := fun e => hfresh (e ▸ List.mem_cons_self)
    -- (*old).next = Some(new); (*new).prev = Some(old)
    obtain ⟨c1, e1, u1⟩ := setNext_ok _ s.mem.freed old (some s.mem.cells.size) hseg0.1
    obtain ⟨c2, e2, u2⟩ := setPrev_ok c1 s.mem.freed s.mem.cells.size (some old) ((u1.other _ hne).trans hnew0)
    refine ⟨{ s with mem := ⟨c2, s.mem.freed⟩, front := some s.mem.cells.size, len := s.len + 1 }, ?_,
      ⟨⟨u2.same, u2.seg_frame hfresh (u1.seg_head (List.nodup_cons.1 h.nodup).1 hseg0)⟩, hnd, rfl, ?_,
        congrArg (· + 1) h.len, h.freedNodup, u2.memOK (u1.memOK hm0)⟩,
      by rw [u2.size, u1.size, Array.size_push]⟩
    · simp only [LL.pushFront, Mem.alloc, hf]; rw [e1]; simp only []; rw [e2]
    · show s.back = lastOr ((old, to) :: rest) none
      exact h.back

theorem eq_nil_or_snoc {α : Type} (l : List α) : l = [] ∨ ∃ l' x, l = l' ++ [x] := by
  by_cases h : l = []
  · exact Or.inl h
  · exact Or.inr ⟨l.dropLast, l.getLast h, (List.dropLast_concat_getLast h).symm⟩

theorem headOr_ne_nil (l : List (Nat × T)) (h : l ≠ []) (pv pv' : Option Nat) : headOr l pv = headOr l pv' := by
  cases l with
  | nil => exact absurd rfl h
  | cons p l => rfl

theorem memOK_free (cells : Array (Option (Node T))) (freed A : List Nat) (a : Nat) (n : Node T)
    (hg : gt cells a = some n) (h : MemOK cells freed (A ++ [a])) :
    MemOK (st cells a none) (a :: freed) A ∧ a ∉ freed := by
  have hlt := lt_size_of_gt_some cells a n hg
  refine ⟨⟨?_, ?_⟩, ?_⟩
  · intro a' m hm
    rw [gt_st] at hm
    split at hm
    · cases hm
    · rename_i hne
      rcases List.mem_append.1 (h.1 a' m hm) with h1 | h1
      · exact h1
      · exact absurd ⟨(List.mem_singleton.1 h1).symm, hlt⟩ hne
  · intro a'
    rw [size_st, List.mem_cons, gt_st]
    by_cases e : a' = a
    · subst e; simp [hlt]
    · have : ¬ (a = a' ∧ a < cells.size) := fun hc => e hc.1.symm
      simp only [e, false_or, this, if_false]
      exact h.2 a'
  · intro hm
    have := ((h.2 a).1 hm).2
    rw [hg] at this; cases this

theorem popBack_wf_nil (s : LL T) (h : WF s []) : LL.popBack s = .ok (s, none) := by
  have hb : s.back = none := h.back
  simp [LL.popBack, hb]

theorem popFixup_ok (cells : Array (Option (Node T))) (fr A : List Nat) (l : List (Nat × T)) (a : Nat) (t : T)
    (hs : Seg cells none l (some a)) (hnd : (addrs l).Nodup) (hm : MemOK cells fr A) :
    ∃ c1, LL.popFixup ⟨cells, fr⟩ (headOr (l ++ [(a, t)]) none) (lastOr l none) = .ok (⟨c1, fr⟩, headOr l none) ∧
      Seg c1 none l none ∧ (∀ a', a' ∉ addrs l → gt c1 a' = gt cells a') ∧ c1.size = cells.size ∧
      MemOK c1 fr A := by
  rcases eq_nil_or_snoc l with e | ⟨l', ⟨nw, tn⟩, e⟩
  · subst e
    exact ⟨cells, rfl, trivial, fun _ _ => rfl, rfl, hm⟩
  · subst e
    have hnw := (nodup_addrs_concat hnd).2
    obtain ⟨c1, e1, u1⟩ := setPrev_ok cells fr nw none ((seg_concat _ _ _ _ _ _).1 hs).2
    refine ⟨c1, ?_, u1.seg_last hnw hs, fun a' ha' => u1.other a' (fun e => ha' ?_), u1.size, u1.memOK hm⟩
    · rw [lastOr_concat, headOr_append, headOr_ne_nil _ (by simp) _ none]
      simp only [LL.popFixup, e1]
    · rw [e, addrs_append]; exact List.mem_append_right _ (List.mem_singleton.2 rfl)

theorem popBack_wf_concat (s : LL T) (l : List (Nat × T)) (a : Nat) (t : T) (h : WF s (l ++ [(a, t)])) :
    ∃ s', LL.popBack s = .ok (s', some t) ∧ WF s' l ∧ s'.mem.cells.size = s.mem.cells.size := by
  have hb : s.back = some a := by rw [h.back, lastOr_concat]
  obtain ⟨hs1, hs2⟩ := (seg_concat _ _ _ _ _ _).1 h.seg
  obtain ⟨hndl, hal⟩ := nodup_addrs_concat h.nodup
  have hlen : ¬ s.len = 0 := by rw [h.len]; simp
  have erd : s.mem.rd a = .ok ⟨lastOr l none, none, t⟩ := rd_ok _ _ _ hs2
  -- (*new).prev = None, while the popped box is still allocated; then the box is freed
  obtain ⟨c1, ef, hseg1, hfr1, hsz1, hm1⟩ :=
    popFixup_ok s.mem.cells s.mem.freed (addrs l ++ [a]) l a t hs1 hndl (addrs_append l [(a, t)] ▸ h.mem)
  have hga1 : gt c1 a = some ⟨lastOr l none, none, t⟩ := (hfr1 a hal).trans hs2
  obtain ⟨hm2, hafr⟩ := memOK_free _ _ _ a _ hga1 hm1
  refine ⟨⟨⟨st c1 a none, a :: s.mem.freed⟩, headOr l none, lastOr l none, s.len - 1⟩, ?_,
    ⟨?_, hndl, rfl, rfl, by simp [h.len], List.nodup_cons.2 ⟨hafr, h.freedNodup⟩, hm2⟩,
    (size_st _ _ _).trans hsz1⟩
  · simp only [LL.popBack, hb]; rw [erd]; simp only []
    rw [h.front]
    show (match LL.popFixup ⟨s.mem.cells, s.mem.freed⟩ _ _ with | .error e => _ | .ok (m1, front') => _) = _
    rw [ef]; simp only [if_neg hlen]; rw [free_ok _ _ _ hga1]
  · exact seg_frame _ _ _ _ _ (fun a' ha' => gt_st_ne _ _ _ _ (fun e => hal (e ▸ ha'))) hseg1

theorem getFront_wf (s : LL T) (f : Nat) (t0 : T) (rest : List (Nat × T)) (h : WF s ((f, t0) :: rest)) :
    LL.getFront s = .ok t0 := by
  have hf : s.front = some f := h.front
  have e : s.mem.rd f = .ok _ := rd_ok _ _ _ h.seg.1
  simp only [LL.getFront, hf, e]

theorem setFront_wf (s : LL T) (f : Nat) (t0 t : T) (rest : List (Nat × T)) (h : WF s ((f, t0) :: rest)) :
    ∃ s', LL.setFront s t = .ok (s', t0) ∧ WF s' ((f, t) :: rest) ∧ s'.mem.cells.size = s.mem.cells.size := by
  have hf : s.front = some f := h.front
  obtain ⟨c1, e1, u1⟩ := setElem_ok s.mem.cells s.mem.freed f t h.seg.1
  have e1' : s.mem.setElem f t = .ok (⟨c1, s.mem.freed⟩, t0) := e1
  exact ⟨{ s with mem := ⟨c1, s.mem.freed⟩ }, by simp only [LL.setFront, hf, e1'],
    ⟨⟨u1.same, u1.seg_frame (List.nodup_cons.1 h.nodup).1 h.seg.2⟩, h.nodup, h.front, h.back, h.len,
      h.freedNodup, u1.memOK h.mem⟩, u1.size⟩

theorem clearLoop_wf (fuel : Nat) (s : LL T) (ch : List (Nat × T)) (acc : List T) (h : WF s ch)
    (hf : ch.length < fuel) :
    ∃ s', LL.clearLoop fuel s acc = .ok (s', acc ++ (ch.map (·.2)).reverse) ∧ WF s' [] ∧
      s'.mem.cells.size = s.mem.cells.size := by
  induction fuel generalizing s ch acc with
  | zero => omega
  | succ fuel ih =>
    rcases eq_nil_or_snoc ch with e | ⟨l, ⟨a, t⟩, e⟩
    · subst e
      refine ⟨s, ?_, h, rfl⟩
      simp [LL.clearLoop, popBack_wf_nil s h]
    · subst e
      obtain ⟨s1, e1, hwf1, hsz1⟩ := popBack_wf_concat s l a t h
      obtain ⟨s', e2, hwf2, hsz2⟩ := ih s1 l (acc ++ [t]) hwf1 (by simp at hf; omega)
      refine ⟨s', ?_, hwf2, hsz2.trans hsz1⟩
      simp only [LL.clearLoop]; rw [e1]; simp only []; rw [e2]; simp

theorem clear_wf (s : LL T) (ch : List (Nat × T)) (h : WF s ch) :
    ∃ s', LL.clear s = .ok (s', (ch.map (·.2)).reverse) ∧ WF s' [] ∧
      s'.mem.cells.size = s.mem.cells.size := by
  obtain ⟨s', e, hwf, hsz⟩ := clearLoop_wf (s.len + 1) s ch [] h (by rw [h.len]; omega)
  exact ⟨s', by simpa [LL.clear] using e, hwf, hsz⟩

theorem freed_once_of_wf_nil (s : LL T) (h : WF s []) :
    s.mem.freed.Nodup ∧ (∀ a, a ∈ s.mem.freed ↔ a < s.mem.cells.size) ∧
    s.mem.freed.length = s.mem.cells.size ∧ (∀ a, gt s.mem.cells a = none) := by
  have hnone : ∀ a, gt s.mem.cells a = none := by
    intro a
    cases hg : gt s.mem.cells a with
    | none => rfl
    | some n => exact absurd (h.live a n hg) (by simp [addrs])
  have hiff : ∀ a, a ∈ s.mem.freed ↔ a < s.mem.cells.size := by
    intro a; rw [h.freed a]; simp [hnone a]
  refine ⟨h.freedNodup, hiff, ?_, hnone⟩
  -- a duplicate-free list with the same members as `range n` has length n
  have h1 : s.mem.freed.Perm (List.range s.mem.cells.size) := by
    rw [List.perm_ext_iff_of_nodup h.freedNodup List.nodup_range]
    intro a; rw [hiff a]; simp
  rw [h1.length_eq]; simp

end Tbx.LruL1
