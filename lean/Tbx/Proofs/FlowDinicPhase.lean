import Tbx.Proofs.FlowDinicPos
import Tbx.Proofs.FlowScan
/-
One phase (`dfs`) of the Dinic model: it returns, keeps the invariants, every augmentation pushes ≥ 1 (`TrPos`, which
becomes C01 `dinic_aug_positive` in FlowDinicDfs.lean), and it pushes something unless it ends in a closed marking.

One induction over each loop of `dfs` (`dfsEdges_run`, `dfsLoop_run`) carries the invariants `DI` and `DP`, the
measure `|stack| + #unmarked`, and the fact that until the first augmentation the DFS is a plain search over the
admissible edges (`Searched`: a `Scan` of FlowScan.lean; `SC`: the closure `WClosed` it keeps): a phase that ends
without augmentation leaves a marking closed under them.
-/
namespace Tbx.Flow
open Tbx Tbx.FlowTheory Tbx.FlowSpec

def TrPos (d : Dinic) : Prop := ∀ tr, tr ∈ d.trace → 0 < tr.2.2

theorem reachTarget_some {d : Dinic} {ps : Array Nat} {u v ct : Nat} {avail fl : ℤ} {g' : Graph} (bf : ℤ)
    (hcm : chainMin d.g ps (d.g.numNodes + 1) u avail = some fl)
    (hau : augChain ps fl (d.g.numNodes + 1) v u d.g = some (g', ct)) :
    ∃ d', reachTarget d ps u v avail bf = some (d', bf + fl) ∧ d'.g = g' ∧ d'.parents = st ps d.target INV ∧
      d'.stack = unwind ps ct d.stack ∧ d'.level = d.level ∧ d'.source = d.source ∧ d'.target = d.target ∧
      ∃ b p, d'.trace = (b, p, fl) :: d.trace :=
  ⟨{ d with g := g', parents := st ps d.target INV, stack := unwind ps ct d.stack, dfsCount := d.dfsCount + 1,
             trace := (d.bfsCount, (pathIter ps (d.g.numNodes + 1) v).getD [], fl) :: d.trace },
    by simp only [reachTarget, hcm, hau], rfl, rfl, rfl, rfl, rfl, rfl, _, _, rfl⟩

theorem reachTarget_run {n : Nat} {c : Fin n → Fin n → ℤ} {s t : Fin n} (hst : s ≠ t) (hN : n ≤ INV)
    {d : Dinic} {F : ℤ} {u : Nat} {lu : List Nat} (h : DE c s t d F u lu) {e : Nat} (hre : InRange d.g u e)
    (hte : gt d.g.tgt e = t.val) (hav : gt d.g.cap e ≠ 0) (bf : ℤ) :
    ∃ d' fl, reachTarget d (st d.parents t.val u) u t.val (gt d.g.cap e) bf = some (d', bf + fl) ∧ 0 < fl ∧
      DI c s t d' (F + fl) ∧ DP n s.val d'.g d'.parents (d'.stack.map Prod.fst) ∧ (TrPos d → TrPos d') ∧
      d'.level = d.level ∧ d'.stack.length + unm d'.parents n ≤ d.stack.length + unm d.parents n := by
  have hi := h.di
  have hgn := hi.fi.hn
  have hsn : s.val < n := s.isLt
  obtain ⟨hun, _⟩ := pchain_self hsn hi.hs hN h.cu
  obtain ⟨hps1, hcu1, hct⟩ := hi.chain_target hst hN h.cu hun
  have hwin : ∀ ab, ab ∈ windows (t.val :: lu) →
      (∃ e', d.g.findEdge ab.2 ab.1 = some e') ∧ ∃ e', d.g.findEdge ab.1 ab.2 = some e' := by
    intro ab hab
    obtain ⟨e', he', _⟩ := posW_target_path hi h.cu h.posu hre hte hav ab hab
    refine ⟨⟨e', he'⟩, ?_⟩
    obtain ⟨hb, hre', hte'⟩ := findEdge_spec d.g _ _ e' he'
    obtain ⟨e'', hr'', ht''⟩ := hi.rc ab.2 e' hb hre'
    rw [hte'] at hr''
    exact findEdge_some_of_edge d.g ab.1 ab.2 e'' hr'' ht''
  have hlenP := pchain_length_le hsn hps1 hN hct
  obtain ⟨fl, hcm⟩ := chainMin_total d.g hps1 hcu1
    (fun ab hab => by
      obtain ⟨tlu, rfl⟩ := pchain_head h.cu
      exact (hwin ab (mem_windows_tail _ hab)).1)
    (d.g.numNodes + 1) (gt d.g.cap e) (by rw [hgn]; exact Nat.le_succ_of_le (Nat.le_of_succ_le hlenP))
  obtain ⟨⟨g', ct⟩, hau⟩ := augChain_total hps1 fl hct d.g hwin (d.g.numNodes + 1) u
    (by rw [hgn]; exact Nat.le_succ_of_le hlenP)
  obtain ⟨_, _, _, _, _, hfi', hfirst, htgt⟩ :=
    aug_valid hst hN d F hi u e lu h.cu hun hre hte fl hcm g' ct hau
  obtain ⟨hflpos, hdp⟩ := dp_target hst hN d F hi h.dp u e lu h.cu hun h.posu h.unot hre hte hav fl hcm g' ct hau
  obtain ⟨d', hrt, hg, hp, hs, hl, hsrc, htg, b, p, htr⟩ := reachTarget_some bf hcm hau
  rw [hi.tgt] at hp
  have hpe : ∀ x, gt d'.parents x = gt d.parents x := by rw [hp]; exact hi.reset_eq u
  have hsub := unwind_sublist (st d.parents t.val u) ct d.stack
  refine ⟨d', fl, hrt, hflpos, ⟨by rw [hg]; exact hfi', by rw [hg]; exact uniq_of_eq hi.uq hfirst htgt,
    by rw [hg]; exact revClosed_of_eq hi.rc hfirst htgt, hsrc.trans hi.src, htg.trans hi.tgt,
    by rw [hp, size_st, size_st]; exact hi.psz, (hpe _).trans hi.hs, (hpe _).trans hi.ht, ?_⟩,
    by rw [hg, hp, hs]; exact hdp, ?_, hl, ?_⟩
  · intro y hy
    rw [hs] at hy
    obtain ⟨l, hl⟩ := hi.stk y ((hsub.map Prod.fst).subset hy)
    exact ⟨l, pchain_congr hl (fun x _ => hpe x)⟩
  · intro htr0 tr htr'
    rw [htr] at htr'
    rcases List.mem_cons.mp htr' with rfl | h'
    · exact hflpos
    · exact htr0 tr h'
  · rw [hs, unm_congr hpe]
    exact Nat.add_le_add_right hsub.length_le _

/-- the edge test of `dfs` for an edge of `u` -/
def AdmE (g : Graph) (lv : Array Nat) (u e : Nat) : Prop := gt g.cap e ≠ 0 ∧ gt lv (gt g.tgt e) ≤ gt lv u

def Searched (n u e k : Nat) (d d' : Dinic) : Prop :=
  d'.g = d.g ∧ Scan (· ≠ INV) (· = INV) n (Heads d.g (AdmE d.g d.level u) e k) d.parents (d.stack.map Prod.fst)
    d'.parents (d'.stack.map Prod.fst)

theorem dfsEdges_skip {u e : Nat} {flow : ℤ} {d : Dinic}
    (h : gt d.parents (gt d.g.tgt e) ≠ INV ∨ gt d.level u < gt d.level (gt d.g.tgt e) ∨ gt d.g.cap e = 0)
    (k : Nat) (bf : ℤ) : dfsEdges u flow e (k + 1) d bf = dfsEdges u flow (e + 1) k d bf := by
  simp only [dfsEdges]
  by_cases h1 : gt d.parents (gt d.g.tgt e) ≠ INV
  · rw [if_pos h1]
  · rw [if_neg h1]
    by_cases h2 : gt d.level u < gt d.level (gt d.g.tgt e)
    · rw [if_pos h2]
    · rw [if_neg h2, if_pos ((h.resolve_left h1).resolve_left h2)]

theorem dfsEdges_new {u e : Nat} {flow : ℤ} {d : Dinic} (h1 : gt d.parents (gt d.g.tgt e) = INV)
    (h2 : ¬ gt d.level u < gt d.level (gt d.g.tgt e)) (h3 : gt d.g.cap e ≠ 0) (k : Nat) (bf : ℤ) :
    dfsEdges u flow e (k + 1) d bf =
      if gt d.g.tgt e = d.target then
        reachTarget d (st d.parents (gt d.g.tgt e) u) u (gt d.g.tgt e) (gt d.g.cap e) bf
      else dfsEdges u flow (e + 1) k
        { d with parents := st d.parents (gt d.g.tgt e) u,
                 stack := (gt d.g.tgt e, min flow (gt d.g.cap e)) :: d.stack } bf := by
  simp only [dfsEdges]
  rw [if_neg (not_not_intro h1), if_neg h2, if_neg h3]

theorem dfsEdges_run {n : Nat} {c : Fin n → Fin n → ℤ} {s t : Fin n} (hst : s ≠ t) (hN : n ≤ INV)
    (u : Nat) (flow : ℤ) (lu : List Nat) (k : Nat) :
    ∀ (e : Nat) (d : Dinic) (bf F : ℤ), DE c s t d F u lu →
    d.g.beginEdges u ≤ e → e + k = d.g.beginEdges u + d.g.deg u →
    ∃ d' δ, dfsEdges u flow e k d bf = some (d', bf + δ) ∧ DI c s t d' (F + δ) ∧
      DP n s.val d'.g d'.parents (d'.stack.map Prod.fst) ∧ (TrPos d → TrPos d') ∧ d'.level = d.level ∧
      d'.stack.length + unm d'.parents n ≤ d.stack.length + unm d.parents n ∧
      (0 < δ ∨ δ = 0 ∧ Searched n u e k d d') := by
  induction k with
  | zero =>
    intro e d bf F h _ he
    exact ⟨d, 0, by rw [Int.add_zero]; rfl, by rw [Int.add_zero]; exact h.di, h.dp, id, rfl, Nat.le_refl _,
      Or.inr ⟨rfl, rfl, Scan.edge_nil⟩⟩
  | succ k ih =>
    intro e d bf F h hr1 hr2
    have hi := h.di
    have hre : InRange d.g u e := ⟨hr1, hr2 ▸ Nat.lt_add_of_pos_right (Nat.succ_pos k)⟩
    have hr2' : e + 1 + k = d.g.beginEdges u + d.g.deg u := (Nat.add_right_comm e 1 k).trans hr2
    obtain ⟨hun, _⟩ := pchain_self s.isLt hi.hs hN h.cu
    by_cases hskip : gt d.parents (gt d.g.tgt e) ≠ INV ∨ gt d.level u < gt d.level (gt d.g.tgt e) ∨
        gt d.g.cap e = 0
    · obtain ⟨d', δ, h1, h2, h3, h4, h5, h6, h7⟩ := ih (e + 1) d bf F h (Nat.le_succ_of_le hr1) hr2'
      exact ⟨d', δ, by rw [dfsEdges_skip hskip]; exact h1, h2, h3, h4, h5, h6,
        h7.imp_right fun hs => ⟨hs.1, hs.2.1, hs.2.2.edge_skip fun ha =>
          (hskip.resolve_right fun hh => hh.elim (Nat.not_lt.mpr ha.2) ha.1)⟩⟩
    · have hvI : gt d.parents (gt d.g.tgt e) = INV := not_not.mp fun hh => hskip (Or.inl hh)
      have hlv : ¬ gt d.level u < gt d.level (gt d.g.tgt e) := fun hh => hskip (Or.inr (Or.inl hh))
      have hav : gt d.g.cap e ≠ 0 := fun hh => hskip (Or.inr (Or.inr hh))
      rw [dfsEdges_new hvI hlv hav]
      by_cases hvt : gt d.g.tgt e = d.target
      · have hte : gt d.g.tgt e = t.val := hvt.trans hi.tgt
        rw [if_pos hvt, hte]
        obtain ⟨d', fl, h1, hpos, h2, h3, h4, h5, h6⟩ := reachTarget_run hst hN h hre hte hav bf
        exact ⟨d', fl, h1, h2, h3, h4, h5, h6, Or.inl hpos⟩
      · rw [if_neg hvt]
        have hvn : gt d.g.tgt e < d.parents.size := by
          rw [hi.psz, ← hi.fi.hn]
          exact hi.fi.wf.tgtOK e (hi.fi.wf.inRange_lt hre)
        have hunI : u ≠ INV := Nat.ne_of_lt (Nat.lt_of_lt_of_le hun hN)
        obtain ⟨d', δ, h1, h2, h3, h4, h5, h6, h7⟩ := ih (e + 1) _ bf F
          (de_push hN h hre rfl hvI (fun hh => hvt (hh.trans hi.tgt.symm)) hav (min flow (gt d.g.cap e)))
          (Nat.le_succ_of_le hr1) hr2'
        refine ⟨d', δ, h1, h2, h3, h4, h5, ?_, h7.imp_right fun hs => ⟨hs.1, hs.2.1, hs.2.2.edge_mark
          ⟨hav, Nat.le_of_not_lt hlv⟩ (hi.psz ▸ hvn) hvn hvI hunI hunI rfl fun _ => List.mem_cons.trans or_comm⟩⟩
        -- one more entry on the stack, one unmarked node less
        have := unm_st_mark d.parents (gt d.g.tgt e) u n (by rw [← hi.psz]; exact hvn) hvn hvI hunI
        have h6' : d'.stack.length + unm d'.parents n ≤
            (d.stack.length + 1) + unm (st d.parents (gt d.g.tgt e) u) n := h6
        omega

def SC (g : Graph) (lv ps : Array Nat) (stk : List Nat) : Prop :=
  WClosed (fun v => Heads g (AdmE g lv v) (g.beginEdges v) (g.deg v)) (gt ps · ≠ INV) (· ∈ stk)

theorem dfsLoop_run {n : Nat} {c : Fin n → Fin n → ℤ} {s t : Fin n} (hst : s ≠ t) (hN : n ≤ INV)
    (fuel : Nat) : ∀ (d : Dinic) (bf F : ℤ), DI c s t d F →
    DP n s.val d.g d.parents (d.stack.map Prod.fst) → d.stack.length + unm d.parents n < fuel →
    ∃ d' δ, dfsLoop fuel d bf = some (d', bf + δ) ∧ DI c s t d' (F + δ) ∧ (TrPos d → TrPos d') ∧
      d'.level = d.level ∧ 0 ≤ δ ∧
      (SC d.g d.level d.parents (d.stack.map Prod.fst) → 0 < δ ∨
        (d'.g = d.g ∧ SC d.g d.level d'.parents [])) := by
  induction fuel with
  | zero => intro d bf F _ _ h; exact absurd h (Nat.not_lt_zero _)
  | succ fuel ih =>
    intro d bf F hi hp hm
    cases hstack : d.stack with
    | nil =>
      exact ⟨d, 0, by simp only [dfsLoop, hstack, Int.add_zero], by rw [Int.add_zero]; exact hi, id, rfl,
        Int.le_refl _, fun hsc => Or.inr ⟨rfl, hsc⟩⟩
    | cons top rest =>
      obtain ⟨u, flow⟩ := top
      obtain ⟨lu, hde⟩ := de_pop hi hp hstack
      obtain ⟨d1, δ1, he, hdi1, hdp1, htr1, hlv1, hmeas, hdisj⟩ := dfsEdges_run hst hN u flow lu (d.g.deg u)
        (d.g.beginEdges u) _ bf F hde (Nat.le_refl _) rfl
      have hmeas' : d1.stack.length + unm d1.parents n ≤ rest.length + unm d.parents n := hmeas
      have hlv1' : d1.level = d.level := hlv1
      rw [hstack, List.length_cons] at hm
      obtain ⟨d', δ2, hl, hdi', htr', hlv', hle, himp⟩ := ih d1 (bf + δ1) (F + δ1) hdi1 hdp1 (by omega)
      rw [Int.add_assoc] at hl hdi'
      refine ⟨d', δ1 + δ2, by simp only [dfsLoop, hstack, he, hl], hdi', fun h => htr' (htr1 h), hlv'.trans hlv1',
        ?_, fun hsc => ?_⟩
      · rcases hdisj with h | ⟨h, _⟩
        · exact Int.add_nonneg (Int.le_of_lt h) hle
        · rw [h, Int.zero_add]; exact hle
      · rcases hdisj with h | ⟨h, hs⟩
        · exact Or.inl (Int.add_pos_of_pos_of_nonneg h hle)
        · have hg1 : d1.g = d.g := hs.1
          have hsc1 : SC d1.g d1.level d1.parents (d1.stack.map Prod.fst) := by
            rw [hg1, hlv1']; exact hs.2.closed (E := fun v => Heads d.g (AdmE d.g d.level v) (d.g.beginEdges v) (d.g.deg v)) hsc
              fun _ => List.mem_cons.mp
          rw [h, Int.zero_add]
          rcases himp hsc1 with h' | ⟨b1, b3⟩
          · exact Or.inl h'
          · rw [hg1, hlv1'] at b3
            exact Or.inr ⟨b1.trans hg1, b3⟩

/-- what the main loop keeps between phases: the first six fields of `DI` and the size of `level` (the other three
    fields of `DI` speak of parents and stack and hold inside `dfs` only) -/
structure DL {n : Nat} (c : Fin n → Fin n → ℤ) (s t : Fin n) (d : Dinic) (flow : ℤ) : Prop where
  fi  : FInv c s t d.g flow
  uq  : Uniq d.g
  rc  : RevClosed d.g
  src : d.source = s.val
  tgt : d.target = t.val
  psz : d.parents.size = n
  lsz : d.level.size = n

theorem dfs_init {n : Nat} {c : Fin n → Fin n → ℤ} {s t : Fin n} (hst : s ≠ t) (hN : n ≤ INV) {d0 : Dinic}
    {F x : ℤ} (fi : FInv c s t d0.g F) (uq : Uniq d0.g) (rc : RevClosed d0.g) (src : d0.source = s.val)
    (tgt : d0.target = t.val) (hp : d0.parents = st (Array.replicate n INV) s.val s.val)
    (hs : d0.stack = [(s.val, x)]) :
    DI c s t d0 F ∧ DP n s.val d0.g d0.parents (d0.stack.map Prod.fst) ∧
    SC d0.g d0.level d0.parents (d0.stack.map Prod.fst) ∧
    d0.stack.length + unm d0.parents n < 2 * n + 2 := by
  have hssz : s.val < (Array.replicate n INV).size := by rw [Array.size_replicate]; exact s.isLt
  have hsI : s.val ≠ INV := Nat.ne_of_lt (Nat.lt_of_lt_of_le s.isLt hN)
  have hgs : gt d0.parents s.val = s.val := by rw [hp]; exact gt_st_eq _ _ _ hssz
  have hgo : ∀ x, x < n → x ≠ s.val → gt d0.parents x = INV := by
    intro x hx hxs
    rw [hp, gt_st_ne _ _ _ _ (fun e => hxs e.symm)]; exact gt_replicate _ INV x hx
  have hstk : d0.stack.map Prod.fst = [s.val] := by rw [hs]; rfl
  rw [hstk]
  refine ⟨⟨fi, uq, rc, src, tgt, by rw [hp, size_st]; exact Array.size_replicate .., hgs,
    hgo _ t.isLt (fun e => hst (Fin.ext e.symm)), ?_⟩, ⟨?_, ?_, List.nodup_singleton _,
    List.pairwise_singleton _ _, ?_⟩, ?_, ?_⟩
  · intro y hy
    rw [hstk, List.mem_singleton] at hy
    rw [hy]; exact ⟨[s.val], PChain.base⟩
  · intro y hy l hl ab hab
    rw [List.mem_singleton.mp hy] at hl
    rw [pchain_unique hl PChain.base] at hab
    cases hab
  · intro y hy w hw hwy
    rw [List.mem_singleton.mp hy] at hwy ⊢
    rw [hgo w hw hwy]; exact hsI.symm
  · intro w hw hm
    by_cases hws : w = s.val
    · rw [hws, hgs, hgs]; exact hsI
    · exact absurd (hgo w hw hws) hm
  · intro v hmk
    by_cases hvs : v = s.val
    · exact Or.inl (List.mem_singleton.mpr hvs)
    · exact Or.inr fun w ⟨_, h1, h2, _⟩ => absurd (hgo v (fi.hn ▸ InRange.src_lt ⟨h1, h2⟩) hvs) hmk
  · have h1 := unm_st_mark (Array.replicate n INV) s.val s.val n s.isLt hssz (gt_replicate _ INV _ s.isLt) hsI
    have h2 := unm_replicate n n (Nat.le_refl _)
    rw [hs, hp, List.length_singleton]
    omega

theorem dfs_run {n : Nat} {c : Fin n → Fin n → ℤ} {s t : Fin n} (hst : s ≠ t) (hN : n ≤ INV)
    (d : Dinic) (F : ℤ) (hi : DL c s t d F) :
    ∃ d' bf, d.dfs = some (d', bf) ∧ DL c s t d' (F + bf) ∧ 0 ≤ bf ∧ (TrPos d → TrPos d') ∧
      (0 < bf ∨ ∃ ps, Marked ps s.val ∧ ¬ Marked ps t.val ∧ SC d.g d.level ps []) := by
  obtain ⟨hi0, hp0, hsc0, hmeas⟩ := dfs_init hst hN
    (d0 := { d with dfsCount := d.dfsCount + 1, stack := [(d.source, I32MAX)],
                    parents := st (Array.replicate d.parents.size INV) d.source d.source })
    hi.fi hi.uq hi.rc hi.src hi.tgt
    (by show st (Array.replicate d.parents.size INV) d.source d.source = _; rw [hi.psz, hi.src])
    (by show [(d.source, I32MAX)] = _; rw [hi.src])
  obtain ⟨d', bf, hl, hdi, htr, hlv, hle, himp⟩ := dfsLoop_run hst hN (2 * d.g.numNodes + 2) _ 0 F hi0 hp0
    (by rw [hi.fi.hn]; exact hmeas)
  rw [Int.zero_add] at hl
  exact ⟨d', bf, hl, ⟨hdi.fi, hdi.uq, hdi.rc, hdi.src, hdi.tgt, hdi.psz, by rw [hlv]; exact hi.lsz⟩, hle, htr,
    (himp hsc0).imp_right fun ⟨_, b3⟩ => ⟨d'.parents,
      fun h => Nat.ne_of_lt (Nat.lt_of_lt_of_le s.isLt hN) (hdi.hs.symm.trans h), fun h => h hdi.ht, b3⟩⟩

end Tbx.Flow
