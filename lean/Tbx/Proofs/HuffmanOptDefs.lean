import Tbx.Spec.HuffmanCode
import Tbx.Proofs.InsertSort
/-
Vocabulary of the Huffman optimality proof: `optCost` (the judge's greedy optimum) depends only on the multiset of
weights (`optCost_perm`) and obeys the merge recurrence `optCost_merge`; `KraftLe`, `wsum` for the lower bound.
-/
namespace Tbx.Spec.Huff

theorem sum_perm {l l' : List Int} (h : l.Perm l') : l.sum = l'.sum :=
  h.foldr_eq' (f := (· + ·)) (fun _ _ _ _ => Int.add_left_comm _ _) 0

theorem insertSorted_perm (x : Int) (l : List Int) : (insertSorted x l).Perm (x :: l) :=
  InsertSort.perm_ins insertSorted (fun _ => rfl) (fun _ _ _ => rfl) x l

theorem sortInts_perm (l : List Int) : (sortInts l).Perm l :=
  InsertSort.perm_sort sortInts insertSorted_perm rfl (fun _ _ => rfl) l

theorem insertSorted_sorted (x : Int) (l : List Int) (h : l.Pairwise (· ≤ ·)) :
    (insertSorted x l).Pairwise (· ≤ ·) :=
  InsertSort.pairwise_ins insertSorted (fun _ => rfl) (fun _ _ _ => rfl) x l h Int.le_trans fun _ _ => by omega

theorem sortInts_sorted (l : List Int) : (sortInts l).Pairwise (· ≤ ·) :=
  InsertSort.pairwise_sort sortInts insertSorted_sorted rfl (fun _ _ => rfl) l

theorem sortInts_eq {l s : List Int} (hp : s.Perm l) (hs : s.Pairwise (· ≤ ·)) : sortInts l = s :=
  ((sortInts_perm l).trans hp.symm).eq_of_pairwise (fun _ _ _ _ => Int.le_antisymm) (sortInts_sorted l) hs

theorem sortInts_length (l : List Int) : (sortInts l).length = l.length := (sortInts_perm l).length_eq

theorem optCost_perm {l l' : List Int} (h : l.Perm l') : optCost l = optCost l' := by
  unfold optCost
  rw [sortInts_eq ((sortInts_perm l').trans h.symm) (sortInts_sorted l'), h.length_eq]

@[simp] theorem optCost_nil : optCost [] = 0 := rfl
@[simp] theorem optCost_single (w : Int) : optCost [w] = 0 := rfl

theorem optCost_merge (a b : Int) (R : List Int) (hab : a ≤ b) (hR : ∀ r ∈ R, b ≤ r) :
    optCost (a :: b :: R) = a + b + optCost ((a + b) :: R) := by
  have hmem : ∀ r ∈ sortInts R, b ≤ r := fun r hr => hR r ((sortInts_perm R).mem_iff.mp hr)
  have e1 : sortInts (a :: b :: R) = a :: b :: sortInts R :=
    sortInts_eq (((sortInts_perm R).cons b).cons a) (List.pairwise_cons.mpr
      ⟨List.forall_mem_cons.2 ⟨hab, fun r hr => Int.le_trans hab (hmem r hr)⟩,
        List.pairwise_cons.mpr ⟨hmem, sortInts_sorted R⟩⟩)
  unfold optCost
  rw [e1]
  simp only [List.length_cons, greedyCost]
  rfl

/-- lengths at most `L` with Kraft sum (scaled by `2^L`) at most one -/
def KraftLe (L : Nat) (ls : List Nat) : Prop :=
  (∀ l ∈ ls, l ≤ L) ∧ (ls.map fun l => 2 ^ (L - l)).sum ≤ 2 ^ L

def wsum (ps : List (Int × Nat)) : Int := (ps.map fun p => p.1 * (p.2 : Int)).sum

theorem freqOf_mem (v : List (Nat × Int)) (hnd : (v.map (·.1)).Nodup) (e : Nat × Int) (he : e ∈ v) :
    freqOf v e.1 = e.2 := by
  induction v with
  | nil => cases he
  | cons x xs ih =>
    simp only [List.map_cons, List.nodup_cons] at hnd
    rcases List.mem_cons.mp he with rfl | hmem
    · simp [freqOf]
    · have hne : x.1 ≠ e.1 := fun heq => hnd.1 (heq ▸ List.mem_map_of_mem hmem)
      simpa [freqOf, List.find?_cons_of_neg, hne] using ih hnd.2 hmem

end Tbx.Spec.Huff
