import Tbx.Proofs.LoserTree
import Tbx.Spec.MergeTree
/-
`with_capacity` establishes the invariant for every capacity (0, 1, powers of two and others),
and the loser tree satisfies the `MergeTree` specification used by the k-way merge.
-/
namespace Tbx.LoserTree
open Tbx

theorem leftmostLoop_spec (internal v : Nat) (fuel l : Nat) (ha : Anc v l) (hl : l ≤ 2 * internal)
    (hf : internal ≤ fuel + l) :
    Anc v (leftmostLoop internal fuel l) ∧ internal ≤ leftmostLoop internal fuel l ∧
    leftmostLoop internal fuel l ≤ 2 * internal := by
  induction fuel generalizing l with
  | zero => exact ⟨ha, (by simp only [leftmostLoop]; omega), hl⟩
  | succ fuel ih =>
    unfold leftmostLoop
    by_cases h : l < internal
    · rw [if_pos h]
      apply ih
      · exact Anc.up (Nat.succ_pos _) (by
          rw [Nat.add_sub_cancel, Nat.mul_div_cancel_left l (by decide)]; exact ha)
      · omega
      · omega
    · rw [if_neg h]
      exact ⟨ha, Nat.le_of_not_lt h, hl⟩

theorem initLoop_spec (internal : Nat) (cnt node : Nat) (ls : Array Nat) (hs : ls.size = node) :
    (initLoop internal cnt node ls).size = node + cnt ∧
    (∀ v, v < node → gt (initLoop internal cnt node ls) v = gt ls v) ∧
    (∀ v, node ≤ v → v < node + cnt →
      gt (initLoop internal cnt node ls) v = leftmostLoop internal internal v - internal) := by
  induction cnt generalizing node ls with
  | zero => exact ⟨by simpa [initLoop] using hs, fun _ _ => rfl, fun v h1 h2 => by omega⟩
  | succ cnt ih =>
    unfold initLoop
    obtain ⟨h1, h2, h3⟩ := ih (node + 1) (ls.push (leftmostLoop internal internal node - internal))
      (by simp [hs])
    refine ⟨by omega, ?_, ?_⟩
    · intro v hv
      rw [h2 v (Nat.lt_succ_of_lt hv), gt_push_lt _ _ _ (by rw [hs]; exact hv)]
    · intro v hv1 hv2
      by_cases hvn : v = node
      · subst hvn
        rw [h2 v (Nat.lt_succ_self v)]
        have := gt_push_eq ls (leftmostLoop internal internal v - internal)
        rw [hs] at this
        exact this
      · exact h3 v (by omega) (by omega)

theorem withLeaves_inv (n : Nat) (hn : 0 < n) :
    Inv (withLeaves n) ∧ (withLeaves n).leaves.size = n ∧ ∀ j, gt (withLeaves n).leaves j = none := by
  have hnone : ∀ j, gt (withLeaves n).leaves j = none := fun j => gt_replicate_default _ j
  have hsz : (withLeaves n).leaves.size = n := by simp [withLeaves]
  obtain ⟨h1, _, h3⟩ := initLoop_spec (n - 1) (n - 1) 0 #[] rfl
  refine ⟨⟨by rw [hsz]; exact hn, ?_, ?_, ?_, ?_, ?_⟩, hsz, hnone⟩
  · rw [hsz]; simpa [withLeaves] using h1
  · rw [hsz]
    intro v hv
    have hval : nodeVal (withLeaves n).losers (n - 1) v = leftmostLoop (n - 1) (n - 1) v - (n - 1) := by
      unfold nodeVal
      rw [if_neg (Nat.not_le.mpr hv)]
      exact h3 v (Nat.zero_le v) (by rw [Nat.zero_add]; exact hv)
    obtain ⟨ha, hlo, hhi⟩ := leftmostLoop_spec (n - 1) v (n - 1) v (Anc.refl v) (by omega)
      (Nat.le_add_right _ _)
    unfold Good
    rw [hval]
    refine ⟨by omega, ?_, ?_⟩
    · rw [Nat.sub_add_cancel hlo]; exact ha
    · intro j e _ _ hj
      rw [hnone j] at hj; cases hj
  · refine ⟨by rw [hsz]; exact hn, ?_⟩
    intro j e hj
    rw [hnone j] at hj; cases hj
  · intro j e hj
    rw [hnone j] at hj; cases hj
  · show 0 = live (withLeaves n).leaves
    unfold live
    rw [cnt_none _ hnone]

theorem le_nextPow2 (c : Nat) : c ≤ nextPow2 c ∧ 0 < nextPow2 c := by
  unfold nextPow2
  split
  · omega
  · have := @Nat.lt_log2_self (c - 1)
    omega

theorem withCapacity_inv (c : Nat) :
    Inv (withCapacity c) ∧ c ≤ (withCapacity c).leaves.size ∧ ∀ j, gt (withCapacity c).leaves j = none := by
  obtain ⟨h1, h2⟩ := le_nextPow2 c
  obtain ⟨hI, hs, hn⟩ := withLeaves_inv (nextPow2 c) h2
  exact ⟨hI, by unfold withCapacity; rw [hs]; exact h1, hn⟩

end Tbx.LoserTree

namespace Tbx.KWay
open Tbx Tbx.LoserTree

theorem slot_st (lv : Array (Option Entry)) (i j : Nat) (x : Option Entry) (hi : i < lv.size) :
    (gt (st lv i x) j).map (·.item) = if j = i then x.map (·.item) else (gt lv j).map (·.item) := by
  rw [gt_st]
  by_cases hj : j = i
  · rw [if_pos ⟨hj.symm, hi⟩, if_pos hj]
  · rw [if_neg (fun h => hj h.1.symm), if_neg hj]

/-- the loser tree (any tree with the invariant and at least `cap` leaves) is a `MergeTree` in the
    sense of `TreeSpec` -/
def loserSpec (cap : Nat) : TreeSpec loserTree cap where
  ok t := Inv t ∧ cap ≤ t.leaves.size
  slot t j := (gt t.leaves j).map (·.item)
  push_ok := by
    intro s e ⟨hI, hc⟩ hi hfree
    have hfree' : gt s.leaves e.index = none := by
      cases h : gt s.leaves e.index with
      | none => rfl
      | some x => simp [h] at hfree
    have hlt : e.index < s.leaves.size := Nat.lt_of_lt_of_le hi hc
    obtain ⟨t', hp, hI', hl, _⟩ := push_spec s e hI hlt hfree'
    refine ⟨t', hp, ⟨hI', by rw [hl]; simpa using hc⟩, fun j => ?_⟩
    show (gt t'.leaves j).map (·.item) = _
    rw [hl, slot_st _ _ _ _ hlt]
    rfl
  pop_ok := by
    intro s ⟨hI, hc⟩
    obtain ⟨r, t', hp, hI', hr⟩ := pop_spec s hI
    cases r with
    | none =>
      obtain ⟨hall, ht⟩ := hr
      subst ht
      refine ⟨none, t', hp, ⟨hI, hc⟩, ?_, ?_⟩ <;> intro j <;> simp [hall j]
    | some e =>
      obtain ⟨hlive, hmin, hl, _⟩ := hr
      refine ⟨some e, t', hp, ⟨hI', by rw [hl]; simpa using hc⟩, ?_, ?_, fun j => ?_⟩
      · show (gt s.leaves e.index).map (·.item) = some e.item
        rw [hlive]; rfl
      · intro j y hj
        cases hg : gt s.leaves j with
        | none => simp [hg] at hj
        | some e' =>
          simp [hg] at hj
          rw [← hj]
          exact hmin j e' hg
      · show (gt t'.leaves j).map (·.item) = _
        rw [hl, slot_st _ _ _ _ (lt_size_of_live hlive)]
        rfl

end Tbx.KWay
