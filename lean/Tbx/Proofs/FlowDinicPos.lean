import Tbx.Proofs.FlowDinicPosA
/-
C01 `dinic_aug_valid`: the two invariants of the Dinic model's `dfs`.  `DI`: every stack entry has a simple parent
chain to the source; the amount pushed is recomputed along the chain (`chainMin`, the D1 fix; Model/FlowLegacy.lean
keeps the stale value), so `FInv` survives whatever the levels and the unwinding do (`aug_valid`).  `DP`: the chains
of the stack entries consist of positive edges, entries are leaves, and the parent of a lower entry is an ancestor
of the parents of those above; unwinding to `closest_tail` keeps this, hence every augmentation pushes ≥ 1
(`dp_target`).
-/
namespace Tbx.Flow
open Tbx Tbx.FlowTheory Tbx.FlowSpec

structure DI {n : Nat} (c : Fin n → Fin n → ℤ) (s t : Fin n) (d : Dinic) (flow : ℤ) : Prop where
  fi  : FInv c s t d.g flow
  uq  : Uniq d.g
  rc  : RevClosed d.g
  src : d.source = s.val
  tgt : d.target = t.val
  psz : d.parents.size = n
  hs  : gt d.parents s.val = s.val
  ht  : gt d.parents t.val = INV
  stk : ∀ y, y ∈ d.stack.map Prod.fst → ∃ l, PChain n s.val d.parents y l

theorem DI.chain_target {n : Nat} {c : Fin n → Fin n → ℤ} {s t : Fin n} (hst : s ≠ t) (hN : n ≤ INV)
    {d : Dinic} {F : ℤ} (hi : DI c s t d F) {u : Nat} {lu : List Nat}
    (hcu : PChain n s.val d.parents u lu) (hun : u < n) :
    gt (st d.parents t.val u) s.val = s.val ∧ PChain n s.val (st d.parents t.val u) u lu ∧
    PChain n s.val (st d.parents t.val u) t.val (t.val :: lu) := by
  have htlu : t.val ∉ lu := fun hm => ((pchain_props s.isLt hi.hs hN hcu).1 _ hm).2 hi.ht
  have hstv : t.val ≠ s.val := fun e => hst (Fin.ext e.symm)
  have hcu' : PChain n s.val (st d.parents t.val u) u lu :=
    pchain_congr hcu (fun x hx => gt_st_ne _ _ _ _ (fun e => htlu (e ▸ hx)))
  have hgt : gt (st d.parents t.val u) t.val = u := gt_st_eq _ _ _ (by rw [hi.psz]; exact t.isLt)
  exact ⟨by rw [gt_st_ne _ _ _ _ hstv]; exact hi.hs, hcu',
    PChain.step hstv t.isLt (by rw [hgt]; exact hun) (by rw [hgt]; exact hcu') htlu⟩

theorem DI.reset_eq {n : Nat} {c : Fin n → Fin n → ℤ} {s t : Fin n} {d : Dinic} {F : ℤ} (hi : DI c s t d F)
    (u x : Nat) : gt (st (st d.parents t.val u) t.val INV) x = gt d.parents x := by
  by_cases hx : x = t.val
  · rw [hx, gt_st_eq _ _ _ (by rw [size_st, hi.psz]; exact t.isLt), hi.ht]
  · rw [gt_st_ne _ _ _ _ (fun e => hx e.symm), gt_st_ne _ _ _ _ (fun e => hx e.symm)]

theorem aug_valid {n : Nat} {c : Fin n → Fin n → ℤ} {s t : Fin n} (hst : s ≠ t) (hN : n ≤ INV)
    (d : Dinic) (F : ℤ) (hi : DI c s t d F) (u e : Nat) (lu : List Nat)
    (hcu : PChain n s.val d.parents u lu) (hun : u < n) (hre : InRange d.g u e)
    (hte : gt d.g.tgt e = t.val) (fl : ℤ)
    (hcm : chainMin d.g (st d.parents t.val u) (d.g.numNodes + 1) u (gt d.g.cap e) = some fl)
    (g' : Graph) (ct : Nat)
    (hau : augChain (st d.parents t.val u) fl (d.g.numNodes + 1) t.val u d.g = some (g', ct)) :
    (t.val :: lu).Nodup ∧ (t.val :: lu).getLast? = some s.val ∧ 0 ≤ fl ∧
    (∀ ab, ab ∈ windows (t.val :: lu) → ∃ e', d.g.findEdge ab.2 ab.1 = some e' ∧ fl ≤ gt d.g.cap e') ∧
    pushPath d.g fl (windows (t.val :: lu)) = some g' ∧
    FInv c s t g' (F + fl) ∧ g'.first = d.g.first ∧ g'.tgt = d.g.tgt := by
  have hgn := hi.fi.hn
  obtain ⟨hps', hcu', hct⟩ := hi.chain_target hst hN hcu hun
  obtain ⟨m1, m2, m3⟩ := chainMin_spec d.g hps' _ u lu _ fl hcu' hcm
  have hfl0 : 0 ≤ fl := by
    rcases m3 with h | ⟨_, _, e', _, h⟩
    · rw [h]; exact hi.fi.nn e
    · rw [h]; exact hi.fi.nn e'
  obtain ⟨q1, q2, q3⟩ := pchain_props s.isLt hps' hN hct
  have hpush := (augChain_spec hps' (rOf d.g) fl _ t.val (t.val :: lu) u d.g g' ct hct hi.fi.wf hi.uq
    (fun _ _ => rfl) hau).1
  obtain ⟨tlu, rfl⟩ := pchain_head hcu
  have hcap : ∀ ab, ab ∈ windows (t.val :: u :: tlu) →
      ∃ e', d.g.findEdge ab.2 ab.1 = some e' ∧ fl ≤ gt d.g.cap e' := by
    intro ab hab
    rcases mem_windows_cons.mp hab with rfl | hab
    · exact ⟨e, findEdge_eq_of_uniq hi.uq u t.val e hre hte, m1⟩
    · exact m2 ab hab
  obtain ⟨hfi', hfirst, htgt⟩ := push_finv hst d.g F hi.fi (u :: tlu) q2 q3
    (fun y hy => by rw [hgn]; exact (q1 y hy).1) fl hfl0 hcap g' hpush
  exact ⟨q2, q3, hfl0, hcap, hpush, hfi', hfirst, htgt⟩

theorem posW_target_path {n : Nat} {c : Fin n → Fin n → ℤ} {s t : Fin n} {d : Dinic} {F : ℤ}
    (hi : DI c s t d F) {u e v : Nat} {lu : List Nat} (hcu : PChain n s.val d.parents u lu)
    (hposu : ∀ ab, ab ∈ windows lu → PosW d.g ab) (hre : InRange d.g u e) (hte : gt d.g.tgt e = v)
    (hav : gt d.g.cap e ≠ 0) : ∀ ab, ab ∈ windows (v :: lu) → PosW d.g ab := by
  intro ab hab
  obtain ⟨tlu, rfl⟩ := pchain_head hcu
  rcases mem_windows_cons.mp hab with rfl | hab
  · exact ⟨e, findEdge_eq_of_uniq hi.uq u v e hre hte,
      lt_of_le_of_ne (hi.fi.nn e) hav.symm⟩
  · exact hposu ab hab

structure DP (n s : Nat) (g : Graph) (ps : Array Nat) (stk : List Nat) : Prop where
  pos  : ∀ y, y ∈ stk → ∀ l, PChain n s ps y l → ∀ ab, ab ∈ windows l → PosW g ab
  leaf : ∀ y, y ∈ stk → ∀ w, w < n → w ≠ y → gt ps w ≠ y
  nd   : stk.Nodup
  ord  : stk.Pairwise fun y y' => ∃ l, PChain n s ps (gt ps y) l ∧ gt ps y' ∈ l
  pm   : ∀ w, w < n → gt ps w ≠ INV → gt ps (gt ps w) ≠ INV

theorem DP.congr {n s : Nat} {g : Graph} {ps ps' : Array Nat} {stk : List Nat} (h : ∀ x, gt ps' x = gt ps x)
    (hp : DP n s g ps stk) : DP n s g ps' stk := by
  have hfrom : ∀ y l, PChain n s ps' y l → PChain n s ps y l := fun y l hl => pchain_congr hl (fun x _ => (h x).symm)
  refine ⟨fun y hy l hl => hp.pos y hy l (hfrom y l hl), fun y hy w hw hwy => by rw [h]; exact hp.leaf y hy w hw hwy,
    hp.nd, hp.ord.imp ?_, fun w hw hm => by rw [h w] at hm ⊢; rw [h]; exact hp.pm w hw hm⟩
  intro a b ⟨l, hl, hm⟩
  exact ⟨l, by rw [h]; exact pchain_congr hl (fun x _ => h x), by rw [h]; exact hm⟩

/-- the state inside the edge loop of the popped node `u`, whose parent chain is `lu` -/
structure DE {n : Nat} (c : Fin n → Fin n → ℤ) (s t : Fin n) (d : Dinic) (F : ℤ) (u : Nat) (lu : List Nat) :
    Prop where
  di   : DI c s t d F
  dp   : DP n s.val d.g d.parents (d.stack.map Prod.fst)
  cu   : PChain n s.val d.parents u lu
  posu : ∀ ab, ab ∈ windows lu → PosW d.g ab
  unot : u ∉ d.stack.map Prod.fst
  par  : ∀ y, y ∈ d.stack.map Prod.fst → gt d.parents y ∈ lu

theorem de_pop {n : Nat} {c : Fin n → Fin n → ℤ} {s t : Fin n} {d : Dinic} {F : ℤ} (hi : DI c s t d F)
    (hp : DP n s.val d.g d.parents (d.stack.map Prod.fst)) {u : Nat} {flow : ℤ} {rest : List (Nat × ℤ)}
    (hstack : d.stack = (u, flow) :: rest) : ∃ lu, DE c s t { d with stack := rest } F u lu := by
  obtain ⟨lu, hlu⟩ := hi.stk u (by rw [hstack]; exact List.mem_cons_self)
  rw [hstack] at hp
  have hord := List.pairwise_cons.mp hp.ord
  refine ⟨lu, ⟨hi.fi, hi.uq, hi.rc, hi.src, hi.tgt, hi.psz, hi.hs, hi.ht,
      fun y hy => hi.stk y (by rw [hstack]; exact List.mem_cons_of_mem _ hy)⟩,
    ⟨fun y hy => hp.pos y (List.mem_cons_of_mem _ hy), fun y hy => hp.leaf y (List.mem_cons_of_mem _ hy),
      (List.nodup_cons.mp hp.nd).2, hord.2, hp.pm⟩,
    hlu, hp.pos u List.mem_cons_self lu hlu, (List.nodup_cons.mp hp.nd).1, fun y hy => ?_⟩
  -- the parent of a lower entry is an ancestor of `u`'s parent, hence on `u`'s chain
  obtain ⟨l, hl, hm⟩ := hord.1 y hy
  exact pchain_parent_sub hi.hs hlu hl _ hm

theorem de_push {n : Nat} {c : Fin n → Fin n → ℤ} {s t : Fin n} (hN : n ≤ INV) {d : Dinic} {F : ℤ} {u : Nat}
    {lu : List Nat} (h : DE c s t d F u lu) {e v : Nat} (hre : InRange d.g u e) (hte : gt d.g.tgt e = v)
    (hvI : gt d.parents v = INV) (hvt : v ≠ t.val) (hav : gt d.g.cap e ≠ 0) (fl : ℤ) :
    DE c s t { d with parents := st d.parents v u, stack := (v, fl) :: d.stack } F u lu := by
  have hi := h.di
  have hp := h.dp
  have hgn := hi.fi.hn
  have hsn : s.val < n := s.isLt
  obtain ⟨hun, humark⟩ := pchain_self hsn hi.hs hN h.cu
  have hvn : v < n := by
    rw [← hgn, ← hte]; exact hi.fi.wf.tgtOK e (hi.fi.wf.inRange_lt hre)
  have hgv : gt (st d.parents v u) v = u := gt_st_eq _ _ _ (by rw [hi.psz]; exact hvn)
  have hgne : ∀ x, x ≠ v → gt (st d.parents v u) x = gt d.parents x :=
    fun x hx => gt_st_ne _ _ _ _ (fun e' => hx e'.symm)
  -- marked nodes differ from v: chains and stack entries avoid it
  have hmne : ∀ x, gt d.parents x ≠ INV → x ≠ v := fun x hx e' => hx (e' ▸ hvI)
  have hto : ∀ y l, PChain n s.val d.parents y l → PChain n s.val (st d.parents v u) y l := fun y l hl =>
    pchain_congr hl fun x hx => hgne x (hmne x ((pchain_props hsn hi.hs hN hl).1 x hx).2)
  have hstk_ne : ∀ y, y ∈ d.stack.map Prod.fst → y ≠ v := fun y hy =>
    let ⟨_, hl⟩ := hi.stk y hy
    hmne y (pchain_self hsn hi.hs hN hl).2
  have hvlu : v ∉ lu := fun hm => ((pchain_props hsn hi.hs hN h.cu).1 _ hm).2 hvI
  have hvs : v ≠ s.val := fun hh => Nat.ne_of_lt (Nat.lt_of_lt_of_le hsn hN) (by rw [← hi.hs, ← hh]; exact hvI)
  have hchv : PChain n s.val (st d.parents v u) v (v :: lu) :=
    PChain.step hvs hvn (by rw [hgv]; exact hun) (by rw [hgv]; exact hto u lu h.cu) hvlu
  obtain ⟨tlu, rfl⟩ := pchain_head h.cu
  refine ⟨⟨hi.fi, hi.uq, hi.rc, hi.src, hi.tgt, by rw [← hi.psz]; exact size_st _ _ _,
    (hgne _ hvs.symm).trans hi.hs, (hgne _ hvt.symm).trans hi.ht, ?_⟩, ⟨?_, ?_, ?_, ?_, ?_⟩, hto _ _ h.cu,
    h.posu, ?_, ?_⟩
  · intro y hy
    rcases List.mem_cons.mp hy with rfl | hy
    · exact ⟨_, hchv⟩
    · obtain ⟨l, hl⟩ := hi.stk y hy
      exact ⟨l, hto y l hl⟩
  · intro y hy l hl ab hab
    rcases List.mem_cons.mp hy with rfl | hy'
    · rw [pchain_unique hl hchv] at hab
      exact posW_target_path hi h.cu h.posu hre hte hav ab hab
    · obtain ⟨l0, hl0⟩ := hi.stk y hy'
      rw [pchain_unique hl (hto y l0 hl0)] at hab
      exact hp.pos y hy' l0 hl0 ab hab
  · intro y hy w hw hwy
    rcases List.mem_cons.mp hy with rfl | hy'
    · rw [hgne w hwy]
      intro hh
      exact hp.pm w hw (by rw [hh]; exact Nat.ne_of_lt (Nat.lt_of_lt_of_le hvn hN)) (by rw [hh]; exact hvI)
    · by_cases hwv : w = v
      · rw [hwv, hgv]; intro hh; exact h.unot (hh ▸ hy')
      · rw [hgne w hwv]; exact hp.leaf y hy' w hw hwy
  · exact List.nodup_cons.mpr ⟨fun hm => hstk_ne _ hm rfl, hp.nd⟩
  · rw [List.map_cons, List.pairwise_cons]
    refine ⟨fun y' hy' => ⟨u :: tlu, by rw [hgv]; exact hto _ _ h.cu, ?_⟩, ?_⟩
    · rw [hgne y' (hstk_ne y' hy')]; exact h.par y' hy'
    · apply List.Pairwise.imp_of_mem _ hp.ord
      intro a b ha hb ⟨l, hl, hm⟩
      exact ⟨l, by rw [hgne a (hstk_ne a ha)]; exact hto _ l hl, by rw [hgne b (hstk_ne b hb)]; exact hm⟩
  · intro w hw hwm
    by_cases hwv : w = v
    · rw [hwv, hgv, hgne u (hmne u humark)]; exact humark
    · rw [hgne w hwv] at hwm ⊢
      rw [hgne _ (hmne _ (hp.pm w hw hwm))]; exact hp.pm w hw hwm
  · intro hm
    rcases List.mem_cons.mp hm with h' | h'
    · exact hmne u humark h'
    · exact h.unot h'
  · intro y hy
    rcases List.mem_cons.mp hy with rfl | hy'
    · rw [hgv]; exact List.mem_cons_self
    · rw [hgne y (hstk_ne y hy')]; exact h.par y hy'

theorem dp_target {n : Nat} {c : Fin n → Fin n → ℤ} {s t : Fin n} (hst : s ≠ t) (hN : n ≤ INV)
    (d : Dinic) (F : ℤ) (hi : DI c s t d F) (hp : DP n s.val d.g d.parents (d.stack.map Prod.fst))
    (u e : Nat) (lu : List Nat) (hcu : PChain n s.val d.parents u lu) (hun : u < n)
    (hposu : ∀ ab, ab ∈ windows lu → PosW d.g ab) (hunot : u ∉ d.stack.map Prod.fst)
    (hre : InRange d.g u e) (hte : gt d.g.tgt e = t.val) (hav : gt d.g.cap e ≠ 0) (fl : ℤ)
    (hcm : chainMin d.g (st d.parents t.val u) (d.g.numNodes + 1) u (gt d.g.cap e) = some fl)
    (g' : Graph) (ct : Nat)
    (hau : augChain (st d.parents t.val u) fl (d.g.numNodes + 1) t.val u d.g = some (g', ct)) :
    0 < fl ∧
    DP n s.val g' (st (st d.parents t.val u) t.val INV)
      ((unwind (st d.parents t.val u) ct d.stack).map Prod.fst) := by
  have hsn : s.val < n := s.isLt
  obtain ⟨hps1, hcu1, hct⟩ := hi.chain_target hst hN hcu hun
  obtain ⟨hPnd, _, hfl0, hcap, hpush, hfi', hfirst, htgt⟩ :=
    aug_valid hst hN d F hi u e lu hcu hun hre hte fl hcm g' ct hau
  -- the bottleneck is the capacity of `e` or of an edge of the chain, all positive
  have hflpos : 0 < fl := by
    rcases (chainMin_spec d.g hps1 _ u lu _ fl hcu1 hcm).2.2 with h | ⟨ab, hab, e', he', h⟩
    · rw [h]; exact lt_of_le_of_ne (hi.fi.nn e) hav.symm
    · obtain ⟨e'', he'', hpos⟩ := hposu ab hab
      rw [he'] at he''; cases he''; rw [h]; exact hpos
  refine ⟨hflpos, DP.congr (hi.reset_eq u) ?_⟩
  have hge := pushPath_cap_ge fl hfl0 (t.val :: lu) d.g g' hPnd hpush
  have hfe : ∀ a b, g'.findEdge a b = d.g.findEdge a b := findEdge_of_eq hfirst htgt
  have hctS : ct = ctSpec (rOf d.g) fl u (t.val :: lu) :=
    (augChain_spec hps1 (rOf d.g) fl _ t.val (t.val :: lu) u d.g g' ct hct hi.fi.wf hi.uq
      (fun _ _ => rfl) hau).2
  obtain ⟨tlu, rfl⟩ := pchain_head hcu
  -- closest_tail lies on the chain of u and the part of the chain from it to the source is unsaturated
  have hstar : ∃ l1 l2, u :: tlu = l1 ++ ct :: l2 ∧
      ∀ ab, ab ∈ windows (ct :: l2) → rOf d.g ab.2 ab.1 ≠ fl := by
    rcases ctSpec_char (rOf d.g) fl (t.val :: u :: tlu) u with ⟨h1, h2⟩ | ⟨l1, l2, h1, h3⟩
    · rw [← hctS] at h1
      refine ⟨[], tlu, by rw [h1]; rfl, ?_⟩
      intro ab hab
      rw [h1] at hab
      exact h2 ab (mem_windows_tail _ hab)
    · rw [← hctS] at h1 h3
      exact ⟨l1, l2, h1, h3⟩
  obtain ⟨l1, l2, hsplit, hunsat⟩ := hstar
  have hchct : PChain n s.val d.parents ct (ct :: l2) := pchain_suffix hcu l1 ct l2 hsplit
  have hposct : ∀ ab, ab ∈ windows (ct :: l2) → PosW g' ab := by
    intro ab hab
    have habP : ab ∈ windows (t.val :: u :: tlu) := by
      have : ab ∈ windows (u :: tlu) := by rw [hsplit]; exact windows_suffix l1 ct l2 ab hab
      exact mem_windows_tail _ this
    obtain ⟨e', he', hle⟩ := hcap ab habP
    obtain ⟨_, hr', ht'⟩ := findEdge_spec d.g _ _ e' he'
    have hro : rOf d.g ab.2 ab.1 = gt d.g.cap e' := rOf_eq_cap hi.uq _ _ e' hr' ht'
    exact ⟨e', (hfe _ _).trans he', Int.lt_of_lt_of_le
      (Int.sub_pos_of_lt (lt_of_le_of_ne hle fun h => hunsat ab hab (hro.trans h.symm))) (hge e').1⟩
  rcases unwind_char (st d.parents t.val u) ct d.stack with hnil | ⟨pre, y0, post, hs1, hs2, hs3⟩
  · rw [hnil]
    exact ⟨fun y hy => by simp at hy, fun y hy => by simp at hy, List.nodup_nil, List.Pairwise.nil, hp.pm⟩
  · rw [hs3]
    have hstk : d.stack.map Prod.fst = pre.map Prod.fst ++ y0.1 :: post.map Prod.fst := by
      rw [hs1, List.map_append, List.map_cons]
    have hsub : (post.map Prod.fst).Sublist (d.stack.map Prod.fst) := by
      rw [hstk]; exact (List.sublist_cons_self _ _).trans (List.sublist_append_right _ _)
    have hmem : ∀ y, y ∈ post.map Prod.fst → y ∈ d.stack.map Prod.fst := fun y hy => hsub.subset hy
    have hmark : ∀ y, y ∈ d.stack.map Prod.fst → gt d.parents y ≠ INV := fun y hy =>
      let ⟨_, hl⟩ := hi.stk y hy
      (pchain_self hsn hi.hs hN hl).2
    have hy0p : gt d.parents y0.1 = ct := by
      have hy0t : t.val ≠ y0.1 := fun e' =>
        hmark y0.1 (by rw [hstk]; exact List.mem_append_right _ List.mem_cons_self) (by rw [← e']; exact hi.ht)
      rw [← hs2, gt_st_ne _ _ _ _ hy0t]
    have hordY : ∀ y, y ∈ post.map Prod.fst → gt d.parents y ∈ ct :: l2 := by
      intro y hy
      have h1 : (y0.1 :: post.map Prod.fst).Pairwise
          fun y y' => ∃ l, PChain n s.val d.parents (gt d.parents y) l ∧ gt d.parents y' ∈ l := by
        have := hp.ord; rw [hstk] at this
        exact (List.pairwise_append.mp this).2.1
      obtain ⟨l, hl, hm⟩ := (List.pairwise_cons.mp h1).1 y hy
      rw [hy0p] at hl
      rw [pchain_unique hl hchct] at hm; exact hm
    refine ⟨?_, fun y hy => hp.leaf y (hmem y hy), hp.nd.sublist hsub, hp.ord.sublist hsub, hp.pm⟩
    intro y hy l hl ab hab
    have hyS := hmem y hy
    cases hl with
    | base => cases hab
    | @step _ lp h1 h2 h3 h4 h5 =>
      obtain ⟨tp, rfl⟩ := pchain_head h4
      rcases mem_windows_cons.mp hab with rfl | hab
      · -- the edge parent → y is not on the augmenting path: its head `y` is not
        obtain ⟨e0, he0, hpos0⟩ := hp.pos y hyS _ (PChain.step h1 h2 h3 h4 h5) (y, gt d.parents y)
          (mem_windows_head _ _ _)
        refine ⟨e0, (hfe _ _).trans he0, Int.lt_of_lt_of_le hpos0 ((hge e0).2 fun ab hw he => ?_)⟩
        have hy1 : ab.1 = y := (findEdge_spec d.g _ _ e0 he).2.2.symm.trans (findEdge_spec d.g _ _ e0 he0).2.2
        have hyP : y ∈ t.val :: u :: tlu := hy1 ▸ (mem_windows hw).1
        rcases List.mem_cons.mp hyP with hyt | hylu
        · exact hmark y hyS (hyt ▸ hi.ht)
        · by_cases hyu : y = u
          · exact hunot (hyu ▸ hyS)
          · obtain ⟨x, _, hxn, hxy, hxp⟩ := pchain_child hcu y hylu hyu
            exact hp.leaf y hyS x hxn hxy hxp
      · -- the rest of the chain lies between closest_tail and the source
        have hpin := hordY y hy
        obtain ⟨m1, m2, hm⟩ := List.append_of_mem hpin
        have hsuf : PChain n s.val d.parents (gt d.parents y) (gt d.parents y :: m2) :=
          pchain_suffix hchct m1 _ m2 hm
        have heq := pchain_unique h4 hsuf
        rw [heq] at hab
        exact hposct ab (by rw [hm]; exact windows_suffix m1 _ m2 ab hab)

end Tbx.Flow
