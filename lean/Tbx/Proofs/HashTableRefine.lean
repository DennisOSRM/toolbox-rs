import Tbx.Proofs.HashProbe
import Tbx.Spec.FinMap
/-
Array-level bridge and refinement of the table model to the finite-map Spec.

The probe for a key stops at a `Slot`, and that cell holds what the reference map says about the key
(`slot_get?`); the observers follow from this.  Both mutations, `get_mut` and `insert`, are one write of
`(generation, key, value)` to that cell (`wrT`, `getMut_eq`, `insert_eq`); `inv_wrT` and `rel_wrT` say what
such a write does to the invariant and to the relation `Rel` with the reference map.
-/
namespace Tbx.HashTable
open Tbx

def tmOf (t : Table) : Nat → Nat := fun i => (gt t.cells i).time
def kyOf (t : Table) : Nat → Nat := fun i => (gt t.cells i).key
def vlOf (t : Table) : Nat → Int := fun i => (gt t.cells i).val

structure Inv (N : Nat) (h : Nat → Nat) (t : Table) : Prop where
  size : t.cells.size = N
  inv : InvF N h (tmOf t) (kyOf t) t.ts t.length

theorem probe_eq_probeF (N : Nat) (cells : Array Cell) (ts key : Nat) :
    ∀ fuel pos, probe N cells ts key fuel pos =
      probeF N (fun i => (gt cells i).time) (fun i => (gt cells i).key) ts key fuel pos := by
  intro fuel
  induction fuel with
  | zero => intro pos; rfl
  | succ fuel ih => intro pos; simp only [probe, probeF, ih]

section
variable (t : Table) (p : Nat) (c : Cell) (ts' len' : Nat) (hp : p < t.cells.size)
include hp

theorem tmOf_st : tmOf ⟨st t.cells p c, ts', len'⟩ = wr (tmOf t) p c.time := by
  funext j
  show (gt (st t.cells p c) j).time = _
  rw [gt_st_lt _ _ _ _ hp]; unfold wr tmOf; split <;> rfl

theorem kyOf_st : kyOf ⟨st t.cells p c, ts', len'⟩ = wr (kyOf t) p c.key := by
  funext j
  show (gt (st t.cells p c) j).key = _
  rw [gt_st_lt _ _ _ _ hp]; unfold wr kyOf; split <;> rfl

theorem vlOf_st (j : Nat) : vlOf ⟨st t.cells p c, ts', len'⟩ j = if j = p then c.val else vlOf t j := by
  show (gt (st t.cells p c) j).val = _
  rw [gt_st_lt _ _ _ _ hp]; unfold vlOf; split <;> rfl

end

def Maps (N : Nat) (t : Table) (k : Nat) (v : Int) : Prop :=
  ∃ i, i < N ∧ tmOf t i = t.ts ∧ kyOf t i = k ∧ vlOf t i = v

def Absent (N : Nat) (t : Table) (k : Nat) : Prop := ∀ i, i < N → tmOf t i = t.ts → kyOf t i ≠ k

structure Rel (N : Nat) (h : Nat → Nat) (t : Table) (m : FinMap.M) : Prop where
  inv : Inv N h t
  nodup : FinMap.NoDup m
  len : t.length = FinMap.len m
  some : ∀ k v, FinMap.get? m k = some v → Maps N t k v
  none : ∀ k, FinMap.get? m k = none → Absent N t k

abbrev Slot (N : Nat) (h : Nat → Nat) (t : Table) (key p : Nat) : Prop :=
  SlotF N h (tmOf t) (kyOf t) t.ts key p

theorem probe_slot {N : Nat} {h : Nat → Nat} {t : Table} (I : Inv N h t) (hh : ∀ k, h k < N) (key : Nat) :
    ∃ p, probe N t.cells t.ts key N (h key) = some p ∧ Slot N h t key p := by
  rw [probe_eq_probeF]
  exact probeF_slot I.inv hh key

theorem slot_get? {N : Nat} {h : Nat → Nat} {t : Table} {m : FinMap.M} {key p : Nat} (R : Rel N h t m)
    (S : Slot N h t key p) : FinMap.get? m key = if tmOf t p = t.ts then some (vlOf t p) else none := by
  cases hg : FinMap.get? m key with
  | none => exact (if_neg fun hl => S.found.elim (fun c => R.none key hg p S.lt c.1 c.2) (·.1 hl)).symm
  | some w =>
    obtain ⟨i, hi, hli, hki, hvi⟩ := R.some key w hg
    have hf := S.found.resolve_right fun c => c.2 i hi hli hki
    obtain rfl : p = i := R.inv.inv.distinct p i S.lt hi hf.1 hli (hf.2.trans hki.symm)
    rw [if_pos hli, hvi]

theorem containsKey_eq_peek (N : Nat) (h : Nat → Nat) (t : Table) (k : Nat) :
    containsKey N h t k = (peek N h t k).map Option.isSome := by
  simp only [containsKey, peek]
  split
  · rfl
  · split <;> rfl

theorem peek_rel {N : Nat} {h : Nat → Nat} {t : Table} {m : FinMap.M} (R : Rel N h t m) (hh : ∀ k, h k < N)
    (k : Nat) : peek N h t k = some (FinMap.get? m k) := by
  obtain ⟨p, hp, S⟩ := probe_slot R.inv hh k
  simp only [peek, hp, slot_get? R S, tmOf, vlOf]
  split <;> simp only [*, if_true, if_false]

theorem containsKey_rel {N : Nat} {h : Nat → Nat} {t : Table} {m : FinMap.M} (R : Rel N h t m)
    (hh : ∀ k, h k < N) (k : Nat) : containsKey N h t k = some (FinMap.contains m k) := by
  rw [containsKey_eq_peek, peek_rel R hh k]; rfl

/-- Every mutation of the table is this: the cell at the probed position becomes `(generation, key, v)`, and
    `length` counts it if it was dead.  `get_mut` keeps the value of a live cell and resets that of a dead one;
    `insert` is `get_mut` and an assignment to the same cell. -/
def wrT (t : Table) (p key : Nat) (v : Int) : Table :=
  ⟨st t.cells p ⟨t.ts, key, v⟩, t.ts, if tmOf t p = t.ts then t.length else t.length + 1⟩

theorem getMut_eq {N : Nat} {h : Nat → Nat} {t : Table} {key p : Nat}
    (hp : probe N t.cells t.ts key N (h key) = some p) :
    getMut N h t key = some (wrT t p key (if tmOf t p = t.ts then vlOf t p else 0), p) := by
  simp only [getMut, hp, wrT]
  by_cases hl : tmOf t p = t.ts
  · rw [if_neg (not_not_intro (show (gt t.cells p).time = t.ts from hl)), if_pos hl, if_pos hl]; rfl
  · rw [if_pos (show (gt t.cells p).time ≠ t.ts from hl), if_neg hl, if_neg hl]

theorem insert_eq {N : Nat} {h : Nat → Nat} {t : Table} {key p : Nat} (v : Int)
    (hp : probe N t.cells t.ts key N (h key) = some p) (hsz : p < t.cells.size) :
    insert N h t key v = some (wrT t p key v) := by
  simp only [insert, getMut_eq hp, setVal, wrT, gt_st_eq _ _ _ hsz, st_st]

theorem insert_ts {N : Nat} {h : Nat → Nat} {t t' : Table} {key : Nat} {v : Int}
    (he : insert N h t key v = some t') : t'.ts = t.ts := by
  cases hp : probe N t.cells t.ts key N (h key) with
  | none => simp only [insert, getMut, hp] at he; cases he
  | some q => simp only [insert, getMut_eq hp] at he; cases he; rfl

section
variable {N : Nat} {h : Nat → Nat} {t : Table} {key p : Nat} (v : Int)

theorem inv_wrT (I : Inv N h t) (S : Slot N h t key p)
    (hroom : (∃ i, i < N ∧ tmOf t i = t.ts ∧ kyOf t i = key) ∨ t.length + 1 < N) : Inv N h (wrT t p key v) := by
  have hsz : p < t.cells.size := by rw [I.size]; exact S.lt
  refine ⟨(size_st _ _ _).trans I.size, ?_⟩
  rw [wrT, tmOf_st t p _ _ _ hsz, kyOf_st t p _ _ _ hsz]
  refine InvF_write I.inv S _ rfl ?_
  rcases S.found with ⟨hlp, _⟩ | ⟨hdead, habs⟩
  · rw [if_pos hlp]; exact I.inv.room
  · rw [if_neg hdead]
    exact hroom.resolve_left fun ⟨i, hi, hli, hki⟩ => habs i hi hli hki

/-- the write against the reference map: any map that answers `v` for `key` and as before for the other keys -/
theorem rel_wrT {m m' : FinMap.M} (R : Rel N h t m) (S : Slot N h t key p)
    (hdom : FinMap.contains m key = true ∨ FinMap.len m + 1 < N) (hnd : FinMap.NoDup m')
    (hlen : FinMap.len m' = if FinMap.contains m key then FinMap.len m else FinMap.len m + 1)
    (hget : ∀ k, FinMap.get? m' k = if key = k then some v else FinMap.get? m k) :
    Rel N h (wrT t p key v) m' := by
  have hsz : p < t.cells.size := by rw [R.inv.size]; exact S.lt
  have hlive : FinMap.contains m key = true ↔ tmOf t p = t.ts := by
    rw [FinMap.contains, slot_get? R S]; split <;> simp [*]
  have htm : tmOf (wrT t p key v) = wr (tmOf t) p t.ts := tmOf_st t p _ _ _ hsz
  have hky : kyOf (wrT t p key v) = wr (kyOf t) p key := kyOf_st t p _ _ _ hsz
  have hvl : ∀ j, vlOf (wrT t p key v) j = if j = p then v else vlOf t j := vlOf_st t p _ _ _ hsz
  refine ⟨inv_wrT v R.inv S ?_, hnd, ?_, ?_, ?_⟩
  · exact hdom.imp (fun hc => ⟨p, S.lt, hlive.1 hc, (S.found.resolve_right (·.1 (hlive.1 hc))).2⟩) (R.len ▸ ·)
  · show (if _ then _ else _) = _
    rw [hlen, R.len]; simp only [hlive]
  · intro k w hk
    rw [hget] at hk
    by_cases hkk : key = k
    · rw [if_pos hkk] at hk
      exact ⟨p, S.lt, by rw [htm, wr_same]; rfl, by rw [hky, wr_same, hkk], by rw [hvl, if_pos rfl]; exact Option.some.inj hk⟩
    · rw [if_neg hkk] at hk
      obtain ⟨i, hi, hli, hki, hvi⟩ := R.some k w hk
      have hip : i ≠ p := by
        rintro rfl
        exact S.found.elim (fun c => hkk (c.2.symm.trans hki)) (·.1 hli)
      exact ⟨i, hi, by rw [htm, wr_other _ _ _ hip]; exact hli, by rw [hky, wr_other _ _ _ hip]; exact hki,
        by rw [hvl, if_neg hip]; exact hvi⟩
  · intro k hk i hi hli
    rw [hget] at hk
    by_cases hkk : key = k
    · rw [if_pos hkk] at hk; cases hk
    · rw [if_neg hkk] at hk
      rw [hky]
      by_cases hip : i = p
      · rw [hip, wr_same]; exact hkk
      · rw [htm, wr_other _ _ _ hip] at hli
        rw [wr_other _ _ _ hip]
        exact R.none k hk i hi hli

end

theorem getMut_rel {N : Nat} {h : Nat → Nat} {t : Table} {m : FinMap.M} (R : Rel N h t m) (hh : ∀ k, h k < N)
    (key : Nat) (hdom : FinMap.contains m key = true ∨ FinMap.len m + 1 < N) :
    ∃ t' p, getMut N h t key = some (t', p) ∧ Rel N h t' (FinMap.getOrCreate m key 0).1 ∧
      valAt t' p = (FinMap.getOrCreate m key 0).2 := by
  obtain ⟨p, hp, S⟩ := probe_slot R.inv hh key
  have hsz : p < t.cells.size := by rw [R.inv.size]; exact S.lt
  have hg := slot_get? R S
  refine ⟨_, p, getMut_eq hp, ?_, ?_⟩
  rotate_left
  · simp only [FinMap.getOrCreate, hg, valAt, wrT, gt_st_eq _ _ _ hsz]
    split <;> rfl
  by_cases hl : tmOf t p = t.ts
  · -- present: the cell keeps its value and the map is unchanged
    rw [if_pos hl] at hg ⊢
    simp only [FinMap.getOrCreate, hg]
    refine rel_wrT _ R S hdom R.nodup (by simp [FinMap.contains, hg]) fun k => ?_
    split
    · next e => rw [← e, hg]
    · rfl
  · rw [if_neg hl] at hg ⊢
    simp only [FinMap.getOrCreate, hg]
    exact rel_wrT _ R S hdom (FinMap.noDup_insert m key 0 R.nodup) (FinMap.len_insert m key 0 R.nodup)
      fun k => FinMap.get?_insert m key k 0

theorem insert_rel {N : Nat} {h : Nat → Nat} {t : Table} {m : FinMap.M} (R : Rel N h t m) (hh : ∀ k, h k < N)
    (key : Nat) (v : Int) (hdom : FinMap.contains m key = true ∨ FinMap.len m + 1 < N) :
    ∃ t', insert N h t key v = some t' ∧ Rel N h t' (FinMap.insert m key v) := by
  obtain ⟨p, hp, S⟩ := probe_slot R.inv hh key
  exact ⟨_, insert_eq v hp (R.inv.size ▸ S.lt), rel_wrT v R S hdom (FinMap.noDup_insert m key v R.nodup)
    (FinMap.len_insert m key v R.nodup) fun k => FinMap.get?_insert m key k v⟩

/-- a table without a live cell is related to the empty map -/
theorem rel_dead {N : Nat} {h : Nat → Nat} {t : Table} (hsz : t.cells.size = N) (hN : 0 < N) (hts : t.ts ≤ u32Max)
    (hl : t.length = 0) (hdead : ∀ i, i < N → tmOf t i ≠ t.ts)
    (hhyg : ∀ i, i < N → tmOf t i ≤ t.ts ∨ tmOf t i = u32Max) : Rel N h t FinMap.clear :=
  ⟨⟨hsz, hl ▸ InvF_empty N h _ _ t.ts hN hts hdead hhyg⟩, FinMap.noDup_clear, hl, (fun _ _ hk => nomatch hk),
   fun _ _ i hi hli => absurd hli (hdead i hi)⟩

theorem Rel.dead {N : Nat} {h : Nat → Nat} {t : Table} (R : Rel N h t FinMap.clear) :
    t.length = 0 ∧ ∀ i, i < N → tmOf t i ≠ t.ts :=
  ⟨R.len, fun i hi hli => R.none _ rfl i hi hli rfl⟩

theorem tmOf_replicate (N ts len i : Nat) : tmOf ⟨Array.replicate N default, ts, len⟩ i = u32Max := by
  show (gt (Array.replicate N (default : Cell)) i).time = _
  rw [gt_replicate_default]; rfl

theorem tmOf_restamp (cells : Array Cell) (ts len i : Nat) (hi : i < cells.size) :
    tmOf ⟨cells.map (fun c => { c with time := 0 }), ts, len⟩ i = 0 := by
  show (gt (cells.map (fun c : Cell => { c with time := 0 })) i).time = 0
  simp [gt, Array.getD_eq_getD_getElem?, hi]

/-- fresh cells (stamp `u32::MAX`) at a generation other than `u32::MAX` -/
theorem fresh_rel (N : Nat) (h : Nat → Nat) (g : Nat) (hN : 0 < N) (hg : g ≤ u32Max) (hne : g ≠ u32Max) :
    Rel N h ⟨Array.replicate N default, g, 0⟩ FinMap.clear :=
  rel_dead Array.size_replicate hN hg rfl (fun i _ => by rw [tmOf_replicate]; exact Ne.symm hne)
    (fun i _ => Or.inr (tmOf_replicate N g 0 i))

/-- all stamps reset to 0 at generation `u32::MAX` -/
theorem restamped_rel {N : Nat} (h : Nat → Nat) (cells : Array Cell) (hsz : cells.size = N) (hN : 0 < N) :
    Rel N h ⟨cells.map (fun c => { c with time := 0 }), u32Max, 0⟩ FinMap.clear :=
  rel_dead (by rw [Array.size_map, hsz]) hN (Nat.le_refl _) rfl
    (fun i hi => by rw [tmOf_restamp _ _ _ _ (hsz ▸ hi)]; exact (by decide : 0 ≠ u32Max))
    (fun i hi => Or.inl (by rw [tmOf_restamp _ _ _ _ (hsz ▸ hi)]; exact Nat.zero_le _))

/-- `clear` empties any table that has the invariant, whatever it held -/
theorem clear_spec {N : Nat} {h : Nat → Nat} {t : Table} (I : Inv N h t) (hN : 0 < N) :
    Rel N h (clear N t) FinMap.clear := by
  have hts := I.inv.tsLe
  by_cases h0 : t.ts = u32Max
  · -- wrap to generation 0: fresh cells
    have e : clear N t = { cells := Array.replicate N default, ts := 0, length := 0 } := by
      simp [clear, h0, u32Max]
    rw [e]
    exact fresh_rel N h 0 hN (Nat.zero_le _) (by decide)
  · have hlt : t.ts + 1 < 4294967296 := by simp only [u32Max] at hts h0; omega
    have hmod : (t.ts + 1) % 4294967296 = t.ts + 1 := Nat.mod_eq_of_lt hlt
    by_cases h1 : t.ts + 1 = u32Max
    · -- restamp at u32::MAX
      have e : clear N t = { cells := t.cells.map (fun c => { c with time := 0 }), ts := u32Max, length := 0 } := by
        simp only [clear, hmod]
        rw [if_neg (by omega), if_pos h1, h1]
      rw [e]
      exact restamped_rel h t.cells I.size hN
    · -- only the generation moves: by stamp hygiene no cell carries the new one
      have e : clear N t = { cells := t.cells, ts := t.ts + 1, length := 0 } := by
        simp only [clear, hmod]
        rw [if_neg (by omega), if_neg h1]
      rw [e]
      refine rel_dead I.size hN (show t.ts + 1 ≤ u32Max by omega) rfl (fun i hi => ?_) (fun i hi => ?_)
      · show tmOf t i ≠ t.ts + 1
        rcases I.inv.hygiene i hi with hh | hh <;> omega
      · exact (I.inv.hygiene i hi).imp_left Nat.le_succ_of_le

theorem init_rel (N : Nat) (h : Nat → Nat) (hN : 0 < N) : Rel N h (init N) FinMap.clear :=
  fresh_rel N h 0 hN (Nat.zero_le _) (by decide)

theorem setGeneration_rel {N : Nat} (h : Nat → Nat) {t : Table} (hl : t.length = 0) (hN : 0 < N)
    (g : Nat) (hg : g ≤ u32Max) :
    ∃ t', setGeneration N t g = some t' ∧ t'.ts = g ∧ Rel N h t' FinMap.clear := by
  by_cases hgm : g = u32Max
  · subst hgm
    exact ⟨_, by simp only [setGeneration, hl, ↓reduceIte], rfl,
      restamped_rel h (Array.replicate N (default : Cell)) Array.size_replicate hN⟩
  · exact ⟨_, by simp only [setGeneration, hl, hgm, ↓reduceIte], rfl, fresh_rel N h g hN hg hgm⟩

end Tbx.HashTable
