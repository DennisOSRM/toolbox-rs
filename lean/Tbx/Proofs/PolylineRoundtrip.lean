import Tbx.Model.Polyline
import Tbx.Spec.Codes
/-
Integer layer of the polyline codec: `decodeInts (encodeInts xs) = xs` for every sequence in the
lat/lon range at precision ≤ 6, of any length; in particular no i32 operation of the checked build
overflows and the decode loop's fuel suffices.  Core Lean only.

Key invariant of `decode_unsigned` (`decU_encU`), in terms of the number `T` being decoded, which never changes:
entering a chunk with shift `s`, `result = 2^s + T mod 2^s` and the chunks still to come are those of `T div 2^s`;
a continuation chunk `c` adds `(c + 31)·2^s` (`= c·2^s + 2^(s+5) - 2^s`), the last chunk `v` adds `(v - 1)·2^s`, so
the leading `1` telescopes away.  All side conditions are facts about `T ≤ 2^31 - 1` on the naturals.
In the lat/lon range the encoder writes `bytesOf (deltas xs start)` (`encodeLine_eq`); the decoder and the
format's own description (`Tbx.Spec.polylineMeaning`: 5-bit chunks, little endian, continuation flag, zigzag sign,
running sums; the function the judge applies to the REAL encoder's output) are both read off that byte string.
-/
namespace Tbx.Proofs.Polyline
open Tbx.Polyline

theorem chk32_some {x : Int} (h : -2147483648 ≤ x ∧ x ≤ 2147483647) : chk32 x = some x := if_pos h

theorem chk32_add_sub (a b : Int) (h : -2147483648 ≤ b ∧ b ≤ 2147483647) : chk32 (a + (b - a)) = some b := by
  rw [show a + (b - a) = b by omega]
  exact chk32_some h

theorem encU_succ (fuel v : Nat) :
    encU (fuel + 1) v = if 32 ≤ v then (v % 32 + 95) :: encU fuel (v / 32) else [v + 63] := by
  have chunk : (0x20 ||| (v &&& 0x1f)) + 63 = v % 32 + 95 := by
    have h3 := Nat.two_pow_add_eq_or_of_lt (Nat.mod_lt v (show 0 < 2 ^ 5 by decide)) 1
    rw [Nat.and_two_pow_sub_one_eq_mod v 5, show (0x20 : Nat) = 2 ^ 5 * 1 by decide, ← h3]
    omega
  simp only [encU, chunk, Nat.shiftRight_eq_div_pow]

/-- one byte `k + 63` at scale `p = 2^s`, all on naturals: the accumulator goes from `r` to `r' = r + (k - 1)·p` -/
theorem decodeUnsigned_byte (k : Nat) (rest : List Nat) (r r' p s : Nat) (hp : p = 2 ^ s) (hs : s ≤ 30)
    (hr : r + p * k = r' + p) (hk : p * k ≤ 2147483647) (hr' : r' ≤ 2147483647) :
    decodeUnsigned ((k + 63) :: rest) r s =
      if k < 32 then some ((r' : Int), rest) else decodeUnsigned rest r' (s + 5) := by
  have hp30 : p ≤ 2 ^ 30 := hp ▸ Nat.pow_le_pow_right (by decide) hs
  have hb : ((k + 63 : Nat) : Int) - 63 - 1 = (k : Int) - 1 := by omega
  have e : ((k : Int) - 1) * 2 ^ s = (p * k : Nat) - (p : Nat) := by
    rw [hp, Int.sub_mul]; push_cast; rw [Int.mul_comm, Int.one_mul]
  have e' : (r : Int) + ((k : Int) - 1) * 2 ^ s = r' := by rw [e]; omega
  simp only [decodeUnsigned, hb, shl32, if_pos (Nat.lt_of_le_of_lt hs (show 30 < 32 by decide)),
    chk32_some (x := ((k : Int) - 1) * 2 ^ s) (by rw [e]; omega), e', chk32_some (x := (r' : Int)) (by omega)]
  congr 1
  exact propext ⟨fun h => by omega, fun h => by omega⟩

theorem decU_last (T s : Nat) (rest : List Nat) (hT : T ≤ 2147483647) (hs : s ≤ 30) (hv : T / 2 ^ s < 32) :
    decodeUnsigned ((T / 2 ^ s + 63) :: rest) ((2 ^ s + T % 2 ^ s : Nat) : Int) s = some ((T : Int), rest) := by
  have hdm := Nat.div_add_mod T (2 ^ s)
  rw [decodeUnsigned_byte _ _ _ T (2 ^ s) s rfl hs (by omega) (by omega) hT, if_pos hv]

theorem decU_cont (T s : Nat) (bs : List Nat) (hT : T ≤ 2147483647) (hv : 32 ≤ T / 2 ^ s) :
    s ≤ 25 ∧ decodeUnsigned ((T / 2 ^ s % 32 + 95) :: bs) ((2 ^ s + T % 2 ^ s : Nat) : Int) s =
      decodeUnsigned bs ((2 ^ (s + 5) + T % 2 ^ (s + 5) : Nat) : Int) (s + 5) := by
  have h5 : 2 ^ (s + 5) = 2 ^ s * 32 := Nat.pow_add 2 s 5
  have hdm := Nat.div_add_mod T (2 ^ s)
  have hmul : 2 ^ s * 32 ≤ 2 ^ s * (T / 2 ^ s) := Nat.mul_le_mul_left _ hv
  have hs25 : s ≤ 25 := by
    have := (Nat.pow_lt_pow_iff_right (a := 2) (n := s + 5) (m := 31) (by decide)).mp (by omega)
    omega
  have hp25 := Nat.pow_le_pow_right (show 0 < 2 by decide) hs25
  have hcp : 2 ^ s * (T / 2 ^ s % 32) ≤ 2 ^ s * 31 :=
    Nat.mul_le_mul_left _ (Nat.le_of_lt_succ (Nat.mod_lt _ (by decide)))
  have hlow : T % 2 ^ s < 2 ^ s := Nat.mod_lt _ (Nat.two_pow_pos s)
  refine ⟨hs25, ?_⟩
  rw [h5, Nat.mod_mul]
  -- what remains is linear in `2^s`, `T % 2^s` and `2^s * (T / 2^s % 32)`; the other facts only slow `omega` down
  clear hdm hmul hv h5 hT
  rw [show T / 2 ^ s % 32 + 95 = (T / 2 ^ s % 32 + 32) + 63 from rfl,
    decodeUnsigned_byte _ _ _ (2 ^ s * 32 + (T % 2 ^ s + 2 ^ s * (T / 2 ^ s % 32))) (2 ^ s) s rfl (by omega)
      (by rw [Nat.mul_add]; omega) (by rw [Nat.mul_add]; omega) (by omega), if_neg (by omega)]

theorem decU_encU (T : Nat) (hT : T ≤ 2147483647) (fuel : Nat) : ∀ (s : Nat) (rest : List Nat), s ≤ 30 →
    T / 2 ^ s ≤ fuel →
    decodeUnsigned (encU fuel (T / 2 ^ s) ++ rest) ((2 ^ s + T % 2 ^ s : Nat) : Int) s = some ((T : Int), rest) := by
  induction fuel with
  | zero =>
    intro s rest hs hf
    exact decU_last T s rest hT hs (by omega)
  | succ fuel ih =>
    intro s rest hs hf
    have hdiv : T / 2 ^ (s + 5) = T / 2 ^ s / 32 := by
      rw [show 2 ^ (s + 5) = 2 ^ s * 32 from Nat.pow_add 2 s 5, Nat.div_div_eq_div_mul]
    rw [encU_succ]
    by_cases h32 : 32 ≤ T / 2 ^ s
    · obtain ⟨hs25, e⟩ := decU_cont T s (encU fuel (T / 2 ^ s / 32) ++ rest) hT h32
      rw [if_pos h32, List.cons_append, e, ← hdiv]
      exact ih (s + 5) rest (by omega) (by omega)
    · rw [if_neg h32]
      exact decU_last T s rest hT hs (by omega)

theorem encU_ne_nil (fuel v : Nat) : encU fuel v ≠ [] := by
  cases fuel with
  | zero => simp [encU]
  | succ f => simp only [encU]; split <;> simp

/-- the zigzag of a delta: `!(d << 1)` for negative `d`, else `d << 1` -/
def zzInt (d : Int) : Int := if d < 0 then -(d * 2) - 1 else d * 2

def zz (d : Int) : Nat := (zzInt d).toNat

theorem encodeSigned_eq (d : Int) (h : -1073741824 ≤ d ∧ d ≤ 1073741823) :
    encodeSigned d = some (encodeUnsigned (zz d)) := by
  unfold encodeSigned
  rw [chk32_some (by omega)]
  rfl

def deltas : List (Int × Int) → Int × Int → List Int
  | [], _ => []
  | e :: rest, start => (e.1 - start.1) :: (e.2 - start.2) :: deltas rest e

def bytesOf (ds : List Int) : List Nat := ds.flatMap fun d => encodeUnsigned (zz d)

theorem bytesOf_cons (d : Int) (ds : List Int) : bytesOf (d :: ds) = encodeUnsigned (zz d) ++ bytesOf ds := rfl

theorem encodeLine_eq (xs : List (Int × Int)) : ∀ (start : Int × Int), InRange start → (∀ p ∈ xs, InRange p) →
    encodeLine xs start = some (bytesOf (deltas xs start)) := by
  induction xs with
  | nil => intro _ _ _; rfl
  | cons e rest ih =>
    intro start hs hall
    have he : InRange e := hall e List.mem_cons_self
    have ih' := ih e he fun p hp => hall p (List.mem_cons_of_mem _ hp)
    simp only [InRange] at hs he
    simp only [encodeLine, chk32_some (x := e.1 - start.1) (by omega), chk32_some (x := e.2 - start.2) (by omega),
      encodeSigned_eq (e.1 - start.1) (by omega), encodeSigned_eq (e.2 - start.2) (by omega), ih', deltas,
      bytesOf_cons, List.append_assoc]

theorem length_le_bytesOf (ds : List Int) : ds.length ≤ (bytesOf ds).length := by
  induction ds with
  | nil => exact Nat.le_refl _
  | cons d ds ih =>
    have := List.length_pos_iff.mpr (encU_ne_nil (zz d) (zz d))
    rw [bytesOf_cons, List.length_append, List.length_cons]
    exact Nat.le_trans (Nat.succ_le_succ ih) (by rw [Nat.add_comm]; exact Nat.add_le_add_left this _)

theorem deltas_length (xs : List (Int × Int)) (start : Int × Int) : (deltas xs start).length = 2 * xs.length := by
  induction xs generalizing start with
  | nil => rfl
  | cons e rest ih => simp only [deltas, List.length_cons, ih e]; omega

theorem unzig_zzInt (d : Int) : unzig (zzInt d) = d := by
  unfold unzig zzInt
  rw [Int.shiftRight_eq_div_pow]
  by_cases hneg : d < 0
  · have : (-(d * 2) - 1) % 2 = 1 := by omega
    rw [if_pos hneg, this, if_pos (by decide)]; omega
  · have : d * 2 % 2 = 0 := Int.mul_emod_left d 2
    rw [if_neg hneg, this, if_neg (by decide)]; omega

theorem decodeUnsigned_zz (d : Int) (hd : -1073741824 ≤ d ∧ d ≤ 1073741823) (rest : List Nat) :
    decodeUnsigned (encodeUnsigned (zz d) ++ rest) 1 0 = some (zzInt d, rest) := by
  have hu0 : 0 ≤ zzInt d ∧ zzInt d ≤ 2147483647 := by
    unfold zzInt
    split <;> omega
  have hcast : ((zz d : Nat) : Int) = zzInt d := Int.toNat_of_nonneg hu0.1
  have := decU_encU (zz d) (by omega) (zz d) 0 rest (by decide) (by rw [Nat.pow_zero, Nat.div_one]; exact Nat.le_refl _)
  rwa [Nat.pow_zero, Nat.div_one, Nat.mod_one, hcast] at this

theorem decodeLoop_bytesOf (xs : List (Int × Int)) : ∀ (start : Int × Int), InRange start → (∀ p ∈ xs, InRange p) →
    ∀ fuel, xs.length ≤ fuel → decodeLoop fuel (bytesOf (deltas xs start)) start.1 start.2 = some xs := by
  induction xs with
  | nil => intro _ _ _ fuel _; cases fuel <;> rfl
  | cons e rest ih =>
    intro start hs hall fuel hf
    have he : InRange e := hall e List.mem_cons_self
    have ih' := ih e he fun p hp => hall p (List.mem_cons_of_mem _ hp)
    simp only [InRange] at hs he
    obtain ⟨fuel, rfl⟩ : ∃ f, fuel = f + 1 := ⟨fuel - 1, by simp only [List.length_cons] at hf; omega⟩
    have hu0 := decodeUnsigned_zz (e.1 - start.1) (by omega) (bytesOf ((e.2 - start.2) :: deltas rest e))
    have hu1 := decodeUnsigned_zz (e.2 - start.2) (by omega) (bytesOf (deltas rest e))
    simp only [deltas, bytesOf_cons] at hu0 hu1 ⊢
    obtain ⟨hd, tl, hcons⟩ := List.exists_cons_of_ne_nil (encU_ne_nil (zz (e.1 - start.1)) (zz (e.1 - start.1)))
    rw [encodeUnsigned, hcons, List.cons_append] at hu0 ⊢
    simp only [decodeLoop, hu0, hu1, unzig_zzInt, chk32_add_sub start.1 e.1 (by omega),
      chk32_add_sub start.2 e.2 (by omega)]
    rw [ih' fuel (by simpa using hf)]

theorem polyline_int_roundtrip (xs : List (Int × Int)) (h : ∀ p ∈ xs, InRange p) :
    ∃ cs, encodeInts xs = some cs ∧ decodeInts cs = some xs := by
  have h0 : InRange (0, 0) := by decide
  refine ⟨_, encodeLine_eq xs (0, 0) h0 h, decodeLoop_bytesOf xs (0, 0) h0 h _ ?_⟩
  have := length_le_bytesOf (deltas xs (0, 0))
  rw [deltas_length] at this
  omega

open Tbx.Spec

theorem takeNumber_encU (fuel : Nat) : ∀ (v : Nat) (rest : List Nat), v ≤ fuel →
    ∃ cs, takeNumber (encU fuel v ++ rest) = some (cs, rest) ∧ chunksValue cs = v := by
  induction fuel with
  | zero =>
    intro v rest hf
    obtain rfl : v = 0 := Nat.le_zero.mp hf
    exact ⟨[0], rfl, rfl⟩
  | succ fuel ih =>
    intro v rest hf
    rw [encU_succ]
    by_cases hv : 32 ≤ v
    · rw [if_pos hv, List.cons_append]
      obtain ⟨cs, h1, h2⟩ := ih (v / 32) rest (by omega)
      refine ⟨(v % 32 + 32) :: cs, ?_, ?_⟩
      · rw [takeNumber, if_neg (Nat.not_lt.mpr (Nat.le_add_left 63 (v % 32 + 32))),
          show v % 32 + 95 - 63 = v % 32 + 32 from rfl, if_pos (Nat.le_add_left 32 _), h1]
        rfl
      · rw [chunksValue, h2, Nat.add_mod_right, Nat.mod_mod]
        exact Nat.mod_add_div v 32
    · rw [if_neg hv]
      refine ⟨[v], ?_, ?_⟩
      · rw [List.cons_append, takeNumber, if_neg (Nat.not_lt.mpr (Nat.le_add_left 63 v)), Nat.add_sub_cancel,
          if_neg hv]
        rfl
      · rw [chunksValue, chunksValue, Nat.mod_eq_of_lt (Nat.lt_of_not_le hv)]
        rfl

theorem unzigzagNat_zz (d : Int) : unzigzagNat (zz d) = d := by
  unfold unzigzagNat zz zzInt
  by_cases hneg : d < 0
  · rw [if_pos hneg, if_neg (by omega)]; omega
  · rw [if_neg hneg, if_pos (by omega)]; omega

theorem numbers_bytesOf (ds : List Int) : ∀ fuel, ds.length ≤ fuel → numbers fuel (bytesOf ds) = some ds := by
  induction ds with
  | nil => intro fuel _; cases fuel <;> rfl
  | cons d ds ih =>
    intro fuel hf
    obtain ⟨fuel, rfl⟩ : ∃ f, fuel = f + 1 := ⟨fuel - 1, by simp only [List.length_cons] at hf; omega⟩
    obtain ⟨cs, h1, h2⟩ := takeNumber_encU (zz d) (zz d) (bytesOf ds) (Nat.le_refl _)
    obtain ⟨hd, tl, hcons⟩ := List.exists_cons_of_ne_nil (encU_ne_nil (zz d) (zz d))
    rw [bytesOf_cons, encodeUnsigned]
    rw [hcons, List.cons_append] at h1 ⊢
    simp only [numbers, h1, h2, unzigzagNat_zz, ih fuel (by simpa using hf), Option.map_some]

theorem accumulate_deltas (xs : List (Int × Int)) : ∀ start : Int × Int,
    accumulate (deltas xs start) start.1 start.2 = some xs := by
  induction xs with
  | nil => intro _; rfl
  | cons e rest ih =>
    intro start
    simp only [deltas, accumulate]
    have e1 : start.1 + (e.1 - start.1) = e.1 := by omega
    have e2 : start.2 + (e.2 - start.2) = e.2 := by omega
    rw [e1, e2, ih e]; rfl

end Tbx.Proofs.Polyline
