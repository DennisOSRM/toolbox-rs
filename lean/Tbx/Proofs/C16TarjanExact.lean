import Tbx.Proofs.C16Tarjan
import Tbx.Proofs.C16Scc
/-
Tarjan (`Model/Tarjan.lean`): why two nodes get the same label iff they are mutually reachable.
During the DFS of one root the state is read as a state of `Scc.AX` (`C16Scc`): open nodes = nodes on the Tarjan
stack, ranked by `index`; path = the caller chain `last :: tl`; visited = `index ≠ MAX` (off the stack: `AsgT`).  Lowlinks
encode the candidate roots lazily: a node `c` of the caller chain is a candidate as long as no node further up the
chain has a lowlink below `index[c]` (`CandT`).  With that reading `lowlink = min(lowlink, ·)` on an edge to a stack
node is `AX.back`, on return it drops `last` from the path (`AX.ret`), and `lowlink[last] = index[last]` says that
`last` is a candidate (`AX.pop`).  `TX` is the invariant of a root's loop, with one lemma per kind of iteration.
-/
namespace Tbx.Tarjan
open Tbx Tbx.Csr Tbx.Comp
open Tbx.CycleCheck (E)
open Tbx.Scc (AX IsTop Looked Final)

def AsgT (g : Graph) (V : View) (v : Nat) : Prop := (v < numNodes g ∧ V.I v ≠ maxU) ∧ ¬ InStack V.stack v

/-- the caller chain, deepest node first; the root of the DFS, at its end, has `caller = MAX` -/
def IsPath (I C : Nat → Nat) : List Nat → Prop
  | [] => False
  | [x] => C x = maxU
  | x :: y :: rest => C x = y ∧ I y < I x ∧ IsPath I C (y :: rest)

/-- the candidate roots on the caller chain (deepest node first), as the lowlinks encode them -/
def CandT (I L : Nat → Nat) : List Nat → Nat → Prop
  | [], _ => False
  | x :: tl, c => (c = x ∧ I c ≤ L x) ∨ (CandT I L tl c ∧ I c ≤ L x)

abbrev AXT (g : Graph) (V : View) (N : Nat → Nat) (path : List Nat) : Prop :=
  AX g (InStack V.stack) (· ∈ path) (CandT V.I V.L path) (fun v => v < numNodes g ∧ V.I v ≠ maxU) V.I (gt V.asg) N

/-- the invariant of a root's DFS while `last :: tl` is the caller chain -/
structure TX (g : Graph) (V : View) (N : Nat → Nat) (last : Nat) (tl : List Nat) : Prop where
  ts : TS (numNodes g) V
  ax : AXT g V N (last :: tl)
  path_ok : IsPath V.I V.C (last :: tl)

/-- holds between two roots: the Tarjan stack is empty -/
structure Between (g : Graph) (V : View) : Prop where
  ts : TS (numNodes g) V
  emp : V.stack.size = 0
  final : Final g (AsgT g V) (gt V.asg)

theorem IsPath.lt {I C : Nat → Nat} : ∀ {x : Nat} {tl : List Nat}, IsPath I C (x :: tl) →
    ∀ y, y ∈ tl → I y < I x := by
  intro x tl
  induction tl generalizing x with
  | nil => intro _ y hy; cases hy
  | cons z rest ih =>
    intro h y hy
    rcases List.mem_cons.mp hy with rfl | hy
    · exact h.2.1
    · exact Nat.lt_trans (ih h.2.2 y hy) h.2.1

theorem IsPath.congr {I C I' C' : Nat → Nat} : ∀ {l : List Nat}, (∀ x, x ∈ l → I' x = I x ∧ C' x = C x) →
    IsPath I C l → IsPath I' C' l
  | [], _, h => h
  | [x], he, h => (he x List.mem_cons_self).2.trans h
  | x :: y :: rest, he, h => by
    have hx := he x List.mem_cons_self
    have hy := he y (List.mem_cons_of_mem _ List.mem_cons_self)
    exact ⟨hx.2.trans h.1, hx.1 ▸ hy.1 ▸ h.2.1, IsPath.congr (fun z hz => he z (List.mem_cons_of_mem _ hz)) h.2.2⟩

section cand
variable {I L : Nat → Nat} {last : Nat} {tl : List Nat}

theorem mem_tail_iff (hlt : ∀ y, y ∈ tl → I y < I last) (u : Nat) : u ∈ tl ↔ u ∈ last :: tl ∧ u ≠ last :=
  ⟨fun h => ⟨List.mem_cons_of_mem _ h, fun he => Nat.lt_irrefl _ (he ▸ hlt u h)⟩, fun h => (List.mem_cons.mp h.1).resolve_left h.2⟩

theorem candT_cons {x : Nat} {c : Nat} : CandT I L (x :: tl) c ↔ (c = x ∧ I c ≤ L x) ∨ (CandT I L tl c ∧ I c ≤ L x) := Iff.rfl

theorem CandT.mem : ∀ {path : List Nat} {c : Nat}, CandT I L path c → c ∈ path
  | _ :: _, _, .inl h => h.1 ▸ List.mem_cons_self
  | _ :: _, _, .inr h => List.mem_cons_of_mem _ h.1.mem

theorem candT_congr {I' L' : Nat → Nat} : ∀ {path : List Nat}, (∀ p, p ∈ path → I' p = I p ∧ L' p = L p) → ∀ c,
    (CandT I' L' path c ↔ CandT I L path c)
  | [], _, _ => Iff.rfl
  | x :: tl, h, c => by
    have hx := h x List.mem_cons_self
    rw [candT_cons, candT_cons, hx.2, candT_congr (fun p hp => h p (List.mem_cons_of_mem _ hp)) c]
    exact or_congr (and_congr_right fun hc => by rw [hc, hx.1]) (and_congr_right fun hc => by rw [(h c (List.mem_cons_of_mem _ hc.mem)).1])

/-- `lowlink[last] = min(lowlink[last], x)` removes the candidates with an index above `x` -/
theorem candT_min (hlt : ∀ y, y ∈ tl → I y < I last) (x c : Nat) :
    CandT I (fun u => if u = last then min (L last) x else L u) (last :: tl) c ↔ CandT I L (last :: tl) c ∧ I c ≤ x := by
  rw [candT_cons, candT_cons, if_pos rfl, Nat.le_min,
    candT_congr (I := I) (L := L) (fun p hp => ⟨rfl, if_neg fun he => Nat.lt_irrefl _ (he ▸ hlt p hp)⟩),
    ← and_assoc, ← and_assoc, ← or_and_right]

end cand

variable {g : Graph} {V : View} {N N' : Nat → Nat} {last : Nat} {tl : List Nat}

theorem TX.top (hx : TX g V N last tl) : IsTop (· ∈ last :: tl) V.I last :=
  ⟨List.mem_cons_self, fun p hp => (List.mem_cons.mp hp).elim (fun h => h ▸ Nat.le_refl _) fun h => Nat.le_of_lt (hx.path_ok.lt p h)⟩

theorem TX.last_in (hx : TX g V N last tl) : InStack V.stack last := hx.ax.PS last List.mem_cons_self

/-! In the three edge steps `N'` are the slot counters after `dfs_state[last].neighbor += 1`. -/

theorem tx_cross (hx : TX g V N last tl) {w : Nat} (hl : Looked g (· ∈ last :: tl) V.I N last w N')
    (hwn : w < numNodes g) (hvis : V.I w ≠ maxU) (hoff : V.O w ≠ true) : TX g V N' last tl :=
  ⟨hx.ts, hx.ax.cross hl ⟨⟨hwn, hvis⟩, fun hin => hoff ((hx.ts.M w hwn).mpr hin)⟩, hx.path_ok⟩

/-- a back or cross edge to a node on the Tarjan stack -/
theorem tx_back (hx : TX g V N last tl) {w : Nat} (hl : Looked g (· ∈ last :: tl) V.I N last w N')
    (hwn : w < numNodes g) (hon : V.O w = true) : TX g (V.setL last (V.I w)) N' last tl :=
  ⟨TS_setL hx.ts _ _, (hx.ax.back hl (hx.ts.stk hx.last_in).1 ((hx.ts.M w hwn).mp hon)).congrC (candT_min hx.path_ok.lt _), hx.path_ok⟩

theorem candT_push {w c : Nat} {path : List Nat} (hp : ∀ p, p ∈ path → p ≠ w ∧ V.I p < V.index) (x : Nat) :
    CandT (V.push w c).I (V.push w c).L (w :: path) x ↔ x = w ∨ CandT V.I V.L path x := by
  have hIw : (V.push w c).I w = V.index := if_pos rfl
  have hLw : (V.push w c).L w = V.index := if_pos rfl
  have hIp : ∀ p, p ∈ path → (V.push w c).I p = V.I p := fun p h => if_neg (hp p h).1
  have hLp : ∀ p, p ∈ path → (V.push w c).L p = V.L p := fun p h => if_neg (hp p h).1
  rw [candT_cons, hLw, candT_congr fun p h => ⟨hIp p h, hLp p h⟩]
  exact or_congr (and_iff_left_of_imp fun h => Nat.le_of_eq (h ▸ hIw))
    (and_iff_left_of_imp fun h => by rw [hIp x h.mem]; exact Nat.le_of_lt (hp x h.mem).2)

theorem ax_push (hs : TS (numNodes g) V) {path : List Nat} (ha : AXT g V N path) {w c : Nat}
    (hunv : V.I w = maxU) (h0 : N' w = 0)
    (hfrom : ((∀ u, ¬ InStack V.stack u) ∧ ∀ u, u ≠ w → N' u = N u) ∨
      ∃ v N1, v < numNodes g ∧ Looked g (· ∈ path) V.I N v w N1 ∧ ∀ u, u ≠ w → N' u = N1 u) :
    AXT g (V.push w c) N' (w :: path) := by
  have hne : ∀ u, InStack V.stack u → u ≠ w := fun u hu huw => (hs.stk hu).2.1 (huw ▸ hunv)
  have hIp : ∀ u, u ≠ w → (V.push w c).I u = V.I u := fun u hu => if_neg hu
  exact (ha.push (w := w) (pos' := (V.push w c).I) (N' := N') (fun h => hne w h rfl) (fun h => h.2 hunv) (fun u hu => hIp u (hne u hu))
    (fun u hu => show V.I u < if w = w then V.index else _ by rw [if_pos rfl]; exact (hs.stk hu).2.2) h0 hfrom).congr
    (fun _ => inStack_push_iff) (fun _ => List.mem_cons)
    (candT_push fun p hp => ⟨hne p (ha.PS p hp), (hs.stk (ha.PS p hp)).2.2⟩)
    (fun u hu => by rw [hIp u fun he => hu (Or.inl he)]) (fun _ _ => rfl) (fun _ _ => rfl) (fun _ _ => rfl)

/-- `N1` are the counters after `neighbor += 1`, `N'` also has `dfs_state[w].neighbor = 0` -/
theorem tx_push (hn : numNodes g < maxU) (hx : TX g V N last tl) {w : Nat} {N1 : Nat → Nat}
    (hl : Looked g (· ∈ last :: tl) V.I N last w N1) (hwn : w < numNodes g) (hunv : V.I w = maxU) (h0 : N' w = 0)
    (h2 : ∀ u, u ≠ w → N' u = N1 u) : TX g (V.push w last) N' w (last :: tl) := by
  have hs := hx.ts
  obtain ⟨hln, hlv, hlt⟩ := hs.stk hx.last_in
  have hne : ∀ u, InStack V.stack u → u ≠ w := fun u hu huw => (hs.stk hu).2.1 (huw ▸ hunv)
  refine ⟨TS_push hs hn w last hwn hunv, ax_push hs hx.ax hunv h0 (Or.inr ⟨last, N1, hln, hl, h2⟩), if_pos rfl, ?_, ?_⟩
  · show (if last = w then _ else V.I last) < if w = w then V.index else _
    rw [if_neg (hne last hx.last_in), if_pos rfl]; exact hlt
  · exact hx.path_ok.congr fun x hxm => ⟨if_neg (hne x (hx.ax.PS x hxm)), if_neg (hne x (hx.ax.PS x hxm))⟩

theorem tx_root (hn : numNodes g < maxU) {v : Nat} (hvn : v < numNodes g) (hunv : V.I v = maxU) (ho : Between g V) (h0 : N v = 0) :
    TX g (V.push v maxU) N v [] := by
  have hnone := not_inStack_of_empty ho.emp
  exact ⟨TS_push ho.ts hn v maxU hvn hunv, ax_push ho.ts (AX.empty hnone (fun _ => List.not_mem_nil) (fun _ hu => hu) ho.final)
    hunv h0 (Or.inl ⟨hnone, fun _ _ => rfl⟩), if_pos rfl⟩

theorem tx_ret_nopop {q : Nat} (hx : TX g V N last (q :: tl))
    (hfin : outDegree g last ≤ N last) (hne : V.L last ≠ V.I last) : TX g (V.setL q (V.L last)) N q tl := by
  have hs := hx.ts
  obtain ⟨hln, hlv, _⟩ := hs.stk hx.last_in
  have hlt := hx.path_ok.lt
  have hLI : ¬ V.I last ≤ V.L last := fun h => hne (Nat.le_antisymm (hs.L1 last hln hlv) h)
  have hnc : ¬ CandT V.I V.L (last :: q :: tl) last := fun hc => hc.elim (fun h => hLI h.2) fun h => Nat.lt_irrefl _ (hlt last h.1.mem)
  refine ⟨TS_setL hs _ _, (hx.ax.ret hx.top hfin hnc).congr (fun _ => Iff.rfl) (mem_tail_iff hlt) (fun c => ?_)
    (fun _ _ => Iff.rfl) (fun _ _ => rfl) (fun _ _ => rfl) (fun _ _ => rfl), hx.path_ok.2.2⟩
  refine (candT_min hx.path_ok.2.2.lt _ c).trans (Iff.symm (or_iff_right fun h => ?_))
  exact hLI (h.1 ▸ h.2)

/-- what is left is the `AX` reading over the rest of the chain, not `TX`: the chain is empty when `last` was the root -/
theorem ax_pop (hx : TX g V N last tl) (hfin : outDegree g last ≤ N last) (hLI : V.L last = V.I last)
    {pre post : List Nat} (hsp : V.stack.toList = pre ++ last :: post) : AXT g (V.pop pre (last :: post)) N tl := by
  have hs := hx.ts
  have hmem := mem_split_iff hsp hs.stk_mono
  obtain ⟨_, a2⟩ := gt_foldr_st (fun _ => V.numScc + 1) (fun _ => rfl) V.asg (last :: post)
    fun x hx' => hs.asz ▸ (hs.stk (show x ∈ V.stack.toList from hsp ▸ List.mem_append_right _ hx')).1
  have hlt := hx.path_ok.lt
  have hcand : CandT V.I V.L (last :: tl) last := Or.inl ⟨rfl, Nat.le_of_eq hLI.symm⟩
  refine (hx.ax.pop (c := V.numScc + 1) (lab' := gt (V.pop pre (last :: post)).asg) hx.top hfin hcand
    (fun u hu he => (List.mem_cons.mp hu).resolve_right fun h => Nat.ne_of_lt (hlt u h) he) (fun v hv => ?_)
    (fun u hu hle => ⟨⟨(hs.stk hu).1, (hs.stk hu).2.1⟩, (a2 u).1 ((hmem u).1.mpr ⟨hu, hle⟩)⟩)).congr
    (fun u => (hmem u).2) (mem_tail_iff hlt) (fun c => ?_) (fun _ _ => Iff.rfl) (fun _ _ => rfl) (fun _ _ => rfl) (fun _ _ => rfl)
  · refine ⟨(a2 v).2 fun hpo => hv.2 ((hmem v).1.mp hpo).1, ?_⟩
    rcases hs.K v hv.1.1 hv.1.2 with h | h
    · exact absurd h hv.2
    · exact Nat.ne_of_lt (Nat.lt_succ_of_le h.2)
  · exact ⟨fun h => ⟨Or.inr ⟨h, hLI ▸ Nat.le_of_lt (hlt c h.mem)⟩, fun he => Nat.lt_irrefl _ (he ▸ hlt c h.mem)⟩,
      fun h => (h.1.resolve_left fun h' => h.2 h'.1).1⟩

end Tbx.Tarjan
