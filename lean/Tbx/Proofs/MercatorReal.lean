import Mathlib.Analysis.SpecialFunctions.Trigonometric.Arctan
import Mathlib.Analysis.SpecialFunctions.Log.Basic
/-
The Mercator latitude conversions of src/mercator.rs read over the real numbers.

  lat_to_y(lat) = 0.5.to_degrees() * ln((1 + f) / (1 - f)),  f = sin(clamp(lat).to_radians())
  y_to_lat(y)   = 2.0.to_degrees() * atan(exp(clamp(y).to_radians())) - 90

`latToYU` / `yToLatU` are the formulas without the two clamps.  Proved here: they are inverse to each other
for every |φ| < 90 (`yToLatU_latToYU`).  The statement with the clamps (they are inactive on the property's
range |φ| ≤ 85.05, which needs a numeric bound on ln/sin) is `Tbx.Props.C19.mercator_inverse_real_statement`.
-/
namespace Tbx.Merc
open Real

noncomputable def latToYU (φ : ℝ) : ℝ :=
  (1 / 2 * (180 / π)) * Real.log ((1 + sin (φ * (π / 180))) / (1 - sin (φ * (π / 180))))

noncomputable def yToLatU (y : ℝ) : ℝ :=
  (2 * (180 / π)) * arctan (exp (y * (π / 180))) - 90

/-- `f64::clamp` over the reals -/
noncomputable def clampR (x lo hi : ℝ) : ℝ := if x < lo then lo else if x > hi then hi else x

/-- EPSG3857_MAX_LATITUDE -/
noncomputable def maxLat : ℝ := 85.05112877980659

noncomputable def latToYR (φ : ℝ) : ℝ := latToYU (clampR φ (-maxLat) maxLat)
noncomputable def yToLatR (y : ℝ) : ℝ := yToLatU (clampR y (-180) 180)

/-- half-angle form of the Mercator argument: no side condition, both sides are `sin² / cos²` -/
theorem tan_sq_eq (x : ℝ) : tan x ^ 2 = (1 + sin (2 * x - π / 2)) / (1 - sin (2 * x - π / 2)) := by
  have hn : 1 + sin (2 * x - π / 2) = 2 * sin x ^ 2 := by
    rw [sin_sub_pi_div_two, cos_two_mul, sin_sq]; ring
  have hd : 1 - sin (2 * x - π / 2) = 2 * cos x ^ 2 := by
    rw [sin_sub_pi_div_two, cos_two_mul]; ring
  rw [hn, hd, tan_eq_sin_div_cos, div_pow, mul_div_mul_left _ _ two_ne_zero]

/-- with `x = π/4 + φ/2` (in radians) the logarithm's argument is `tan² x`, and `x` lies in `arctan`'s range -/
theorem yToLatU_latToYU (φ : ℝ) (h : |φ| < 90) : yToLatU (latToYU φ) = φ := by
  have hφ := abs_lt.mp h
  have hc : 0 < π / 360 := div_pos pi_pos (by norm_num)
  have hk : 180 / π * (π / 180) = 1 := by
    rw [div_mul_div_comm, mul_comm, div_self (mul_ne_zero pi_ne_zero (by norm_num))]
  have hx1 : 0 < π / 360 * (φ + 90) := mul_pos hc (neg_lt_iff_pos_add.mp hφ.1)
  have hx2 : π / 360 * (φ + 90) < π / 2 := by
    rw [show π / 2 = π / 360 * (90 + 90) by ring]
    exact mul_lt_mul_of_pos_left (add_lt_add_left hφ.2 90) hc
  have hθ : φ * (π / 180) = 2 * (π / 360 * (φ + 90)) - π / 2 := by ring
  unfold yToLatU latToYU
  rw [hθ, ← tan_sq_eq, Real.log_pow, Nat.cast_ofNat,
    show 1 / 2 * (180 / π) * (2 * Real.log (tan (π / 360 * (φ + 90)))) * (π / 180) =
      180 / π * (π / 180) * Real.log (tan (π / 360 * (φ + 90))) by ring,
    hk, one_mul, exp_log (tan_pos_of_pos_of_lt_pi_div_two hx1 hx2),
    arctan_tan (lt_trans (neg_lt_zero.mpr (half_pos pi_pos)) hx1) hx2,
    show 2 * (180 / π) * (π / 360 * (φ + 90)) - 90 = 180 / π * (π / 180) * (φ + 90) - 90 by ring, hk]
  ring

end Tbx.Merc
