import Tbx.Proofs.SearchBasic
import Tbx.Spec.Reach
/-
C15: the search is complete for ANY pop discipline (`CInv` at the boundaries of the outer loop).
-/
namespace Tbx.Search
open Tbx

structure CInv (g : Graph) (filt isT : Nat → Bool) (isSrc : Nat → Prop) (s : S) : Prop where
  closed : ∀ v, marked s.par v → v ∈ s.wl ∨ ∀ w, Reach.Edge g filt v w → marked s.par w
  noT    : ∀ v, marked s.par v → isSrc v ∨ isT v = false

theorem loop_none (g : Graph) (filt isT : Nat → Bool) (isSrc : Nat → Prop)
    (pop : List Nat → Option (Nat × List Nat)) (hp : PopOK pop)
    (fuel : Nat) (s s' : S) (hi : CInv g filt isT isSrc s)
    (h : loop g filt isT pop fuel s = .done none s') :
    (∀ v, marked s.par v → marked s'.par v) ∧
    (∀ v, marked s'.par v → ∀ w, Reach.Edge g filt v w → marked s'.par w) ∧
    (∀ v, marked s'.par v → isSrc v ∨ isT v = false) := by
  fun_induction loop g filt isT pop fuel s with
  | case1 | case3 | case4 | case5 => cases h
  | case2 _ s hpop =>
    cases h
    refine ⟨fun _ h => h, ?_, hi.noT⟩
    intro v hv
    rcases hi.closed v hv with h1 | h1
    · rw [hp.1 _ hpop] at h1; cases h1
    · exact h1
  | case6 _ s u rest hpop _ _ s1 he ih =>
    obtain ⟨news, hd, hw, hT, hm⟩ := edges_cont filt isT u _ (g u) _ s1 he
    have mk := hd.marked_iff
    simp only at mk hw
    have hi1 : CInv g filt isT isSrc s1 := by
      constructor
      · intro v hv
        rcases (mk v).mp hv with h1 | h1
        · left; rw [hw]; exact List.mem_append_right _ h1
        · rcases hi.closed v h1 with h2 | h2
          · rcases (hp.2 _ _ _ hpop v).mp h2 with rfl | h3
            · right
              rintro w ⟨e, he1, he2⟩
              exact hm w e he1 he2
            · left; rw [hw]; exact List.mem_append_left _ h3
          · right; intro w hw'; exact (mk w).mpr (Or.inr (h2 w hw'))
      · intro v hv
        rcases (mk v).mp hv with h1 | h1
        · exact Or.inr (hT v h1)
        · exact hi.noT v h1
    obtain ⟨x, y, z⟩ := ih hi1 h
    exact ⟨fun v hv => x v ((mk v).mpr (Or.inr hv)), y, z⟩

theorem loop_none_complete (g : Graph) (filt isT : Nat → Bool) (isSrc : Nat → Prop)
    (pop : List Nat → Option (Nat × List Nat)) (hp : PopOK pop)
    (fuel : Nat) (s s' : S) (hi : CInv g filt isT isSrc s) (hsrc : ∀ v, isSrc v → marked s.par v)
    (hdisj : ∀ v, isSrc v → isT v = false)
    (h : loop g filt isT pop fuel s = .done none s') :
    ∀ v, Reach.Reachable g filt isSrc v → marked s'.par v ∧ isT v = false := by
  obtain ⟨a, b, c⟩ := loop_none g filt isT isSrc pop hp fuel s s' hi h
  have hm : ∀ v, Reach.Reachable g filt isSrc v → marked s'.par v := by
    intro v hv
    induction hv with
    | src v hs => exact a v (hsrc v hs)
    | step u v _ he ih => exact b u ih v he
  intro v hv
  refine ⟨hm v hv, ?_⟩
  rcases c v (hm v hv) with h1 | h1
  · exact hdisj v h1
  · exact h1

theorem init_CInv (g : Graph) (filt isT : Nat → Bool) (sr : Searcher) (par : Array (Option Nat))
    (h : resetParents sr = some par) :
    CInv g filt isT (· ∈ sr.sources) { par := par, wl := sr.sources } := by
  constructor
  · intro v hv; left; exact (init_marked sr par h v).mp hv
  · intro v hv; left; exact (init_marked sr par h v).mp hv

end Tbx.Search
