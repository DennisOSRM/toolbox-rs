import Tbx.Proofs.DGraphBasic
/-
The slot-making block of `insert_edge` (`placeSlice`: right spare / left spare / relocation with growth)
preserves the invariant, permutes the adjacency of its node at most and leaves a spare slot one past its slice.
The two branches that move the slice differ only in what they do to the edge array: each is shown to satisfy `Placed`
(a `Reslot` with unchanged count, a spare slot behind the new slice, the content permuted at most) by a lemma about
arrays alone (`placed_left`, `placed_reloc`); `placeSlice_inv` draws the graph-level conclusion from `Placed` once.
-/
namespace Tbx.DG
open Tbx
open Tbx.SG (EEntry maxId)

/-- what the API reads from the slots `[F, F+C)` -/
def sliceL (a : Array EEntry) (F C : Nat) : List (Nat × Int) :=
  (List.range' F C).map fun e => ((gt a e).tgt, (gt a e).data)

abbrev Placed (a a' : Array EEntry) (F C F' : Nat) : Prop :=
  Reslot a a' F C F' C ∧ F' + C < a'.size ∧ (gt a' (F' + C)).tgt = maxId ∧ (sliceL a' F' C).Perm (sliceL a F C)

/-- the slice `[P+1, P+1+C)` moves one to the left by swapping its last entry into the spare slot `P` -/
theorem placed_left (a : Array EEntry) (P C : Nat) (hb : P + 1 + C ≤ a.size) (hsp : (gt a P).tgt = maxId)
    (live : ∀ e, P + 1 ≤ e → e < P + 1 + C → (gt a e).tgt ≠ maxId) :
    Placed a (swapE a P (P + C)) (P + 1) C P := by
  -- the new array as a variable with its equations: terms containing `swapE` are slow to unify
  obtain ⟨a', ha', hsz, ge⟩ : ∃ a', a' = swapE a P (P + C) ∧ a'.size = a.size ∧
      ∀ k, gt a' k = if k = P + C then gt a P else if k = P then gt a (P + C) else gt a k :=
    ⟨_, rfl, size_swapE .., fun k => gt_swapE _ _ _ _ (by omega) (by omega)⟩
  rw [← ha']
  clear ha'
  refine ⟨⟨Nat.le_of_eq hsz.symm, by omega, ?_, ?_, ?_⟩, by omega, ?_, ?_⟩
  · intro e _ hl hno
    have h1 : e ≠ P := fun c => hl (c ▸ hsp)
    have h2 : e ≠ P + C ∧ ¬ (P ≤ e ∧ e < P + C) := by omega
    rw [ge, if_neg h2.1, if_neg h1]
    exact ⟨rfl, h2.2⟩
  · intro e h1 h2
    rw [ge, if_neg (Nat.ne_of_lt h2)]
    by_cases c : e = P
    · have : P + 1 ≤ P + C ∧ P + C < P + 1 + C := by omega
      rw [if_pos c]; exact live _ this.1 this.2
    · have : P + 1 ≤ e ∧ e < P + 1 + C := by omega
      rw [if_neg c]; exact live _ this.1 this.2
  · intro e hlt hl hno
    rw [hsz] at hlt
    rw [ge] at hl
    by_cases c1 : e = P + C
    · rw [if_pos c1] at hl; exact absurd hsp hl
    · have : e ≠ P ∧ ¬ (P + 1 ≤ e ∧ e < P + 1 + C) := by omega
      rw [if_neg c1, if_neg this.1] at hl
      exact ⟨hlt, hl, this.2⟩
  · rw [ge, if_pos rfl]; exact hsp
  · -- the slice `P, P+1, …, P+C-1` now reads: old last entry, then the old entries but the last
    unfold sliceL
    cases C with
    | zero => exact List.Perm.refl _
    | succ C' =>
      have e2 : (List.range' (P + 1) C').map (fun e => ((gt a' e).tgt, (gt a' e).data)) =
          (List.range' (P + 1) C').map (fun e => ((gt a e).tgt, (gt a e).data)) := by
        apply List.map_congr_left
        intro e hm
        have := List.mem_range'_1.mp hm
        rw [ge, if_neg (by omega), if_neg (by omega)]
      rw [List.range'_succ, List.map_cons, e2, ge P, if_neg (by omega), if_pos rfl, List.range'_concat,
        List.map_append, Nat.one_mul, ← Nat.add_assoc, Nat.add_right_comm P 1 C']
      exact (List.perm_append_singleton _ _).symm

/-- the new slice is longer than the old one (GROWTH_FACTOR >= 1, regenerated from the source) -/
theorem growLen_gt (c : Nat) : c < growLen c := by
  unfold growLen Tbx.Gen.dynGrowthNum Tbx.Gen.dynGrowthDen
  omega

/-- what `insert_edge` leaves in the edge array when it relocates the slice `[F, F+C)` to the end -/
theorem gt_reloc (a : Array EEntry) (F C L : Nat) (x : EEntry) (hb : F + C ≤ a.size) (hL : C ≤ L) (k : Nat) :
    gt (moveLoop a.size F C (a ++ Array.replicate L x)) k =
      if a.size ≤ k ∧ k < a.size + C then gt a (F + (k - a.size))
      else if F ≤ k ∧ k < F + C then x
      else if k < a.size then gt a k else if k < a.size + L then x else default := by
  rw [gt_moveLoop _ _ _ _ hb (by rw [Array.size_append, Array.size_replicate]; omega)]
  simp only [gt_append_replicate]
  by_cases c1 : a.size ≤ k ∧ k < a.size + C
  · have : k - a.size < C := Nat.sub_lt_left_of_lt_add c1.1 c1.2
    rw [if_pos c1, if_pos c1, if_pos (Nat.lt_of_lt_of_le (Nat.add_lt_add_left this F) hb)]
  · rw [if_neg c1, if_neg c1]
    by_cases c2 : F ≤ k ∧ k < F + C
    · have : k - F < L := Nat.lt_of_lt_of_le (Nat.sub_lt_left_of_lt_add c2.1 c2.2) hL
      rw [if_pos c2, if_pos c2, if_neg (Nat.not_lt.mpr (Nat.le_add_right _ _)), if_pos (Nat.add_lt_add_left this _)]
    · rw [if_neg c2, if_neg c2]

/-- the slice `[F, F+C)` moves behind the old end of the array, which grows by `L > C` spare slots -/
theorem placed_reloc (a : Array EEntry) (F C L : Nat) (d : Int) (hb : F + C ≤ a.size) (hL : C < L)
    (live : ∀ e, F ≤ e → e < F + C → (gt a e).tgt ≠ maxId) :
    Placed a (moveLoop a.size F C (a ++ Array.replicate L ⟨maxId, d⟩)) F C a.size := by
  have esz : (moveLoop a.size F C (a ++ Array.replicate L (⟨maxId, d⟩ : EEntry))).size = a.size + L := by
    rw [size_moveLoop, Array.size_append, Array.size_replicate]
  have ge := gt_reloc a F C L ⟨maxId, d⟩ hb (Nat.le_of_lt hL)
  refine ⟨⟨by omega, by omega, ?_, ?_, ?_⟩, by omega, ?_, ?_⟩
  · intro e hlt _ hno
    have h1 : ¬ (a.size ≤ e ∧ e < a.size + C) := fun h => Nat.lt_irrefl _ (Nat.lt_of_lt_of_le hlt h.1)
    rw [ge, if_neg h1, if_neg hno, if_pos hlt]
    exact ⟨rfl, h1⟩
  · intro e h1 h2
    rw [ge, if_pos ⟨h1, h2⟩]
    have : e - a.size < C := by omega
    exact live _ (Nat.le_add_right _ _) (Nat.add_lt_add_left this F)
  · intro e hlt hl hno
    rw [esz] at hlt
    rw [ge, if_neg hno] at hl
    by_cases c2 : F ≤ e ∧ e < F + C
    · rw [if_pos c2] at hl; exact absurd rfl hl
    · rw [if_neg c2] at hl
      by_cases c3 : e < a.size
      · rw [if_pos c3] at hl; exact ⟨c3, hl, c2⟩
      · rw [if_neg c3, if_pos hlt] at hl; exact absurd rfl hl
  · rw [ge, if_neg (fun h => Nat.lt_irrefl _ h.2),
      if_neg (fun h => Nat.lt_irrefl _ (Nat.lt_of_lt_of_le (Nat.lt_of_add_lt_add_right h.2) (Nat.le_trans (Nat.le_add_right F C) hb))),
      if_neg (Nat.not_lt.mpr (Nat.le_add_right _ _)), if_pos (Nat.add_lt_add_left hL _)]
  · apply List.Perm.of_eq
    unfold sliceL
    rw [List.range'_eq_map_range, List.range'_eq_map_range, List.map_map, List.map_map]
    apply List.map_congr_left
    intro i hi
    simp only [Function.comp]
    rw [ge, if_pos ⟨Nat.le_add_right _ _, Nat.add_lt_add_left (List.mem_range.mp hi) _⟩, Nat.add_sub_cancel_left]

theorem placeSlice_inv (g g3 : Graph) (s : Nat) (d : Int) (hI : Inv g) (hs : s < g.numNodes)
    (h : placeSlice g s d = some g3) :
    Inv g3 ∧ g3.numNodes = g.numNodes ∧ g3.numEdges = g.numEdges ∧
    (gt g3.nodes s).first + (gt g3.nodes s).count < g3.edges.size ∧
    (gt g3.edges ((gt g3.nodes s).first + (gt g3.nodes s).count)).tgt = maxId ∧
    (adjM g3 s).Perm (adjM g s) ∧ (∀ v, v ≠ s → adjM g3 v = adjM g v) := by
  have hsn : s < g.nodes.size := by have := hI.size; omega
  have hb := hI.bound s hsn
  -- the left-spare branch and the relocation re-slice `s` in the sense of `Placed`; the rest is common to them
  obtain ⟨F', a', rfl, hp⟩ | ⟨rfl, hr1, hr2⟩ : (∃ F' a', g3 = { g with nodes := st g.nodes s ⟨F', (gt g.nodes s).count⟩, edges := a' } ∧
      ((∀ e, (gt g.nodes s).first ≤ e → e < (gt g.nodes s).first + (gt g.nodes s).count → (gt g.edges e).tgt ≠ maxId) →
        Placed g.edges a' (gt g.nodes s).first (gt g.nodes s).count F')) ∨
      (g3 = g ∧ (gt g.nodes s).first + (gt g.nodes s).count ≠ g.edges.size ∧
        (gt g.edges ((gt g.nodes s).first + (gt g.nodes s).count)).tgt = maxId) := by
    unfold placeSlice at h
    simp only at h
    split at h
    · cases h
    · split at h
      · left
        split at h
        · rename_i hl
          obtain ⟨P, hP⟩ := Nat.exists_eq_succ_of_ne_zero hl.1
          have hsp : (gt g.edges P).tgt = maxId := by
            have := hl.2; rw [hP] at this; simpa [isSpare] using this
          rw [hP, Nat.succ_sub_one, Nat.succ_add, Nat.succ_sub_one] at h
          rw [hP] at hb ⊢
          exact ⟨P, _, (Option.some.inj h).symm, placed_left g.edges P _ hb hsp⟩
        · exact ⟨_, _, (Option.some.inj h).symm, placed_reloc g.edges _ _ _ d hb (growLen_gt _)⟩
      · rename_i hr
        exact Or.inr ⟨(Option.some.inj h).symm, fun c => hr (Or.inl c), by simpa [isSpare] using fun c => hr (Or.inr c)⟩
  · obtain ⟨hr, hfree, hsp, hperm⟩ := hp fun e h1 h2 => hI.used s e ⟨h1, h2⟩
    obtain ⟨hI', hoth⟩ :=
      hI.reslice (g' := { g with nodes := st g.nodes s ⟨F', (gt g.nodes s).count⟩, edges := a' }) hs rfl rfl rfl rfl rfl
        fun _ => hr
    refine ⟨hI', rfl, rfl, ?_, ?_, ?_, hoth⟩
    · show (gt (st g.nodes s _) s).first + (gt (st g.nodes s _) s).count < a'.size
      rw [gt_st_eq _ _ _ hsn]; exact hfree
    · show (gt a' ((gt (st g.nodes s _) s).first + (gt (st g.nodes s _) s).count)).tgt = maxId
      rw [gt_st_eq _ _ _ hsn]; exact hsp
    · rw [adjM_slice g s hs, adjM_slice _ s (show s < Graph.numNodes { g with nodes := _, edges := a' } from hs)]
      show (sliceL a' (gt (st g.nodes s _) s).first (gt (st g.nodes s _) s).count).Perm _
      rw [gt_st_eq _ _ _ hsn]; exact hperm
  · exact ⟨hI, rfl, rfl, by omega, hr2, List.Perm.refl _, fun _ _ => rfl⟩

theorem placeSlice_isSome (g : Graph) (s : Nat) (d : Int) (hI : Inv g) (hs : s < g.numNodes) :
    (placeSlice g s d).isSome := by
  have hsz := hI.size
  have hb := hI.bound s (by omega)
  unfold placeSlice
  simp only
  rw [if_neg (by omega)]
  split
  · split <;> rfl
  · rfl

end Tbx.DG
