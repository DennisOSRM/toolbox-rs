import Tbx.Proofs.RTreeWeight
/-
C12, the best-first iterator, for every priority queue satisfying the contract, every priority function and
every tree with a cover function (`IsCover`) and a weight function (`IsWeight`).  The three push loops have
closed forms: an expansion replaces the popped entry `e` by the list `kids e`.  What `kids e` stands for
(`kids_cover`), weighs (`kids_weight`) and that its members are legitimate (`kids_ok`) are facts about lists
of entries; the queue enters only through `abs_pushAll`.  One walk over `next` (`next_spec`) and one over
`collectAux` (`collectAux_spec`) give completeness, order and termination.  Core Lean only.
-/
namespace Tbx.RTree

section
variable {α Q : Type} (P : PQOps Q) (B : Nat) (t : Tree α) (dist : α → Nat) (prio : Nat → Nat)
variable (cov : Nat → List α) (W : Nat → Nat)

/-- the elements the queue still stands for -/
def rem (q : Q) : List α := (P.abs q).flatMap (coverE B t cov)

/-- total weight of the queue -/
def phi (q : Q) : Nat := ((P.abs q).map (wE B t W)).sum

def pushAll (q : Q) (es : List Entry) : Q := es.foldl P.push q

def entryAt (i : Nat) : Entry :=
  ⟨prio i, (t.nodes[i]?.getD default).first, if (t.nodes[i]?.getD default).kind = 0 then .leaf else .tree⟩

def cands (j : Nat) (lf : List α) (off : Nat) : List Entry :=
  (lf.zipIdx off).map fun p => ⟨dist p.1, j, .cand p.2⟩

def kids (e : Entry) : List Entry :=
  match e.kind with
  | .tree => (List.range' e.idx (childrenCount B t.ends e.idx)).map (entryAt t prio)
  | .leaf => (List.range' e.idx (min (e.idx + B) t.leaves.length - e.idx)).flatMap fun i =>
      cands dist i (t.leaves[i]?.getD []) 0
  | .cand _ => []

/-- an entry the iterator may hold besides the root's: a search node other than the last with its priority, or
an element of a leaf with its distance -/
def Ok (e : Entry) : Prop :=
  (∃ i, i + 1 < t.nodes.length ∧ e = entryAt t prio i) ∨
  ∃ off x, e.kind = .cand off ∧ t.leaves[e.idx]?.bind (·[off]?) = some x ∧ e.key = dist x

/-- the queue of a running iteration: legitimate entries only, or (right after `new`) the root's alone -/
def Front (q : Q) : Prop :=
  (∀ e ∈ P.abs q, Ok t dist prio e) ∨ ∃ m, m + 1 = t.nodes.length ∧ (P.abs q).Perm [entryAt t prio m]

end

section
variable {α Q : Type} {P : PQOps Q} {B : Nat} {t : Tree α} {dist : α → Nat} {prio : Nat → Nat}
variable {cov : Nat → List α} {W : Nat → Nat}

theorem next_none {fuel : Nat} {q : Q} (h : P.pop q = none) : next P B t dist prio (fuel + 1) q = .done := by
  simp only [next, h]

theorem next_tree {fuel : Nat} {q q1 : Q} {e : Entry} (h : P.pop q = some (e, q1)) (hk : e.kind = .tree) :
    next P B t dist prio (fuel + 1) q =
      (pushNodes P t prio q1 e.idx (childrenCount B t.ends e.idx)).elim .panic (next P B t dist prio fuel) := by
  simp only [next, h, hk]
  cases pushNodes P t prio q1 e.idx (childrenCount B t.ends e.idx) <;> rfl

theorem next_leaf {fuel : Nat} {q q1 : Q} {e : Entry} (h : P.pop q = some (e, q1)) (hk : e.kind = .leaf) :
    next P B t dist prio (fuel + 1) q =
      (pushLeaves P t dist q1 e.idx (min (e.idx + B) t.leaves.length - e.idx)).elim .panic
        (next P B t dist prio fuel) := by
  simp only [next, h, hk]
  cases pushLeaves P t dist q1 e.idx (min (e.idx + B) t.leaves.length - e.idx) <;> rfl

theorem next_cand {fuel : Nat} {q q1 : Q} {e : Entry} {off : Nat} (h : P.pop q = some (e, q1))
    (hk : e.kind = .cand off) :
    next P B t dist prio (fuel + 1) q =
      (t.leaves[e.idx]?.bind (·[off]?)).elim .panic fun x => .item x e.key q1 := by
  simp only [next, h, hk]
  cases t.leaves[e.idx]?.bind (·[off]?) <;> rfl

theorem abs_pushAll (hP : P.Lawful) : ∀ (es : List Entry) (q : Q),
    (P.abs (pushAll P q es)).Perm (es ++ P.abs q)
  | [], _ => List.Perm.refl _
  | e :: es, q => (abs_pushAll hP es (P.push q e)).trans
      ((List.Perm.append_left es (hP.abs_push q e)).trans List.perm_middle)

theorem nodeEntry_eq {i : Nat} (h : i < t.nodes.length) :
    nodeEntry prio t.nodes i = some (entryAt t prio i) := by
  unfold nodeEntry entryAt; rw [List.getElem?_eq_getElem h]; rfl

theorem pushNodes_eq : ∀ (k : Nat) (q : Q) (c : Nat), c + k ≤ t.nodes.length →
    pushNodes P t prio q c k = some (pushAll P q ((List.range' c k).map (entryAt t prio)))
  | 0, _, _, _ => rfl
  | k + 1, _, c, h => by
    rw [pushNodes, nodeEntry_eq (by omega)]
    exact pushNodes_eq k _ (c + 1) (by omega)

theorem pushCands_eq (j : Nat) : ∀ (xs : List α) (off : Nat) (q : Q),
    pushCands P dist j q xs off = pushAll P q (cands dist j xs off)
  | [], _, _ => rfl
  | _ :: xs, off, _ => pushCands_eq j xs (off + 1) _

theorem pushAll_append (q : Q) (a b : List Entry) : pushAll P q (a ++ b) = pushAll P (pushAll P q a) b :=
  List.foldl_append

theorem pushLeaves_eq : ∀ (k : Nat) (q : Q) (j : Nat), (k ≠ 0 → j + k ≤ t.leaves.length) →
    pushLeaves P t dist q j k = some (pushAll P q ((List.range' j k).flatMap fun i =>
      cands dist i (t.leaves[i]?.getD []) 0))
  | 0, _, _, _ => rfl
  | k + 1, q, j, h => by
    have h := h (Nat.succ_ne_zero k)
    have hlf := List.getElem?_eq_getElem (show j < t.leaves.length by omega)
    simp only [pushLeaves, hlf]
    rw [pushCands_eq, pushLeaves_eq k _ (j + 1) (by omega), List.range'_succ, List.flatMap_cons, pushAll_append,
      hlf]
    rfl

theorem entryAt_eq {i : Nat} {nd : SNode} (h : t.nodes[i]? = some nd) :
    entryAt t prio i = ⟨prio i, nd.first, if nd.kind = 0 then .leaf else .tree⟩ := by
  unfold entryAt; rw [h]; rfl

theorem entryAt_kind (i off : Nat) : (entryAt t prio i).kind ≠ .cand off := by
  unfold entryAt; split <;> exact Kind.noConfusion

theorem entryAt_cover (hc : IsCover B t cov) {i : Nat} (h : i < t.nodes.length) :
    coverE B t cov (entryAt t prio i) = cov i := by
  rw [entryAt_eq (List.getElem?_eq_getElem h)]; exact (hc.eq i _ (List.getElem?_eq_getElem h)).symm

theorem entryAt_weight (hw : IsWeight B t W) {i : Nat} (h : i < t.nodes.length) :
    wE B t W (entryAt t prio i) = W i := by
  rw [entryAt_eq (List.getElem?_eq_getElem h)]; exact (hw i _ (List.getElem?_eq_getElem h)).symm

theorem entryAt_bound (hc : IsCover B t cov) {i : Nat} (h : i < t.nodes.length)
    (hk : (entryAt t prio i).kind = .tree) :
    (entryAt t prio i).idx + childrenCount B t.ends (entryAt t prio i).idx < t.nodes.length := by
  have hn := List.getElem?_eq_getElem h
  rw [entryAt_eq hn] at hk ⊢
  exact Nat.lt_of_le_of_lt (hc.bound i _ hn fun h0 => by rw [if_pos h0] at hk; cases hk) h

theorem lookup_getD (j off : Nat) : t.leaves[j]?.bind (·[off]?) = (t.leaves[j]?.getD [])[off]? := by
  cases t.leaves[j]? <;> rfl

theorem mem_cands {j : Nat} {e : Entry} (h : e ∈ cands dist j (t.leaves[j]?.getD []) 0) :
    ∃ off x, e = ⟨dist x, j, .cand off⟩ ∧ t.leaves[j]?.bind (·[off]?) = some x := by
  obtain ⟨p, hp, rfl⟩ := List.mem_map.mp h
  exact ⟨p.2, p.1, rfl, (lookup_getD j p.2).trans (List.mem_zipIdx_iff_getElem?.mp hp)⟩

theorem cands_cover (j : Nat) :
    (cands dist j (t.leaves[j]?.getD []) 0).flatMap (coverE B t cov) = t.leaves[j]?.getD [] := by
  unfold cands
  rw [List.flatMap_map, flatMap_congr' (g := fun p => [p.1]), ← List.map_eq_flatMap, List.zipIdx_map_fst]
  intro p hp
  show (t.leaves[j]?.bind (·[p.2]?)).toList = _
  rw [lookup_getD, List.mem_zipIdx_iff_getElem?.mp hp]; rfl

theorem cands_weight (j : Nat) (lf : List α) : ((cands dist j lf 0).map (wE B t W)).sum = lf.length := by
  unfold cands
  rw [List.map_map]
  show ((lf.zipIdx).map fun _ => 1).sum = _
  rw [List.map_const', List.sum_replicate_nat, List.length_zipIdx, Nat.mul_one]

theorem sum_map_flatMap {β γ : Type} (f : β → List γ) (g : γ → Nat) (l : List β) :
    ((l.flatMap f).map g).sum = (l.map fun a => ((f a).map g).sum).sum := by
  induction l with
  | nil => rfl
  | cons a l ih => rw [List.flatMap_cons, List.map_append, List.sum_append_nat, ih]; rfl

theorem kids_cover (hc : IsCover B t cov) : ∀ {e : Entry}, (∀ off, e.kind ≠ .cand off) →
    (e.kind = .tree → e.idx + childrenCount B t.ends e.idx ≤ t.nodes.length) →
    (kids B t dist prio e).flatMap (coverE B t cov) = coverE B t cov e
  | ⟨_, c, .tree⟩, _, hb => by
    show ((List.range' c _).map (entryAt t prio)).flatMap (coverE B t cov) = (List.range _).flatMap fun i => cov (c + i)
    rw [List.flatMap_map, List.range'_eq_map_range, List.flatMap_map]
    exact flatMap_congr' fun m hm => entryAt_cover hc (Nat.lt_of_lt_of_le
      (Nat.add_lt_add_left (List.mem_range.mp hm) c) (hb rfl))
  | ⟨_, j, .leaf⟩, _, _ => by
    show ((List.range' j _).flatMap fun i => cands dist i (t.leaves[i]?.getD []) 0).flatMap (coverE B t cov) =
      (List.range _).flatMap fun i => t.leaves[j + i]?.getD []
    rw [List.flatMap_assoc, List.range'_eq_map_range, List.flatMap_map]
    exact flatMap_congr' fun i _ => cands_cover _
  | ⟨_, _, .cand off⟩, hk, _ => absurd rfl (hk off)

theorem kids_weight (hw : IsWeight B t W) : ∀ {e : Entry}, (∀ off, e.kind ≠ .cand off) →
    (e.kind = .tree → e.idx + childrenCount B t.ends e.idx ≤ t.nodes.length) →
    1 + ((kids B t dist prio e).map (wE B t W)).sum = wE B t W e
  | ⟨_, c, .tree⟩, _, hb => by
    show 1 + (((List.range' c _).map (entryAt t prio)).map (wE B t W)).sum = 1 + ((List.range _).map fun m => W (c + m)).sum
    rw [List.map_map, List.range'_eq_map_range, List.map_map]
    exact congrArg (1 + List.sum ·) (List.map_congr_left fun m hm => entryAt_weight hw (Nat.lt_of_lt_of_le
      (Nat.add_lt_add_left (List.mem_range.mp hm) c) (hb rfl)))
  | ⟨_, j, .leaf⟩, _, _ => by
    show 1 + (((List.range' j _).flatMap fun i => cands dist i (t.leaves[i]?.getD []) 0).map (wE B t W)).sum =
      1 + ((List.range _).flatMap fun i => t.leaves[j + i]?.getD []).length
    rw [sum_map_flatMap, List.length_flatMap, List.range'_eq_map_range, List.map_map]
    exact congrArg (1 + List.sum ·) (List.map_congr_left fun i _ => cands_weight _ _)
  | ⟨_, _, .cand off⟩, hk, _ => absurd rfl (hk off)

theorem kids_ok : ∀ {e : Entry}, (e.kind = .tree → e.idx + childrenCount B t.ends e.idx < t.nodes.length) →
    ∀ e' ∈ kids B t dist prio e, Ok t dist prio e'
  | ⟨_, c, .tree⟩, hb, e', h => by
    obtain ⟨i, hi, rfl⟩ := List.mem_map.mp h
    exact Or.inl ⟨i, Nat.lt_of_le_of_lt (List.mem_range'_1.mp hi).2 (hb rfl), rfl⟩
  | ⟨_, _, .leaf⟩, _, e', h => by
    obtain ⟨i, _, hi⟩ := List.mem_flatMap.mp h
    obtain ⟨off, x, rfl, hx⟩ := mem_cands hi
    exact Or.inr ⟨off, x, rfl, hx, rfl⟩
  | ⟨_, _, .cand _⟩, _, _, h => nomatch h

theorem Ok.adm (hc : IsCover B t cov) (ha : Admissible t dist prio cov) {e : Entry} (h : Ok t dist prio e) :
    ∀ y ∈ coverE B t cov e, e.key ≤ dist y := by
  intro y hy
  rcases h with ⟨i, hi, rfl⟩ | ⟨off, x, hk, hx, hkey⟩
  · rw [entryAt_cover hc (Nat.lt_of_succ_lt hi)] at hy
    exact ha i hi y hy
  · unfold coverE at hy
    rw [hk] at hy
    simp only [hx, Option.toList_some, List.mem_singleton] at hy
    rw [hy, hkey]
    exact Nat.le_refl _

theorem next_node {fuel : Nat} {q q1 : Q} {e : Entry} (h : P.pop q = some (e, q1)) (hk : ∀ off, e.kind ≠ .cand off)
    (hb : e.kind = .tree → e.idx + childrenCount B t.ends e.idx ≤ t.nodes.length) :
    next P B t dist prio (fuel + 1) q = next P B t dist prio fuel (pushAll P q1 (kids B t dist prio e)) := by
  cases hk' : e.kind with
  | tree => rw [next_tree h hk', pushNodes_eq _ _ _ (hb hk')]; simp only [kids, hk']; rfl
  | leaf => rw [next_leaf h hk', pushLeaves_eq _ _ _ (by omega)]; simp only [kids, hk']; rfl
  | cand off => exact absurd hk' (hk off)

theorem Front.mem {q : Q} (hf : Front P t dist prio q) {e : Entry} (he : e ∈ P.abs q) :
    (∃ i, i < t.nodes.length ∧ e = entryAt t prio i) ∨
    ∃ off x, e.kind = .cand off ∧ t.leaves[e.idx]?.bind (·[off]?) = some x ∧ e.key = dist x := by
  rcases hf with h | ⟨m, hm, hp⟩
  · rcases h e he with ⟨i, hi, h⟩ | h
    · exact Or.inl ⟨i, Nat.lt_of_succ_lt hi, h⟩
    · exact Or.inr h
  · exact Or.inl ⟨m, hm ▸ Nat.lt_succ_self m, List.mem_singleton.mp (hp.mem_iff.mp he)⟩

theorem Front.rest {q q1 : Q} (hf : Front P t dist prio q) {e : Entry} (hp : (P.abs q).Perm (e :: P.abs q1)) :
    ∀ e' ∈ P.abs q1, Ok t dist prio e' := by
  rcases hf with h | ⟨m, _, hp0⟩
  · exact fun e' he' => h e' (hp.mem_iff.mpr (List.mem_cons_of_mem _ he'))
  · rw [List.eq_nil_of_length_eq_zero (Nat.succ_inj.mp (hp.symm.trans hp0).length_eq)]
    exact fun _ => nofun

theorem Front.ok_of_cand {q : Q} (hf : Front P t dist prio q) {e : Entry} {off : Nat} (he : e ∈ P.abs q)
    (hk : e.kind = .cand off) : ∀ e' ∈ P.abs q, Ok t dist prio e' := by
  rcases hf with h | ⟨m, _, hp0⟩
  · exact h
  · exact absurd (List.mem_singleton.mp (hp0.mem_iff.mp he) ▸ hk) (entryAt_kind m off)

/-- the two clauses about the weight are conditional on `IsWeight`, so that completeness and order need a cover
function only -/
def NextOK (P : PQOps Q) (B : Nat) (t : Tree α) (dist : α → Nat) (prio : Nat → Nat) (cov : Nat → List α)
    (W : Nat → Nat) (q : Q) (fuel : Nat) : Step α Q → Prop
  | .item x d q' => (∀ e ∈ P.abs q', Ok t dist prio e) ∧
      (rem P B t cov q).Perm (x :: rem P B t cov q') ∧ d = dist x ∧
      (Admissible t dist prio cov → ∀ y ∈ rem P B t cov q, d ≤ dist y) ∧
      (IsWeight B t W → phi P B t W q' < phi P B t W q)
  | .done => rem P B t cov q = []
  | .panic => False
  | .outOfFuel => IsWeight B t W → fuel ≤ phi P B t W q

theorem NextOK.transfer {q q2 : Q} {fuel : Nat} {r : Step α Q} (h : NextOK P B t dist prio cov W q2 fuel r)
    (hp : (rem P B t cov q).Perm (rem P B t cov q2)) (hw : IsWeight B t W → phi P B t W q2 < phi P B t W q) :
    NextOK P B t dist prio cov W q (fuel + 1) r := by
  cases r with
  | item x d q' =>
    obtain ⟨h1, h2, h3, h4, h5⟩ := h
    exact ⟨h1, hp.trans h2, h3, fun ha y hy => h4 ha y (hp.mem_iff.mp hy), fun w => Nat.lt_trans (h5 w) (hw w)⟩
  | done => exact (show rem P B t cov q2 = [] from h) ▸ hp |>.eq_nil
  | panic => exact h
  | outOfFuel => exact fun w => Nat.succ_le_of_lt (Nat.lt_of_le_of_lt (h w) (hw w))

theorem next_spec (hP : P.Lawful) (hc : IsCover B t cov) : ∀ (fuel : Nat) (q : Q), Front P t dist prio q →
    NextOK P B t dist prio cov W q fuel (next P B t dist prio fuel q)
  | 0, _, _ => fun _ => Nat.zero_le _
  | fuel + 1, q, hf => by
    cases hpop : P.pop q with
    | none =>
      rw [next_none hpop]
      show (P.abs q).flatMap _ = []
      rw [hP.pop_none q hpop]; rfl
    | some pr =>
      obtain ⟨e, q1⟩ := pr
      obtain ⟨hperm, hmin⟩ := hP.pop_some q e q1 hpop
      have hrem : (rem P B t cov q).Perm (coverE B t cov e ++ rem P B t cov q1) := hperm.flatMap_right _
      have hphi : phi P B t W q = wE B t W e + phi P B t W q1 := (hperm.map _).sum_nat
      have h1 := hf.rest hperm
      have he : e ∈ P.abs q := hperm.mem_iff.mpr (List.mem_cons_self ..)
      rcases hf.mem he with ⟨i, hi, rfl⟩ | ⟨off, x, hk, hx, hkey⟩
      · -- a search node is replaced by its children
        have hb := entryAt_bound (prio := prio) hc hi
        have hb' := fun hk => Nat.le_of_lt (hb hk)
        have hp2 := abs_pushAll hP (kids B t dist prio (entryAt t prio i)) q1
        rw [next_node hpop (entryAt_kind i) hb']
        refine (next_spec hP hc fuel _ (Or.inl fun e' he' => ?_)).transfer (hrem.trans ?_) fun hw => ?_
        · rcases List.mem_append.mp (hp2.mem_iff.mp he') with h | h
          · exact kids_ok hb e' h
          · exact h1 e' h
        · have := hp2.flatMap_right (coverE B t cov)
          rw [List.flatMap_append, kids_cover hc (entryAt_kind i) hb'] at this
          exact this.symm
        · have h2 : phi P B t W (pushAll P q1 (kids B t dist prio (entryAt t prio i))) =
              ((kids B t dist prio (entryAt t prio i)).map (wE B t W)).sum + phi P B t W q1 := by
            unfold phi; rw [(hp2.map _).sum_nat, List.map_append, List.sum_append_nat]
          have := kids_weight (dist := dist) (prio := prio) hw (entryAt_kind i) hb'
          show _ < phi P B t W q
          omega
      · -- a candidate is yielded
        rw [next_cand hpop hk, hx]
        have hce : coverE B t cov e = [x] := by simp only [coverE, hk, hx, Option.toList_some]
        rw [hce] at hrem
        refine ⟨h1, hrem, hkey, fun ha y hy => ?_, fun _ => ?_⟩
        · -- y is stood for by a queued entry, whose key is at least e's and at most dist y
          obtain ⟨e', he', hye'⟩ := List.mem_flatMap.mp hy
          exact Nat.le_trans (hmin e' he') ((hf.ok_of_cand he hk e' he').adm hc ha y hye')
        · rw [hphi]; unfold wE; rw [hk]; exact Nat.lt_add_of_pos_left Nat.one_pos

theorem collectAux_spec (hP : P.Lawful) (hc : IsCover B t cov) (fn : Nat) :
    ∀ (fuel : Nat) (q : Q) (acc : List (α × Nat)), Front P t dist prio q →
      collectAux P B t dist prio fn fuel q acc ≠ .panic ∧
      (∀ out, collectAux P B t dist prio fn fuel q acc = .ok out →
        ∃ out', out = acc.reverse ++ out' ∧ (out'.map Prod.fst).Perm (rem P B t cov q) ∧
          (∀ p ∈ out', p.2 = dist p.1) ∧
          (Admissible t dist prio cov → (out'.map Prod.snd).Pairwise (· ≤ ·))) ∧
      (IsWeight B t W → phi P B t W q < fuel → phi P B t W q < fn →
        collectAux P B t dist prio fn fuel q acc ≠ .outOfFuel)
  | 0, _, _, _ => ⟨nofun, fun _ => nofun, fun _ h => absurd h (Nat.not_lt_zero _)⟩
  | fuel + 1, q, acc, hf => by
    have hn := next_spec (W := W) hP hc fn q hf
    simp only [collectAux]
    cases hr : next P B t dist prio fn q with
    | item x d q' =>
      rw [hr] at hn
      obtain ⟨hok, hperm, hd, hadm, hlt⟩ := hn
      obtain ⟨ihp, ihs, ihf⟩ := collectAux_spec hP hc fn fuel q' ((x, d) :: acc) (Or.inl hok)
      refine ⟨ihp, fun out h => ?_, fun hw h1 h2 =>
        ihf hw (Nat.lt_of_lt_of_le (hlt hw) (Nat.le_of_lt_succ h1)) (Nat.lt_trans (hlt hw) h2)⟩
      obtain ⟨out'', ho, hp, hdist, hsorted⟩ := ihs out h
      refine ⟨(x, d) :: out'', ?_, (List.Perm.cons x hp).trans hperm.symm, ?_, fun ha => ?_⟩
      · rw [ho, List.reverse_cons, List.append_assoc]; rfl
      · intro p hp'
        rcases List.mem_cons.mp hp' with rfl | hp'
        · exact hd
        · exact hdist p hp'
      · refine List.Pairwise.cons ?_ (hsorted ha)
        intro d' hd'
        obtain ⟨p, hpm, rfl⟩ := List.mem_map.mp hd'
        rw [hdist p hpm]
        exact hadm ha p.1 (hperm.mem_iff.mpr (List.mem_cons_of_mem _ (hp.mem_iff.mp (List.mem_map_of_mem hpm))))
    | done =>
      rw [hr] at hn
      refine ⟨nofun, fun out h => ?_, fun _ _ _ => nofun⟩
      rw [show rem P B t cov q = [] from hn]
      exact ⟨[], by rw [← Res.ok.inj h, List.append_nil], List.Perm.refl _, fun _ => nofun, fun _ => List.Pairwise.nil⟩
    | panic => rw [hr] at hn; exact absurd hn id
    | outOfFuel =>
      rw [hr] at hn
      exact ⟨nofun, fun _ => nofun, fun hw _ h2 => absurd (hn hw) (Nat.not_le_of_lt h2)⟩

theorem initQ_spec (hP : P.Lawful) (hc : IsCover B t cov) :
    Front P t dist prio (initQ P t prio) ∧ (rem P B t cov (initQ P t prio)).Perm (rootCover t cov) ∧
    (IsWeight B t W → phi P B t W (initQ P t prio) = rootWeight t W) := by
  unfold initQ rootCover rootWeight
  cases hlen : t.nodes.length with
  | zero =>
    refine ⟨Or.inl fun e he => ?_, ?_, fun _ => ?_⟩
    · rw [hP.abs_empty] at he; cases he
    · unfold rem; rw [hP.abs_empty]; exact List.Perm.refl _
    · unfold phi; rw [hP.abs_empty]; rfl
  | succ m =>
    have hm : m < t.nodes.length := hlen ▸ Nat.lt_succ_self m
    have hab : (P.abs (P.push P.empty (entryAt t prio m))).Perm [entryAt t prio m] := by
      have := hP.abs_push P.empty (entryAt t prio m)
      rwa [hP.abs_empty] at this
    simp only [nodeEntry_eq hm]
    refine ⟨Or.inr ⟨m, hlen.symm, hab⟩, ?_, fun hw => ?_⟩
    · have := hab.flatMap_right (coverE B t cov)
      rwa [List.flatMap_singleton, entryAt_cover hc hm] at this
    · have := (hab.map (wE B t W)).sum_nat
      rwa [List.map_singleton, List.sum_singleton, entryAt_weight hw hm] at this

theorem collect_spec (hP : P.Lawful) (hc : IsCover B t cov) (fn fuel : Nat) :
    collect P B t dist prio fn fuel ≠ .panic ∧
    (∀ out, collect P B t dist prio fn fuel = .ok out →
      (out.map Prod.fst).Perm (rootCover t cov) ∧ (∀ p ∈ out, p.2 = dist p.1) ∧
      (Admissible t dist prio cov → (out.map Prod.snd).Pairwise (· ≤ ·))) ∧
    (IsWeight B t W → rootWeight t W < min fn fuel →
      collect P B t dist prio fn fuel ≠ .outOfFuel) := by
  obtain ⟨hf, hroot, hphi⟩ := initQ_spec (dist := dist) (W := W) hP hc
  obtain ⟨h1, h2, h3⟩ := collectAux_spec (W := W) hP hc fn fuel _ [] hf
  refine ⟨h1, fun out h => ?_, fun hw hlt => ?_⟩
  · obtain ⟨out', rfl, hp, hd, hs⟩ := h2 out h
    exact ⟨hp.trans hroot, hd, hs⟩
  · rw [← hphi hw] at hlt
    exact h3 hw (Nat.lt_of_lt_of_le hlt (Nat.min_le_right _ _)) (Nat.lt_of_lt_of_le hlt (Nat.min_le_left _ _))

end
end Tbx.RTree
