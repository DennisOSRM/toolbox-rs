import Tbx.Model.PartitionID
import Tbx.Spec.IdTree
/-
Binary-tree laws of the partition-id arithmetic (model: Tbx.PartitionID, spec: Tbx.Spec.IdTree).
-/
namespace Tbx.Proofs.PartitionID
open Tbx Tbx.PartitionID Tbx.Spec.IdTree

def kfold (f : Nat → Nat) : Nat → Nat → Nat
  | 0, x => x
  | k + 1, x => kfold f k (f x)

theorem leftChild_eq (x : Nat) : leftChild x = 2 * x % U32 := by
  simp only [leftChild, Nat.shiftLeft_eq, Nat.pow_one, Nat.mul_comm x 2]

theorem rightChild_eq (x : Nat) : rightChild x = 2 * x % U32 + 1 := by
  simp only [rightChild, Nat.shiftLeft_eq, Nat.pow_one, Nat.mul_comm x 2]

theorem parent_eq (x : Nat) : parent x = max 1 (x / 2) := by
  simp only [parent, Nat.shiftRight_eq_div_pow, Nat.pow_one]

/-- below `2^31` the shift does not wrap -/
theorem leftChild_of_lt (x : Nat) (h31 : x < 2 ^ 31) : leftChild x = 2 * x := by
  rw [leftChild_eq]; exact Nat.mod_eq_of_lt (by simp only [U32]; omega)

theorem rightChild_of_lt (x : Nat) (h31 : x < 2 ^ 31) : rightChild x = 2 * x + 1 := by
  rw [rightChild_eq, ← leftChild_eq, leftChild_of_lt x h31]

theorem parent_leftChild (x : Nat) (h1 : 1 ≤ x) (h31 : x < 2 ^ 31) : parent (leftChild x) = x := by
  rw [leftChild_of_lt x h31, parent_eq]; omega

theorem parent_rightChild (x : Nat) (h1 : 1 ≤ x) (h31 : x < 2 ^ 31) : parent (rightChild x) = x := by
  rw [rightChild_of_lt x h31, parent_eq]; omega

theorem isLeftChild_leftChild (x : Nat) : isLeftChild (leftChild x) = true := by
  rw [leftChild_eq]; simp only [isLeftChild, U32, beq_iff_eq]; omega

theorem isRightChild_rightChild (x : Nat) : isRightChild (rightChild x) = true := by
  rw [rightChild_eq]; simp only [isRightChild, U32, beq_iff_eq]; omega

theorem isLeft_xor_isRight (x : Nat) : isLeftChild x = !isRightChild x := by
  simp only [isLeftChild, isRightChild]
  rcases Nat.mod_two_eq_zero_or_one x with h | h <;> simp [h]

theorem level_eq (x : Nat) (h1 : 1 ≤ x) (h32 : x < 2 ^ 32) : level x = some (Nat.log2 x) := by
  have hne : x ≠ 0 := by omega
  have hl : Nat.log2 x < 32 := (Nat.log2_lt hne).mpr h32
  simp only [level, leadingZeros, if_neg hne]
  have : 31 - x.log2 ≤ 31 := by omega
  rw [if_pos this]
  congr 1; omega

theorem level_zero : level 0 = none := by decide

theorem level_leftChild (x : Nat) (h1 : 1 ≤ x) (h31 : x < 2 ^ 31) :
    level (leftChild x) = some (Nat.log2 x + 1) := by
  rw [leftChild_of_lt x h31, level_eq (2 * x) (by omega) (by omega), Nat.log2_two_mul (by omega)]

theorem log2_two_mul_add_one (x : Nat) (h1 : 1 ≤ x) : Nat.log2 (2 * x + 1) = Nat.log2 x + 1 := by
  rw [Nat.log2_def]
  have : 2 * x + 1 ≥ 2 := by omega
  simp only [this, if_true]
  congr 2
  omega

theorem level_rightChild (x : Nat) (h1 : 1 ≤ x) (h31 : x < 2 ^ 31) :
    level (rightChild x) = some (Nat.log2 x + 1) := by
  rw [rightChild_of_lt x h31, level_eq (2 * x + 1) (by omega) (by omega), log2_two_mul_add_one x h1]

theorem two_pow_lt_U32 {k : Nat} (h : k < 32) : 2 ^ k < U32 :=
  show 2 ^ k < 2 ^ 32 from Nat.pow_lt_pow_right (by decide) h

theorem leftK_eq (k x : Nat) : leftK k x = x * 2 ^ k := by
  induction k generalizing x with
  | zero => simp [leftK]
  | succ k ih => simp only [leftK]; rw [ih, Nat.pow_succ, Nat.mul_comm (2 ^ k) 2, ← Nat.mul_assoc, Nat.mul_comm x 2]

theorem rightK_eq (k x : Nat) : rightK k x = x * 2 ^ k + (2 ^ k - 1) := by
  induction k generalizing x with
  | zero => simp [rightK]
  | succ k ih =>
    simp only [rightK]; rw [ih, Nat.pow_succ]
    have hp : 0 < 2 ^ k := Nat.two_pow_pos k
    rw [Nat.add_mul, Nat.one_mul, Nat.mul_comm (2 ^ k) 2, ← Nat.mul_assoc, Nat.mul_comm x 2]
    omega

/-- the wrapping k-fold children are those of the tree on the naturals, reduced to 32 bits: a step of either keeps
    the two ids congruent -/
theorem kfold_leftChild (k : Nat) : ∀ x y, x = y % U32 → kfold leftChild k x = leftK k y % U32 := by
  induction k with
  | zero => exact fun _ _ h => h
  | succ k ih => exact fun x y h => ih _ _ (by rw [leftChild_eq, h, Nat.mul_mod_mod])

theorem kfold_rightChild (k : Nat) : ∀ x y, x = y % U32 → kfold rightChild k x = rightK k y % U32 := by
  induction k with
  | zero => exact fun _ _ h => h
  | succ k ih => exact fun x y h => ih _ _ (by rw [rightChild_eq]; simp only [U32] at h ⊢; omega)

theorem makeLeftmostDescendant_eq (x k : Nat) (hx : x < U32) (hk : k < 32) :
    makeLeftmostDescendant x k = some (kfold leftChild k x) := by
  simp only [makeLeftmostDescendant, if_pos hk, kfold_leftChild k x x (Nat.mod_eq_of_lt hx).symm, leftK_eq,
    Nat.shiftLeft_eq]

/-- a multiple of `2^k` below `2^32` leaves room for `2^k - 1` -/
theorem mul_pow_mod_le (x k : Nat) (hk : k ≤ 32) : x * 2 ^ k % U32 + 2 ^ k ≤ U32 := by
  have hU : U32 = 2 ^ k * 2 ^ (32 - k) := by
    rw [← Nat.pow_add]
    have : k + (32 - k) = 32 := by omega
    rw [this]; rfl
  rw [Nat.mul_comm x, hU, Nat.mul_mod_mul_left]
  have hq : x % 2 ^ (32 - k) < 2 ^ (32 - k) := Nat.mod_lt _ (Nat.two_pow_pos _)
  have : 2 ^ k * (x % 2 ^ (32 - k)) + 2 ^ k * 1 ≤ 2 ^ k * 2 ^ (32 - k) := by
    rw [← Nat.mul_add]; exact Nat.mul_le_mul_left _ hq
  omega

theorem makeRightmostDescendant_eq (x k : Nat) (hx : x < U32) (hk : k < 32) :
    makeRightmostDescendant x k = some (kfold rightChild k x) := by
  have hroom := mul_pow_mod_le x k (by omega)
  have hp : 0 < 2 ^ k := Nat.two_pow_pos k
  have hlt : 2 ^ k < U32 := two_pow_lt_U32 hk
  simp only [makeRightmostDescendant, makeLeftmostDescendant, if_pos hk, Nat.shiftLeft_eq, Nat.one_mul,
    Nat.mod_eq_of_lt hlt]
  rw [if_pos (by omega), kfold_rightChild k x x (Nat.mod_eq_of_lt hx).symm, rightK_eq, Nat.add_mod,
    Nat.mod_eq_of_lt (show 2 ^ k - 1 < U32 by omega),
    Nat.mod_eq_of_lt (show x * 2 ^ k % U32 + (2 ^ k - 1) < U32 by omega)]

theorem log2_eq_zero {n : Nat} : Nat.log2 n = 0 ↔ n < 2 := by
  rw [Nat.log2_def]; split <;> omega

theorem log2_half {n : Nat} (h : 2 ≤ n) : Nat.log2 n = Nat.log2 (n / 2) + 1 := by
  rw [Nat.log2_def n, if_pos h]

/-- an ancestor `x / 2^p ≥ 1` lies `p` levels above `x` -/
theorem log2_div_pow (x p : Nat) (h : 1 ≤ x / 2 ^ p) : Nat.log2 (x / 2 ^ p) + p = Nat.log2 x := by
  induction p generalizing x with
  | zero => rw [Nat.pow_zero, Nat.div_one]; rfl
  | succ p ih =>
    rw [Nat.pow_succ', ← Nat.div_div_eq_div_mul] at h ⊢
    have h2 : 2 ≤ x := by
      apply Decidable.byContradiction
      intro hn
      rw [Nat.div_eq_of_lt (Nat.lt_of_not_le hn), Nat.zero_div] at h
      exact absurd h (by decide)
    rw [← Nat.add_assoc, ih _ h, log2_half h2]

theorem div_div_pow (x a b : Nat) : x / 2 ^ a / 2 ^ b = x / 2 ^ (a + b) := by
  rw [Nat.div_div_eq_div_mul, ← Nat.pow_add]

/-- the `while left != right` loop of `lowest_common_ancestor`, entered with two ids of equal level -/
theorem lcaLoop_spec (fuel l r : Nat) (hl : 1 ≤ l) (hr : 1 ≤ r) (hlr : Nat.log2 l = Nat.log2 r)
    (hL : Nat.log2 l ≤ fuel) :
    ∃ i, lcaLoop fuel l r = some (l / 2 ^ i) ∧ l / 2 ^ i = r / 2 ^ i ∧ 1 ≤ l / 2 ^ i ∧
      ∀ j, l / 2 ^ j = r / 2 ^ j → i ≤ j := by
  induction fuel generalizing l r with
  | zero =>
    have h0 := Nat.le_zero.mp hL
    obtain rfl : l = 1 := Nat.le_antisymm (Nat.le_of_lt_succ (log2_eq_zero.mp h0)) hl
    obtain rfl : r = 1 := Nat.le_antisymm (Nat.le_of_lt_succ (log2_eq_zero.mp (hlr ▸ h0))) hr
    exact ⟨0, rfl, rfl, Nat.le_refl _, fun j _ => Nat.zero_le j⟩
  | succ fuel ih =>
    by_cases heq : l = r
    · subst heq
      refine ⟨0, ?_, rfl, ?_, fun j _ => Nat.zero_le j⟩
      · rw [lcaLoop, if_neg (fun h => h rfl), Nat.pow_zero, Nat.div_one]
      · rw [Nat.pow_zero, Nat.div_one]; exact hl
    · -- two different ids of one level are not the root
      have h22 : 2 ≤ l ∧ 2 ≤ r := by
        have := @log2_eq_zero l
        have := @log2_eq_zero r
        omega
      have e1 := log2_half h22.1
      have e2 := log2_half h22.2
      have pl := Nat.div_pos h22.1 Nat.two_pos
      have pr := Nat.div_pos h22.2 Nat.two_pos
      obtain ⟨i, hi1, hi2, hi3, hi4⟩ := ih (l / 2) (r / 2) pl pr (Nat.add_right_cancel (e1.symm.trans (hlr.trans e2)))
        (Nat.le_of_succ_le_succ (Nat.le_trans (Nat.le_of_eq e1.symm) hL))
      simp only [Nat.div_div_eq_div_mul, ← Nat.pow_succ'] at hi1 hi2 hi3 hi4
      refine ⟨i + 1, ?_, hi2, hi3, ?_⟩
      · rw [lcaLoop, if_pos heq, parent_eq, parent_eq, Nat.max_eq_right pl, Nat.max_eq_right pr]; exact hi1
      · intro j hj
        cases j with
        | zero => rw [Nat.pow_zero, Nat.div_one, Nat.div_one] at hj; exact absurd hj heq
        | succ j => exact Nat.succ_le_succ (hi4 j hj)

theorem isLCA_of_first {d e i x y : Nat} (hlv : Nat.log2 x + e = Nat.log2 y + d) (hde : d = 0 ∨ e = 0)
    (h2 : x / 2 ^ (d + i) = y / 2 ^ (e + i)) (h3 : 1 ≤ x / 2 ^ (d + i))
    (h4 : ∀ j, x / 2 ^ (d + j) = y / 2 ^ (e + j) → i ≤ j) : IsLCA (x / 2 ^ (d + i)) x y := by
  refine ⟨⟨h3, d + i, rfl⟩, ⟨h3, e + i, h2.symm⟩, ?_⟩
  rintro c ⟨hc1, p, hp⟩ ⟨_, q, hq⟩
  -- `c` has one level, which is `p` above `x` and `q` above `y`, so `p = d + s`, `q = e + s`
  have lp := log2_div_pow x p (hp ▸ hc1)
  have lq := log2_div_pow y q (hq ▸ hc1)
  rw [hp] at lp
  rw [hq] at lq
  obtain ⟨s, rfl, rfl⟩ : ∃ s, p = d + s ∧ q = e + s :=
    hde.elim (fun h => ⟨p, by omega, by omega⟩) (fun h => ⟨q, by omega, by omega⟩)
  obtain ⟨t, rfl⟩ := Nat.exists_eq_add_of_le (h4 s (hp.trans hq.symm))
  exact ⟨hc1, t, by rw [div_div_pow, ← hp, Nat.add_assoc]⟩

theorem shift_to_level (x a b : Nat) : (if a > b then x / 2 ^ (a - b) else x) = x / 2 ^ (a - b) := by
  split
  · rfl
  · rw [Nat.sub_eq_zero_of_le (by omega), Nat.pow_zero, Nat.div_one]

theorem lca_isLCA (x y : Nat) (hx1 : 1 ≤ x) (hx : x < 2 ^ 32) (hy1 : 1 ≤ y) (hy : y < 2 ^ 32) :
    ∃ a, lowestCommonAncestor x y = some a ∧ IsLCA a x y := by
  have hxne : x ≠ 0 := Nat.ne_of_gt hx1
  have hyne : y ≠ 0 := Nat.ne_of_gt hy1
  have hlx : Nat.log2 x < 32 := (Nat.log2_lt hxne).mpr hx
  simp only [lowestCommonAncestor, level_eq x hx1 hx, level_eq y hy1 hy, Nat.shiftRight_eq_div_pow,
    shift_to_level]
  -- the two ids equalised to their common level
  have px := Nat.div_pos ((Nat.le_log2 hxne).mp (Nat.sub_le _ (Nat.log2 y))) (Nat.two_pow_pos _)
  have py := Nat.div_pos ((Nat.le_log2 hyne).mp (Nat.sub_le _ (Nat.log2 x))) (Nat.two_pow_pos _)
  have lx := log2_div_pow x _ px
  have ly := log2_div_pow y _ py
  obtain ⟨i, h1, h2, h3, h4⟩ := lcaLoop_spec 32 _ _ px py (by omega)
    (Nat.le_of_lt (Nat.lt_of_le_of_lt (Nat.le.intro lx) hlx))
  simp only [div_div_pow] at h1 h2 h3 h4
  exact ⟨_, h1, isLCA_of_first (by omega) ((Nat.le_total _ _).imp Nat.sub_eq_zero_of_le Nat.sub_eq_zero_of_le)
    h2 h3 h4⟩

theorem mask_and (x l : Nat) (hl : l < 32) (hx : x < 2 ^ 32) :
    x &&& (0xffffffff ^^^ ((1 <<< l) % U32 - 1)) = x / 2 ^ l * 2 ^ l := by
  have hlt : 2 ^ l < U32 := two_pow_lt_U32 hl
  rw [Nat.shiftLeft_eq, Nat.one_mul, Nat.mod_eq_of_lt hlt]
  apply Nat.eq_of_testBit_eq
  intro i
  have h32 : (0xffffffff : Nat) = 2 ^ 32 - 1 := by decide
  rw [Nat.testBit_and, Nat.testBit_xor, h32, Nat.testBit_two_pow_sub_one, Nat.testBit_two_pow_sub_one,
    Nat.testBit_mul_two_pow, Nat.testBit_div_two_pow]
  by_cases hil : l ≤ i
  · have e : i - l + l = i := by omega
    by_cases hi32 : i < 32
    · have : ¬ i < l := by omega
      simp [hil, hi32, this, e]
    · have hx0 : x.testBit i = false := by
        apply Nat.testBit_lt_two_pow
        have : (2:Nat) ^ 32 ≤ 2 ^ i := Nat.pow_le_pow_right (by decide) (by omega)
        omega
      simp [hil, e, hx0]
  · have : i < l := by omega
    have : i < 32 := by omega
    simp [*]

theorem parentAtLevel_eq (x l : Nat) (hl : l < 32) (hx : x < 2 ^ 32) (hpos : 1 ≤ x / 2 ^ l) :
    parentAtLevel x l = some (x / 2 ^ l * 2 ^ l) := by
  simp only [parentAtLevel, if_pos hl, mask_and x l hl hx, new]
  have : 0 < 2 ^ l := Nat.two_pow_pos l
  have : x / 2 ^ l * 2 ^ l ≠ 0 := Nat.mul_ne_zero (by omega) (by omega)
  simp [this]

theorem extractBit_eq (x i : Nat) (hi : i < 32) : extractBit x i = some (x.testBit i) := by
  have hlt : 2 ^ i < U32 := two_pow_lt_U32 hi
  simp only [extractBit, if_pos hi, Nat.shiftLeft_eq, Nat.one_mul, Nat.mod_eq_of_lt hlt]
  congr 1
  by_cases hb : x.testBit i = true
  · rw [hb]
    have h1 : (2 ^ i &&& x).testBit i = true := by
      rw [Nat.testBit_and, Nat.testBit_two_pow_self, hb]; rfl
    have : 2 ^ i &&& x ≠ 0 := by
      intro h0; rw [h0] at h1; simp at h1
    simp; omega
  · have hb' : x.testBit i = false := by simpa using hb
    rw [hb']
    have : 2 ^ i &&& x = 0 := by
      apply Nat.eq_of_testBit_eq
      intro j
      rw [Nat.testBit_and, Nat.testBit_two_pow, Nat.zero_testBit]
      by_cases hij : i = j
      · subst hij; simp [hb']
      · simp [hij]
    simp [this]

end Tbx.Proofs.PartitionID
