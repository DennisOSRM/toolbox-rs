import Tbx.Model.Csr
import Tbx.Proofs.SumTo
/-
What the C16 proofs share below the algorithms: a run that ignores the state it is handed gives, over any history
of runs, the fresh results (`history_eq_fresh`); offsets and targets of a well-formed CSR graph; counting over
`List.range`; an array that is used as a stack, read as a list (`top_of_toList`, `mem_toList_iff_gt`,
`pairwise_toList_iff_gt`, and `gt_foldr_st`, `mem_split_iff` for a loop that pops and writes); the edge relation
`E` of a CSR graph.
-/
namespace Tbx

theorem history_eq_fresh {σ γ α : Type} (run : σ → γ → Option (σ × α)) (seq : σ → List γ → Option (σ × List α))
    (fresh : σ) (hnil : ∀ s, seq s [] = some (s, []))
    (hcons : ∀ s g gs, seq s (g :: gs) =
      match run s g with
      | none => none
      | some (s', a) =>
        match seq s' gs with
        | none => none
        | some (s'', as) => some (s'', a :: as))
    (hrun : ∀ s g, run s g = run fresh g) (s : σ) (gs : List γ) (s' : σ) (ls : List α) (h : seq s gs = some (s', ls)) :
    ls.length = gs.length ∧
    ∀ i (hi : i < gs.length) (hl : i < ls.length), ∃ t, run fresh gs[i] = some (t, ls[i]) := by
  induction gs generalizing s s' ls with
  | nil => rw [hnil] at h; cases h; exact ⟨rfl, fun i hi => absurd hi (Nat.not_lt_zero i)⟩
  | cons g gs ih =>
    rw [hcons] at h
    split at h
    · cases h
    · rename_i s1 a hr
      split at h
      · cases h
      · rename_i s2 as hs
        cases h
        obtain ⟨hl, hall⟩ := ih _ _ _ hs
        refine ⟨congrArg (· + 1) hl, fun i hi hli => ?_⟩
        cases i with
        | zero => exact ⟨s1, (hrun s g).symm.trans hr⟩
        | succ i => exact hall i (Nat.lt_of_succ_lt_succ hi) (Nat.lt_of_succ_lt_succ hli)

open Tbx.Csr in
theorem Csr.WF.mono_le {g : Csr.Graph} (h : Csr.WF g) : ∀ j i, i ≤ j → j ≤ Csr.numNodes g → gt g.nodes i ≤ gt g.nodes j := by
  intro j
  induction j with
  | zero => intro i hi _; exact Nat.le_zero.mp hi ▸ Nat.le_refl _
  | succ j ih =>
    intro i hi hj
    by_cases hij : i = j + 1
    · subst hij; exact Nat.le_refl _
    · exact Nat.le_trans (ih i (Nat.le_of_lt_succ (Nat.lt_of_le_of_ne hi hij)) (Nat.le_of_succ_le hj)) (h.mono j hj)

open Tbx.Csr in
theorem Csr.WF.target_lt {g : Csr.Graph} (h : Csr.WF g) (v e : Nat) (hv : v < Csr.numNodes g)
    (he : e < Csr.endEdges g v) : Csr.target g e < Csr.numNodes g := by
  have h1 : Csr.endEdges g v ≤ g.targets.size := h.last ▸ h.mono_le (Csr.numNodes g) (v + 1) hv (Nat.le_refl _)
  exact h.tgt e (Nat.lt_of_lt_of_le he h1)

open Tbx.Csr in
/-- the fuel of the DFS loops of C16 rests on this bound -/
theorem Csr.WF.sum_outDegree {g : Csr.Graph} (h : Csr.WF g) :
    sumTo (Csr.outDegree g) (Csr.numNodes g) ≤ Csr.numEdges g :=
  Nat.le.intro ((sumTo_telescope (gt g.nodes) (Csr.numNodes g) h.mono).trans h.last)

theorem countP_range_congr (p q : Nat → Bool) (n : Nat) (h : ∀ i, i < n → p i = q i) :
    (List.range n).countP p = (List.range n).countP q :=
  List.countP_congr fun i hi => by rw [h i (List.mem_range.mp hi)]

theorem countP_range_update (p q : Nat → Bool) (a : Nat) (hpa : p a = true) (hqa : q a = false)
    (h : ∀ i, i ≠ a → p i = q i) (n : Nat) (han : a < n) : (List.range n).countP q + 1 = (List.range n).countP p := by
  rw [countP_range, countP_range]
  exact cntTo_unset _ _ a (fun i hi => by rw [h i hi]) n han hpa (by rw [hqa]; exact Bool.false_ne_true)

theorem countP_range_pos (p : Nat → Bool) (n a : Nat) (ha : a < n) (hpa : p a = true) : 1 ≤ (List.range n).countP p :=
  List.countP_pos_iff.mpr ⟨a, List.mem_range.mpr ha, hpa⟩

theorem countP_range_unique (p : Nat → Bool) (n a b : Nat) (ha : a < n) (hb : b < n) (hpa : p a = true) (hpb : p b = true)
    (hc : (List.range n).countP p ≤ 1) : a = b := by
  by_cases hab : a = b
  · exact hab
  · have h1 := countP_range_update p (fun i => if i = a then false else p i) a hpa (by simp)
      (by intro i hi; simp [hi]) n ha
    have h2 := countP_range_pos (fun i => if i = a then false else p i) n b hb (by simp [Ne.symm hab, hpb])
    rw [← h1] at hc
    exact absurd (Nat.le_trans h2 (Nat.le_of_succ_le_succ hc)) (Nat.not_succ_le_self 0)

theorem top_of_toList {a : Array Nat} {l : List Nat} {x : Nat} (h : a.toList = l ++ [x]) :
    a.size ≠ 0 ∧ gt a (a.size - 1) = x ∧ a.pop.toList = l := by
  have : a = (l ++ [x]).toArray := by rw [← h]
  subst this
  simp [gt]

theorem mem_toList_iff_gt {α : Type} [Inhabited α] {a : Array α} {x : α} : x ∈ a.toList ↔ ∃ j, j < a.size ∧ gt a j = x := by
  rw [Array.mem_toList_iff, Array.mem_iff_getElem]
  exact ⟨fun ⟨j, hj, e⟩ => ⟨j, hj, (gt_eq_getElem _ _ hj).trans e⟩, fun ⟨j, hj, e⟩ => ⟨j, hj, (gt_eq_getElem _ _ hj).symm.trans e⟩⟩

theorem pairwise_toList_iff_gt {α : Type} [Inhabited α] {R : α → α → Prop} {a : Array α} :
    a.toList.Pairwise R ↔ ∀ j j', j < j' → j' < a.size → R (gt a j) (gt a j') := by
  rw [List.pairwise_iff_getElem]
  constructor
  · intro h j j' hjj hj'
    rw [gt_eq_getElem _ _ hj', gt_eq_getElem _ _ (Nat.lt_trans hjj hj')]
    exact h j j' _ _ hjj
  · intro h i j hi hj hij
    have := h i j hij (by simpa using hj)
    rwa [gt_eq_getElem _ _ (by simpa using hi), gt_eq_getElem _ _ (by simpa using hj)] at this

/-- what the writes `a[x] := f a[x]` for `x` in `l`, last entry first, leave in `a` -/
theorem gt_foldr_st {α : Type} [Inhabited α] (f : α → α) (hf : ∀ d, f (f d) = f d) (a : Array α) :
    ∀ l : List Nat, (∀ x, x ∈ l → x < a.size) →
      (l.foldr (fun x b => st b x (f (gt b x))) a).size = a.size ∧
      ∀ v, (v ∈ l → gt (l.foldr (fun x b => st b x (f (gt b x))) a) v = f (gt a v)) ∧
        (v ∉ l → gt (l.foldr (fun x b => st b x (f (gt b x))) a) v = gt a v)
  | [], _ => ⟨rfl, fun _ => ⟨nofun, fun _ => rfl⟩⟩
  | y :: l, h => by
    obtain ⟨h1, h2⟩ := gt_foldr_st f hf a l fun x hx => h x (List.mem_cons_of_mem _ hx)
    refine ⟨(size_st ..).trans h1, fun v => ?_⟩
    rw [List.foldr_cons, gt_st_lt _ _ _ _ (h1 ▸ h y List.mem_cons_self)]
    by_cases hv : v = y
    · subst hv
      rw [if_pos rfl]
      refine ⟨fun _ => ?_, fun h => absurd List.mem_cons_self h⟩
      by_cases hl : v ∈ l
      · rw [(h2 v).1 hl, hf]
      · rw [(h2 v).2 hl]
    · rw [if_neg hv]
      exact ⟨fun h => (h2 v).1 ((List.mem_cons.mp h).resolve_left hv), fun h => (h2 v).2 fun hl => h (List.mem_cons_of_mem _ hl)⟩

/-- in a list ordered by `I`, an element lies in the part from `x` on iff its rank is at least that of `x` -/
theorem mem_split_iff {I : Nat → Nat} {l pre post : List Nat} {x : Nat} (hl : l = pre ++ x :: post)
    (hm : l.Pairwise fun a b => I a < I b) (u : Nat) :
    (u ∈ x :: post ↔ (u ∈ l ∧ I x ≤ I u)) ∧ (u ∈ pre ↔ (u ∈ l ∧ I u < I x)) := by
  rw [hl, List.pairwise_append, List.pairwise_cons] at hm
  obtain ⟨_, ⟨h2, _⟩, h3⟩ := hm
  have hle : u ∈ x :: post → I x ≤ I u := fun h =>
    (List.mem_cons.mp h).elim (fun h => h ▸ Nat.le_refl _) fun h => Nat.le_of_lt (h2 u h)
  rw [hl, List.mem_append]
  exact ⟨⟨fun h => ⟨Or.inr h, hle h⟩, fun h => h.1.resolve_left fun hu => Nat.lt_irrefl _ (Nat.lt_of_lt_of_le (h3 u hu x List.mem_cons_self) h.2)⟩,
    ⟨fun h => ⟨Or.inl h, h3 u h x List.mem_cons_self⟩, fun h => h.1.resolve_right fun hu => Nat.lt_irrefl _ (Nat.lt_of_lt_of_le h.2 (hle hu))⟩⟩

end Tbx

namespace Tbx.CycleCheck
open Tbx Tbx.Csr

/-- the edge relation of a CSR graph; all C16 proofs about CSR graphs use it, not only the cycle check -/
abbrev E (g : Graph) (u v : Nat) : Prop := (u, v) ∈ edgesOf g

end Tbx.CycleCheck

namespace Tbx.Csr
open Tbx.CycleCheck (E)

theorem mem_succs (g : Graph) (u v : Nat) :
    v ∈ succs g u ↔ ∃ e, beginEdges g u ≤ e ∧ e < beginEdges g u + outDegree g u ∧ target g e = v := by
  simp only [succs, List.mem_map, List.mem_range'_1, and_assoc]

theorem mem_edgesOf (g : Graph) (u v : Nat) : E g u v ↔ u < numNodes g ∧ v ∈ succs g u := by
  simp only [E, edgesOf, List.mem_flatMap, List.mem_range, List.mem_map, Prod.mk.injEq]
  constructor
  · rintro ⟨a, ha, b, hb, rfl, rfl⟩; exact ⟨ha, hb⟩
  · rintro ⟨h1, h2⟩; exact ⟨u, h1, v, h2, rfl, rfl⟩

theorem succ_lt {g : Graph} (hwf : WF g) {u v : Nat} (hu : u < numNodes g) (hv : v ∈ succs g u) : v < numNodes g := by
  obtain ⟨e, _, h2, rfl⟩ := (mem_succs g u v).mp hv
  have hm : beginEdges g u ≤ endEdges g u := hwf.mono u hu
  rw [outDegree, Nat.add_sub_cancel' hm] at h2
  exact hwf.target_lt u e hu h2

end Tbx.Csr
