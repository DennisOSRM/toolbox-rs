import Tbx.Model.Flow
/-
Parent chains: the path `y, parents[y], …, s` that `PathIter`, `chainMin` and `augChain` walk, as an explicit
simple list, hence of at most `n` nodes (`pchain_length_le`).
-/
namespace Tbx.Flow
open Tbx

inductive PChain (n s : Nat) (ps : Array Nat) : Nat → List Nat → Prop where
  | base : PChain n s ps s [s]
  | step {y : Nat} {l : List Nat} : y ≠ s → y < n → gt ps y < n → PChain n s ps (gt ps y) l → y ∉ l →
      PChain n s ps y (y :: l)

variable {n s : Nat} {ps : Array Nat}

theorem pchain_head {y : Nat} {l : List Nat} (h : PChain n s ps y l) : ∃ tl, l = y :: tl := by
  cases h with
  | base => exact ⟨[], rfl⟩
  | step _ _ _ _ _ => exact ⟨_, rfl⟩

theorem pchain_parent_ne {y : Nat} {l : List Nat} (h : PChain n s ps (gt ps y) l) (hy : y ∉ l) :
    gt ps y ≠ y := by
  obtain ⟨tl, rfl⟩ := pchain_head h
  exact fun e => hy (by rw [e]; exact List.mem_cons_self)

theorem pchain_props (hs : s < n) (hps : gt ps s = s) (hN : n ≤ INV) {y : Nat} {l : List Nat}
    (h : PChain n s ps y l) : (∀ x, x ∈ l → x < n ∧ gt ps x ≠ INV) ∧ l.Nodup ∧ l.getLast? = some s := by
  induction h with
  | base =>
    refine ⟨?_, by simp, by simp⟩
    intro x hx; rw [List.mem_singleton] at hx; subst hx
    exact ⟨hs, by rw [hps]; exact Nat.ne_of_lt (Nat.lt_of_lt_of_le hs hN)⟩
  | @step y l h1 h2 h3 h4 h5 ih =>
    obtain ⟨a, b, c⟩ := ih
    refine ⟨?_, List.nodup_cons.mpr ⟨h5, b⟩, ?_⟩
    · intro x hx
      rcases List.mem_cons.mp hx with rfl | hx'
      · exact ⟨h2, Nat.ne_of_lt (Nat.lt_of_lt_of_le h3 hN)⟩
      · exact a x hx'
    · obtain ⟨tl, rfl⟩ := pchain_head h4
      simpa using c

theorem pchain_self (hs : s < n) (hps : gt ps s = s) (hN : n ≤ INV) {y : Nat} {l : List Nat}
    (h : PChain n s ps y l) : y < n ∧ gt ps y ≠ INV := by
  obtain ⟨tl, rfl⟩ := pchain_head h
  exact (pchain_props hs hps hN h).1 y List.mem_cons_self

theorem pchain_congr {ps' : Array Nat} {y : Nat} {l : List Nat} (h : PChain n s ps y l)
    (heq : ∀ x, x ∈ l → gt ps' x = gt ps x) : PChain n s ps' y l := by
  induction h with
  | base => exact PChain.base
  | @step y l h1 h2 h3 h4 h5 ih =>
    have e := heq y List.mem_cons_self
    have := ih (fun x hx => heq x (List.mem_cons_of_mem _ hx))
    exact PChain.step h1 h2 (by rw [e]; exact h3) (by rw [e]; exact this) h5

theorem pchain_unique {y : Nat} {l1 l2 : List Nat} (h1 : PChain n s ps y l1) (h2 : PChain n s ps y l2) :
    l1 = l2 := by
  induction h1 generalizing l2 with
  | base =>
    cases h2 with
    | base => rfl
    | step hne _ _ _ _ => exact absurd rfl hne
  | @step y l hne _ _ _ _ ih =>
    cases h2 with
    | base => exact absurd rfl hne
    | step _ _ _ h4 _ => rw [ih h4]

theorem pchain_suffix {y : Nat} {l : List Nat} (h : PChain n s ps y l) :
    ∀ (l1 : List Nat) (c : Nat) (l2 : List Nat), l = l1 ++ c :: l2 → PChain n s ps c (c :: l2) := by
  induction h with
  | base =>
    intro l1 c l2 heq
    cases l1 with
    | nil => simp only [List.nil_append, List.cons.injEq] at heq; obtain ⟨rfl, rfl⟩ := heq; exact PChain.base
    | cons a tl => simp at heq
  | @step y l h1 h2 h3 h4 h5 ih =>
    intro l1 c l2 heq
    cases l1 with
    | nil =>
      simp only [List.nil_append, List.cons.injEq] at heq
      obtain ⟨rfl, rfl⟩ := heq
      exact PChain.step h1 h2 h3 h4 h5
    | cons a tl =>
      simp only [List.cons_append, List.cons.injEq] at heq
      exact ih tl c l2 heq.2

theorem mem_windows_head (a b : Nat) (l : List Nat) : (a, b) ∈ windows (a :: b :: l) := List.mem_cons_self

theorem mem_windows_tail {ab : Nat × Nat} (a : Nat) {b : Nat} {l : List Nat} (h : ab ∈ windows (b :: l)) :
    ab ∈ windows (a :: b :: l) := List.mem_cons_of_mem _ h

theorem mem_windows_cons {ab : Nat × Nat} {a b : Nat} {l : List Nat} :
    ab ∈ windows (a :: b :: l) ↔ ab = (a, b) ∨ ab ∈ windows (b :: l) := List.mem_cons

theorem mem_windows {l : List Nat} {ab : Nat × Nat} (h : ab ∈ windows l) : ab.1 ∈ l ∧ ab.2 ∈ l := by
  induction l with
  | nil => simp [windows] at h
  | cons a tl ih =>
    cases tl with
    | nil => simp [windows] at h
    | cons b rest =>
      simp only [windows, List.mem_cons] at h
      rcases h with rfl | h
      · exact ⟨List.mem_cons_self, List.mem_cons_of_mem _ List.mem_cons_self⟩
      · have := ih h
        exact ⟨List.mem_cons_of_mem _ this.1, List.mem_cons_of_mem _ this.2⟩

theorem windows_suffix (l1 : List Nat) (c : Nat) (l2 : List Nat) (ab : Nat × Nat)
    (h : ab ∈ windows (c :: l2)) : ab ∈ windows (l1 ++ c :: l2) := by
  induction l1 with
  | nil => exact h
  | cons a tl ih =>
    cases tl with
    | nil => exact mem_windows_tail a h
    | cons b tl' => exact mem_windows_tail a ih

theorem pchain_parent_sub (hps : gt ps s = s) {u : Nat} {lu l : List Nat}
    (h1 : PChain n s ps u lu) (h2 : PChain n s ps (gt ps u) l) : ∀ x, x ∈ l → x ∈ lu := by
  cases h1 with
  | base =>
    rw [hps] at h2
    cases h2 with
    | base => intro x hx; exact hx
    | step hne _ _ _ _ => exact absurd rfl hne
  | step _ _ _ h4 _ =>
    rw [pchain_unique h2 h4]
    intro x hx; exact List.mem_cons_of_mem _ hx

theorem pchain_child {u : Nat} {lu : List Nat} (h : PChain n s ps u lu) :
    ∀ y, y ∈ lu → y ≠ u → ∃ x, x ∈ lu ∧ x < n ∧ x ≠ y ∧ gt ps x = y := by
  induction h with
  | base => intro y hy hne; rw [List.mem_singleton] at hy; exact absurd hy hne
  | @step u l h1 h2 h3 h4 h5 ih =>
    intro y hy hne
    rcases List.mem_cons.mp hy with rfl | hy'
    · exact absurd rfl hne
    · by_cases hyp : y = gt ps u
      · exact ⟨u, List.mem_cons_self, h2, fun e => hne e.symm, hyp.symm⟩
      · obtain ⟨x, a, b, c, d⟩ := ih y hy' hyp
        exact ⟨x, List.mem_cons_of_mem _ a, b, c, d⟩

theorem nodup_length_le (n : Nat) (l : List Nat) (hnd : l.Nodup) (h : ∀ x, x ∈ l → x < n) : l.length ≤ n := by
  simpa using hnd.length_le_of_subset fun x hx => List.mem_range.mpr (h x hx)

theorem pchain_length_le (hs : s < n) (hps : gt ps s = s) (hN : n ≤ INV)
    {v : Nat} {l : List Nat} (h : PChain n s ps v l) : l.length ≤ n := by
  obtain ⟨a, b, _⟩ := pchain_props hs hps hN h
  exact nodup_length_le n l b (fun x hx => (a x hx).1)

theorem pathIter_of_pchain (hs : s < n) (hps : gt ps s = s) (hN : n ≤ INV)
    {v : Nat} {l : List Nat} (h : PChain n s ps v l) : ∀ fuel, l.length ≤ fuel → pathIter ps fuel v = some l := by
  induction h with
  | base =>
    intro fuel hf
    cases fuel with
    | zero => exact absurd hf (Nat.not_succ_le_zero _)
    | succ f =>
      simp only [pathIter]
      rw [if_neg (Nat.ne_of_lt (Nat.lt_of_lt_of_le hs hN)), if_pos hps.symm]
  | @step y l h1 h2 h3 h4 h5 ih =>
    intro fuel hf
    cases fuel with
    | zero => exact absurd hf (Nat.not_succ_le_zero _)
    | succ f =>
      simp only [pathIter]
      rw [if_neg (Nat.ne_of_lt (Nat.lt_of_lt_of_le h2 hN)), if_neg (pchain_parent_ne h4 h5).symm,
        ih f (Nat.le_of_succ_le_succ hf)]
      rfl

end Tbx.Flow
