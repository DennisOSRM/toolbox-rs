import Tbx.Model.Huffman
import Tbx.Spec.HuffmanCode
/-
C20 (Huffman part): both constructions of /repo/src/huffman_code.rs produce a prefix-free code book whose
symbols are a permutation of the table's.  The explicit-stack `retrieveCodebook` equals the recursive `codesRec`;
`bookOf` is the shape both constructions share.  "Every symbol is coded" needs of either loop only that merging two
trees permutes the leaves of the forest (`entriesL_merge`); no ordering property of the heap is used here.
-/

namespace Tbx.Huffman

/-- recursive description of the code book: the right subtree comes first (it is popped first) -/
def codesRec : Tree → Code → Book
  | .leaf s _, p => [(s, p)]
  | .node _ l r, p => codesRec r (p ++ [true]) ++ codesRec l (p ++ [false])

theorem retrieveLoop_cons (t : Tree) (pre : Code) (stack : List (Tree × Code)) (book : Book) (fuel : Nat) :
    retrieveLoop (t.size + fuel) ((t, pre) :: stack) book = retrieveLoop fuel stack (book ++ codesRec t pre) := by
  induction t generalizing pre stack book fuel with
  | leaf s f => rw [Tree.size, Nat.add_comm]; rfl
  | node f l r ihl ihr =>
    rw [Tree.size, Nat.add_right_comm, retrieveLoop, Nat.add_comm l.size, Nat.add_assoc, ihr, ihl, codesRec,
      List.append_assoc]

theorem retrieveCodebook_eq (t : Tree) : retrieveCodebook t = some (codesRec t []) :=
  retrieveLoop_cons t [] [] [] 0

theorem codesRec_prefix (t : Tree) (p : Code) : ∀ e ∈ codesRec t p, p <+: e.2 := by
  induction t generalizing p with
  | leaf s f => intro e he; simp [codesRec] at he; subst he; exact List.prefix_refl _
  | node f l r ihl ihr =>
    intro e he
    simp only [codesRec, List.mem_append] at he
    rcases he with he | he
    · exact List.IsPrefix.trans (List.prefix_append _ _) (ihr _ e he)
    · exact List.IsPrefix.trans (List.prefix_append _ _) (ihl _ e he)

theorem not_prefix_of_split (p a b : Code) (ha : p ++ [true] <+: a) (hb : p ++ [false] <+: b) :
    ¬ a <+: b ∧ ¬ b <+: a := by
  have key : ∀ c : Code, p ++ [true] <+: c → p ++ [false] <+: c → False := fun c h1 h2 => by
    simpa using List.prefix_or_prefix_of_prefix h1 h2
  exact ⟨fun h => key b (ha.trans h) hb, fun h => key a ha (hb.trans h)⟩

theorem codesRec_prefixFree (t : Tree) (p : Code) :
    Spec.Huff.PrefixFree ((codesRec t p).map (·.2)) := by
  unfold Spec.Huff.PrefixFree
  induction t generalizing p with
  | leaf s f => simp [codesRec]
  | node f l r ihl ihr =>
    simp only [codesRec, List.map_append, List.pairwise_append]
    refine ⟨ihr _, ihl _, ?_⟩
    intro a ha b hb
    simp only [List.mem_map] at ha hb
    obtain ⟨ea, hea, rfl⟩ := ha
    obtain ⟨eb, heb, rfl⟩ := hb
    exact not_prefix_of_split p _ _ (codesRec_prefix r _ ea hea) (codesRec_prefix l _ eb heb)

/-- leaves as (symbol, frequency) pairs, in code-book order -/
def Tree.entries : Tree → List (Nat × Int)
  | .leaf s f => [(s, f)]
  | .node _ l r => r.entries ++ l.entries

theorem codesRec_map_fst (t : Tree) (p : Code) : (codesRec t p).map (·.1) = t.entries.map (·.1) := by
  induction t generalizing p with
  | leaf s f => rfl
  | node f l r ihl ihr => simp only [codesRec, Tree.entries, List.map_append, ihl, ihr]

def entriesL (F : List Tree) : List (Nat × Int) := F.flatMap Tree.entries

theorem entriesL_perm {F F' : List Tree} (h : F.Perm F') : (entriesL F).Perm (entriesL F') :=
  List.Perm.flatMap_right _ h

theorem entriesL_leaves (v : List (Nat × Int)) : entriesL (leaves v) = v := by
  induction v with
  | nil => rfl
  | cons e v ih => exact congrArg (e :: ·) ih

theorem entriesL_merge {F F' : List Tree} {x y : Tree} {R : List Tree} (f : Int)
    (h : F.Perm (x :: y :: R)) (h' : F'.Perm (.node f x y :: R)) : (entriesL F').Perm (entriesL F) := by
  refine (entriesL_perm h').trans (List.Perm.trans ?_ (entriesL_perm h.symm))
  simp only [entriesL, List.flatMap_cons, Tree.entries, List.append_assoc]
  exact List.perm_append_comm_assoc _ _ _

def bookOf (tree : Option Tree) (v : List (Nat × Int)) : Option Book :=
  if v.isEmpty then some [] else tree.map (codesRec · [])

theorem bookOf_of_ne_nil (tree : Option Tree) {v : List (Nat × Int)} (h : v ≠ []) :
    bookOf tree v = tree.map (codesRec · []) :=
  if_neg (by simpa using h)

theorem fromSorted_eq (v : List (Nat × Int)) : fromSorted v = bookOf (sortedTree v) v := by
  unfold fromSorted bookOf
  cases sortedTree v <;> simp only [retrieveCodebook_eq, Option.map]

theorem fromUnsorted_eq (v : List (Nat × Int)) : fromUnsorted v = bookOf (unsortedTree v) v := by
  unfold fromUnsorted bookOf
  cases unsortedTree v <;> simp only [retrieveCodebook_eq, Option.map]

theorem bookOf_prefix_free {tree : Option Tree} {v : List (Nat × Int)} {book : Book}
    (h : bookOf tree v = some book) : Spec.Huff.PrefixFree (book.map (·.2)) := by
  cases v with
  | nil => cases h; exact List.Pairwise.nil
  | cons e v =>
    obtain ⟨t, _, rfl⟩ := Option.map_eq_some_iff.mp (bookOf_of_ne_nil tree (List.cons_ne_nil e v) ▸ h)
    exact codesRec_prefixFree t []

theorem bookOf_all_coded {tree : Option Tree} {v : List (Nat × Int)}
    (h : v ≠ [] → ∃ t, tree = some t ∧ t.entries.Perm v) :
    ∃ book, bookOf tree v = some book ∧ (book.map (·.1)).Perm (v.map (·.1)) := by
  cases v with
  | nil => exact ⟨[], rfl, List.Perm.refl _⟩
  | cons e v =>
    obtain ⟨t, rfl, p⟩ := h (List.cons_ne_nil e v)
    exact ⟨_, rfl, codesRec_map_fst t [] ▸ p.map _⟩

theorem minNode_some (q1 q2 : List Tree) (h : 1 ≤ q1.length + q2.length) :
    ∃ x q1' q2', minNode q1 q2 = some (x, q1', q2') ∧ (x :: (q1' ++ q2')).Perm (q1 ++ q2) ∧
      q1'.length + q2'.length + 1 = q1.length + q2.length := by
  cases q1 with
  | nil =>
    cases q2 with
    | nil => simp at h
    | cons y q2' => exact ⟨y, [], q2', rfl, by simp, by simp⟩
  | cons x q1' =>
    cases q2 with
    | nil => exact ⟨x, q1', [], rfl, by simp, by simp⟩
    | cons y q2' =>
      simp only [minNode]
      split
      · exact ⟨x, q1', y :: q2', rfl, by simp, by simp only [List.length_cons]; omega⟩
      · refine ⟨y, x :: q1', q2', rfl, ?_, by simp; omega⟩
        exact (List.perm_middle (l₁ := x :: q1') (a := y) (l₂ := q2')).symm

def SortedStep (P : List Tree → List Tree → Prop) : Prop :=
  ∀ {q1 q2 q1a q2a q1b q2b : List Tree} {left right : Tree}, P q1 q2 →
    minNode q1 q2 = some (left, q1a, q2a) → minNode q1a q2a = some (right, q1b, q2b) →
    P q1b (q2b ++ [.node (left.freq + right.freq) left right])

/-- termination, the leaves and any iteration-preserved property `P` of the two queues, in one induction.
    `h2`: a single remaining node sits in the second queue; in the first it would make the loop pop twice (the
    panic on a one-symbol table) -/
theorem sortedLoop_some (P : List Tree → List Tree → Prop) (step : SortedStep P)
    (fuel : Nat) (q1 q2 : List Tree) (hf : q1.length + q2.length ≤ fuel) (h1 : 1 ≤ q1.length + q2.length)
    (h2 : q1.length + q2.length = 1 → q1.length = 0) (hP : P q1 q2) :
    ∃ t, sortedLoop fuel q1 q2 = some t ∧ t.entries.Perm (entriesL (q1 ++ q2)) ∧ P [] [t] := by
  induction fuel generalizing q1 q2 with
  | zero => omega
  | succ fuel ih =>
    by_cases hc : (!q1.isEmpty || decide (q2.length > 1)) = true
    · have hge : 2 ≤ q1.length + q2.length := by
        cases q1 with
        | nil => exact Nat.le_trans (Nat.succ_le_of_lt (by simpa using hc)) (Nat.le_add_left _ _)
        | cons _ _ => simp only [List.length_cons] at h2 ⊢; omega
      obtain ⟨left, q1a, q2a, e1, p1, l1⟩ := minNode_some q1 q2 h1
      obtain ⟨right, q1b, q2b, e2, p2, l2⟩ := minNode_some q1a q2a (by omega)
      have hl : (q2b ++ [Tree.node (left.freq + right.freq) left right]).length = q2b.length + 1 :=
        List.length_append
      obtain ⟨t, et, pt, hPt⟩ := ih q1b (q2b ++ [.node (left.freq + right.freq) left right])
        (by omega) (by omega) (by omega) (step hP e1 e2)
      refine ⟨t, ?_, pt.trans (entriesL_merge (left.freq + right.freq) ((List.Perm.cons left p2).trans p1).symm ?_),
        hPt⟩
      · unfold sortedLoop
        simp only [if_pos hc, e1, e2, et]
      · rw [← List.append_assoc]
        exact List.perm_append_comm
    · cases q2 with
      | nil => exact absurd h1 (by cases q1 <;> simp at hc ⊢)
      | cons y q2' =>
        have : q1 = [] ∧ q2' = [] := by cases q1 <;> cases q2' <;> simp at hc ⊢
        obtain ⟨rfl, rfl⟩ := this
        exact ⟨y, by unfold sortedLoop; rfl, by simp [entriesL], hP⟩

theorem sortedTree_some (P : List Tree → List Tree → Prop) (step : SortedStep P)
    (v : List (Nat × Int)) (h0 : v ≠ []) (hv : v.length ≠ 1) (hP : P (leaves v) []) :
    ∃ t, sortedTree v = some t ∧ t.entries.Perm v ∧ P [] [t] := by
  have hl : (leaves v).length = v.length := List.length_map _
  have hpos : 0 < v.length := List.length_pos_iff.mpr h0
  have := sortedLoop_some P step v.length (leaves v) [] (by simp [hl]) (by simp [hl]; omega) (by simp [hl]; omega) hP
  rwa [List.append_nil, entriesL_leaves] at this

example : fromSorted [(0,5),(1,9),(2,12),(3,13),(4,16),(5,45)] =
    some [(4, [true, true, true]), (1, [true, true, false, true]), (0, [true, true, false, false]),
      (3, [true, false, true]), (2, [true, false, false]), (5, [false])] := by decide +kernel

-- the table above meets the side condition `hv` of `sortedTree_some`
example : ([(0,5),(1,9),(2,12),(3,13),(4,16),(5,45)] : List (Nat × Int)).length ≠ 1 := by decide

example : ((fromSorted [(0,5),(1,9),(2,12),(3,13),(4,16),(5,45)]).map (·.map (·.1))) =
    some [4, 1, 0, 3, 2, 5] := by decide +kernel

/-- the excluded case is a real panic of the sorted construction -/
example : fromSorted [(7, 3)] = none := by decide +kernel

theorem swp_perm (a : Array Tree) (i j : Nat) : (swp a i j).Perm a := by
  unfold swp Array.swapIfInBounds
  split
  · split
    · exact Array.swap_perm _ _
    · exact Array.Perm.refl _
  · exact Array.Perm.refl _

theorem siftUp_perm (start fuel : Nat) (a : Array Tree) (pos : Nat) :
    (siftUp start fuel a pos).Perm a := by
  induction fuel generalizing a pos with
  | zero => exact Array.Perm.refl _
  | succ fuel ih =>
    simp only [siftUp]
    split
    · split
      · exact Array.Perm.refl _
      · exact (ih _ _).trans (swp_perm _ _ _)
    · exact Array.Perm.refl _

theorem siftDownLoop_perm (e fuel : Nat) (a : Array Tree) (pos : Nat) :
    (siftDownLoop e fuel a pos).1.Perm a := by
  induction fuel generalizing a pos with
  | zero => exact Array.Perm.refl _
  | succ fuel ih =>
    simp only [siftDownLoop]
    split
    · exact (ih _ _).trans (swp_perm _ _ _)
    · split
      · exact swp_perm _ _ _
      · exact Array.Perm.refl _

theorem siftDownToBottom_perm (a : Array Tree) (pos : Nat) : (siftDownToBottom a pos).Perm a := by
  unfold siftDownToBottom
  exact (siftUp_perm _ _ _ _).trans (siftDownLoop_perm _ _ _ _)

theorem heapPush_perm (a : Array Tree) (x : Tree) : (heapPush a x).toList.Perm (x :: a.toList) := by
  unfold heapPush
  refine (siftUp_perm _ _ _ _).toList.trans ?_
  simp only [Array.toList_push]
  exact List.perm_append_comm

theorem heapPush_size (a : Array Tree) (x : Tree) : (heapPush a x).size = a.size + 1 := by
  have := (heapPush_perm a x).length_eq
  simpa using this

/-- every non-empty array is `d.push item`: `pop` written out on that form, the one place where `heapPop` is unfolded -/
theorem heapPop_push (d : Array Tree) (item : Tree) :
    heapPop (d.push item) = some (if d.size > 0 then (d.getD 0 default, siftDownToBottom (d.setIfInBounds 0 item) 0)
      else (item, d)) := by
  simp only [heapPop, Array.back?_push, Array.pop_push]
  split <;> rfl

theorem heapPop_some (a : Array Tree) (h : 1 ≤ a.size) :
    ∃ x a', heapPop a = some (x, a') ∧ (x :: a'.toList).Perm a.toList ∧ a'.size + 1 = a.size := by
  obtain ⟨d, item, rfl⟩ := Array.eq_push_of_size_ne_zero (Nat.ne_of_gt h)
  rw [heapPop_push]
  obtain ⟨_ | ⟨d0, rest⟩⟩ := d
  · exact ⟨item, #[], rfl, List.Perm.refl _, rfl⟩
  · have hp := siftDownToBottom_perm (item :: rest).toArray 0
    refine ⟨d0, _, rfl, ?_, by simpa using hp.size_eq⟩
    refine (hp.toList.cons d0).trans ?_
    simp only [List.push_toArray, List.cons_append]
    exact (List.perm_append_comm (l₁ := [item]) (l₂ := rest)).cons d0

def HeapStep (P : Array Tree → Prop) : Prop :=
  ∀ {a a1 a2 : Array Tree} {x y : Tree}, P a → heapPop a = some (x, a1) → heapPop a1 = some (y, a2) →
    (x :: a1.toList).Perm a.toList → (y :: a2.toList).Perm a1.toList →
    P (heapPush a2 (.node (x.freq + y.freq) x y))

theorem unsortedLoop_some (P : Array Tree → Prop) (step : HeapStep P)
    (fuel : Nat) (a : Array Tree) (hf : a.size ≤ fuel) (h1 : 1 ≤ a.size) (hP : P a) :
    ∃ b, unsortedLoop fuel a = some b ∧ b.size = 1 ∧ (entriesL b.toList).Perm (entriesL a.toList) ∧ P b := by
  induction fuel generalizing a with
  | zero => omega
  | succ fuel ih =>
    unfold unsortedLoop
    split
    next hc =>
      obtain ⟨x, a1, e1, p1, s1⟩ := heapPop_some a h1
      obtain ⟨y, a2, e2, p2, s2⟩ := heapPop_some a1 (by omega)
      simp only [e1, e2]
      obtain ⟨b, eb, sb, pb, hPb⟩ := ih (heapPush a2 (.node (x.freq + y.freq) x y))
        (by rw [heapPush_size]; omega) (by rw [heapPush_size]; omega) (step hP e1 e2 p1 p2)
      exact ⟨b, eb, sb, pb.trans (entriesL_merge _ ((List.Perm.cons x p2).trans p1).symm (heapPush_perm a2 _)), hPb⟩
    next hc =>
      exact ⟨a, rfl, by omega, List.Perm.refl _, hP⟩

theorem foldl_heapPush_perm (l : List Tree) (a : Array Tree) :
    (l.foldl heapPush a).toList.Perm (l ++ a.toList) := by
  induction l generalizing a with
  | nil => exact List.Perm.refl _
  | cons x l ih =>
    simp only [List.foldl_cons]
    refine (ih _).trans ?_
    refine (List.Perm.append_left l (heapPush_perm a x)).trans ?_
    exact (List.perm_middle (l₁ := l) (a := x) (l₂ := a.toList))

theorem buildHeap_perm (v : List (Nat × Int)) : (buildHeap v).toList.Perm (leaves v) := by
  have := foldl_heapPush_perm (leaves v) #[]
  simpa [buildHeap] using this

theorem buildHeap_size (v : List (Nat × Int)) : (buildHeap v).size = v.length := by
  simpa [leaves] using (buildHeap_perm v).length_eq

theorem unsortedTree_some (P : Array Tree → Prop) (step : HeapStep P)
    (v : List (Nat × Int)) (h0 : v ≠ []) (hP : P (buildHeap v)) :
    ∃ t, unsortedTree v = some t ∧ t.entries.Perm v ∧ ∃ b, P b ∧ b.toList = [t] := by
  have hpos : 0 < v.length := List.length_pos_iff.mpr h0
  obtain ⟨b, eb, sb, pb, hPb⟩ := unsortedLoop_some P step v.length (buildHeap v) (by rw [buildHeap_size]; omega)
    (by rw [buildHeap_size]; omega) hP
  -- the last `pop`, on a one-element heap
  obtain ⟨x, b', ex, px, sx⟩ := heapPop_some b (by omega)
  obtain rfl : b' = #[] := Array.eq_empty_of_size_eq_zero (by omega)
  have hx : b.toList = [x] := List.perm_singleton.mp px.symm
  refine ⟨x, by simp [unsortedTree, eb, ex], ?_, b, hPb, hx⟩
  have := pb.trans (entriesL_perm (buildHeap_perm v))
  rwa [hx, entriesL_leaves, entriesL, List.flatMap_cons, List.flatMap_nil, List.append_nil] at this

example : fromUnsorted [(3,13),(5,45),(0,5),(2,12),(4,16),(1,9)] =
    some [(4, [true, true, true]), (1, [true, true, false, true]), (0, [true, true, false, false]),
      (3, [true, false, true]), (2, [true, false, false]), (5, [false])] := by decide +kernel

example : fromUnsorted [(7, 3)] = some [(7, [])] := by decide +kernel

example : fromUnsorted [(3,13),(5,45),(0,5),(2,12)] =
    some [(5, [true]), (2, [false, true, true]), (0, [false, true, false]), (3, [false, false])] := by
  decide +kernel

end Tbx.Huffman
