import Tbx.Proofs.C16Kruskal
import Tbx.Proofs.C16Msf
/-
Kruskal returns a spanning forest of MINIMAL weight.

Invariant (`Below`): every spanning forest F' of the input can be turned, at no higher cost, into
one that contains all edges accepted so far.  Accepting a lightest input edge between two components
of the accepted edges keeps it: that is the cut property (`Comp.cut_property`, `below_accept`).  At the
end the accepted edges are a spanning forest inside one that costs no more than F', hence of the same cost.
-/
namespace Tbx.Kruskal
open Tbx Tbx.UF Tbx.Comp

def Below (inp A : List WEdge) : Prop :=
  ∀ F', SpanningForest inp F' → ∃ F, SpanningForest inp F ∧ cost F ≤ cost F' ∧ ∀ x, x ∈ A → x ∈ F

theorem below_accept (inp : List WEdge) : Accepts inp (Below inp) := by
  intro A e he hn hlight hP F' hF'
  obtain ⟨F, hF, hle, hsub⟩ := hP F' hF'
  obtain ⟨F2, hF2, hle2, hsub2⟩ := cut_property hF hsub he hn hlight
  exact ⟨F2, hF2, Nat.le_trans hle2 hle, hsub2⟩

theorem kruskal_min (inp : List WEdge) (htot : cost inp < 4294967296) :
    ∃ c mst, kruskal inp = some (c, mst) ∧ c = cost mst ∧ MinSpanningForest inp mst := by
  obtain ⟨c, mst, h1, hT, h2, hP⟩ := kruskal_spec inp htot (Below inp) (below_accept inp)
    fun F' hF' => ⟨F', hF', Nat.le_refl _, fun _ h => nomatch h⟩
  refine ⟨c, mst, h1, h2, hT, fun F' hF' => ?_⟩
  obtain ⟨F, hF, hle, hsub⟩ := hP F' hF'
  exact subforest_cost hT hF hsub ▸ hle

end Tbx.Kruskal
