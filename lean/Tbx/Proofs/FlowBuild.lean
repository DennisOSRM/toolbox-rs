import Tbx.Proofs.FlowCsr
import Tbx.Proofs.FlowPush
import Tbx.Proofs.InsertSort
/-
C01 `merge_cap`: the residual graph the solvers build from an edge list (append reversed zero-capacity
copies, sort, `dedup_by` summing parallel capacities, CSR) is well formed, has max id + 1 nodes, has
non-negative capacities, and its pair residual equals the merged input capacity — so the initial state
satisfies the loop invariant `FInv` with flow 0.  Holds for every comparator that refines the (source,target)
order (`KeyLe`; Dinic: (source,target) itself; EdmondsKarp/FordFulkerson: derived `Ord`).  The sort is a sorted
permutation by the lemmas of InsertSort.lean (`sortBy_perm`, `sortBy_leK`); what is followed through sort and merge is
the pair capacity `capE` and the set of keys `HasKey` (it fixes the number of nodes and gives every edge its reverse).
The merged list has no key twice, so the second sort of `StaticGraph::new` is the identity (`residualEK_eq`).
-/
namespace Tbx.Flow
open Tbx Tbx.FlowTheory Tbx.FlowSpec

theorem sortBy_perm (le : Edge → Edge → Bool) (L : List Edge) : (sortBy le L).Perm L :=
  InsertSort.perm_sort (sortBy le) (InsertSort.perm_ins (insertSorted le) (fun _ => rfl) fun _ _ _ => rfl) rfl
    (fun _ _ => rfl) L

theorem mem_sortBy (le : Edge → Edge → Bool) (y : Edge) (L : List Edge) : y ∈ sortBy le L ↔ y ∈ L :=
  (sortBy_perm le L).mem_iff

theorem capE_cons (a : Edge) (L : List Edge) (u v : Nat) :
    capE (a :: L) u v = (if a.src = u ∧ a.tgt = v then a.cap else 0) + capE L u v := by
  simp [capE]

theorem capE_sortBy (le : Edge → Edge → Bool) (L : List Edge) (u v : Nat) :
    capE (sortBy le L) u v = capE L u v :=
  ((sortBy_perm le L).map _).sum_eq

def LeK (a b : Edge) : Prop := a.src < b.src ∨ (a.src = b.src ∧ a.tgt ≤ b.tgt)
def LtK (a b : Edge) : Prop := a.src < b.src ∨ (a.src = b.src ∧ a.tgt < b.tgt)

theorem LeK.refl (a : Edge) : LeK a a := Or.inr ⟨rfl, Nat.le_refl _⟩

theorem LeK.trans {a b c : Edge} (h1 : LeK a b) (h2 : LeK b c) : LeK a c := by
  rcases h1 with h1 | ⟨h1, h3⟩ <;> rcases h2 with h2 | ⟨h2, h4⟩
  · exact Or.inl (Nat.lt_trans h1 h2)
  · exact Or.inl (h2 ▸ h1)
  · exact Or.inl (h1 ▸ h2)
  · exact Or.inr ⟨h1.trans h2, Nat.le_trans h3 h4⟩

theorem LtK.le {a b : Edge} (h1 : LtK a b) : LeK a b := h1.imp_right fun h => ⟨h.1, Nat.le_of_lt h.2⟩

theorem LtK.not_leK {a b : Edge} (h1 : LtK a b) : ¬ LeK b a := by
  rintro (h2 | ⟨h2, h3⟩) <;> rcases h1 with h1 | ⟨h1, h4⟩
  · exact Nat.lt_asymm h1 h2
  · exact Nat.ne_of_gt h2 h1
  · exact Nat.ne_of_gt h1 h2
  · exact Nat.not_le_of_lt h4 h3

theorem LtK.trans_le {a b c : Edge} (h1 : LtK a b) (h2 : LeK b c) : LtK a c := by
  rcases h1 with h1 | ⟨h1, h3⟩ <;> rcases h2 with h2 | ⟨h2, h4⟩
  · exact Or.inl (Nat.lt_trans h1 h2)
  · exact Or.inl (h2 ▸ h1)
  · exact Or.inl (h1 ▸ h2)
  · exact Or.inr ⟨h1.trans h2, Nat.lt_of_lt_of_le h3 h4⟩

theorem LeK.lt_of_key_ne {a b : Edge} (h1 : LeK a b) (h2 : ¬ (b.src = a.src ∧ b.tgt = a.tgt)) : LtK a b :=
  h1.imp_right fun h => ⟨h.1, Nat.lt_of_le_of_ne h.2 fun e => h2 ⟨h.1.symm, e.symm⟩⟩

def KeyLe (le : Edge → Edge → Bool) : Prop :=
  ∀ a b, (le a b = true → LeK a b) ∧ (le a b = false → LeK b a)

theorem leST_keyLe : KeyLe leST := by
  intro a b
  unfold leST
  split
  · rename_i h
    exact ⟨fun hc => Or.inr ⟨h, of_decide_eq_true hc⟩,
      fun hc => Or.inr ⟨h.symm, Nat.le_of_not_le (of_decide_eq_false hc)⟩⟩
  · rename_i h
    exact ⟨fun hc => Or.inl (Nat.lt_of_le_of_ne (of_decide_eq_true hc) h),
      fun hc => Or.inl (Nat.lt_of_not_le (of_decide_eq_false hc))⟩

theorem leOrd_keyLe : KeyLe leOrd := by
  intro a b
  unfold leOrd
  split
  · rename_i h
    exact ⟨fun hc => Or.inl (of_decide_eq_true hc),
      fun hc => Or.inl (Nat.lt_of_le_of_ne (Nat.le_of_not_lt (of_decide_eq_false hc)) (Ne.symm h))⟩
  · rename_i h
    have hs : a.src = b.src := Decidable.not_not.mp h
    split
    · exact ⟨fun hc => Or.inr ⟨hs, Nat.le_of_lt (of_decide_eq_true hc)⟩,
        fun hc => Or.inr ⟨hs.symm, Nat.le_of_not_lt (of_decide_eq_false hc)⟩⟩
    · rename_i ht
      have ht' : a.tgt = b.tgt := Decidable.not_not.mp ht
      exact ⟨fun _ => Or.inr ⟨hs, Nat.le_of_eq ht'⟩, fun _ => Or.inr ⟨hs.symm, Nat.le_of_eq ht'.symm⟩⟩

theorem sortBy_leK (le : Edge → Edge → Bool) (hle : KeyLe le) (L : List Edge) : (sortBy le L).Pairwise LeK :=
  InsertSort.pairwise_sort (R := LeK) (sortBy le) (fun x l hl => InsertSort.pairwise_ins (insertSorted le) (fun _ => rfl)
    (fun _ _ _ => rfl) x l hl LeK.trans fun a _ => ⟨(hle x a).1, fun hc => (hle x a).2 (Bool.eq_false_iff.mpr hc)⟩)
    rfl (fun _ _ => rfl) L

theorem sortBy_eq_self (le : Edge → Edge → Bool) (hle : KeyLe le) (L : List Edge) (h : L.Pairwise LtK) :
    sortBy le L = L := by
  induction L with
  | nil => rfl
  | cons x L ih =>
    rw [List.pairwise_cons] at h
    rw [sortBy, ih h.2]
    cases L with
    | nil => rfl
    | cons a L =>
      have : le x a = true := by
        cases hc : le x a
        · exact absurd ((hle x a).2 hc) (h.1 a List.mem_cons_self).not_leK
        · rfl
      rw [insertSorted, if_pos this]

def HasKey (L : List Edge) (u v : Nat) : Prop := ∃ e ∈ L, e.src = u ∧ e.tgt = v

theorem hasKey_cons (a : Edge) (L : List Edge) (u v : Nat) :
    HasKey (a :: L) u v ↔ (a.src = u ∧ a.tgt = v) ∨ HasKey L u v := by
  simp only [HasKey, List.exists_mem_cons_iff]

theorem hasKey_sortBy (le : Edge → Edge → Bool) (L : List Edge) (u v : Nat) :
    HasKey (sortBy le L) u v ↔ HasKey L u v := by
  simp only [HasKey, mem_sortBy]

theorem hasKey_extend (es : List Edge) (u v : Nat) : HasKey (extend es) u v ↔ HasKey es u v ∨ HasKey es v u := by
  simp only [HasKey, extend, List.mem_append, List.mem_map, or_and_right, exists_or]
  refine or_congr Iff.rfl ⟨?_, ?_⟩
  · rintro ⟨_, ⟨e, he, rfl⟩, h1, h2⟩; exact ⟨e, he, h2, h1⟩
  · rintro ⟨e, he, h1, h2⟩; exact ⟨_, ⟨e, he, rfl⟩, h2, h1⟩

theorem maxId_eq_of_keys (L es : List Edge) (h : ∀ u v, HasKey L u v ↔ HasKey es u v ∨ HasKey es v u) :
    maxId L = maxId es := by
  apply Nat.le_antisymm
  · refine (maxId_le_iff L _).mpr fun e he => ?_
    rcases (h e.src e.tgt).mp ⟨e, he, rfl, rfl⟩ with ⟨e', he', h1, h2⟩ | ⟨e', he', h1, h2⟩
    · exact h1 ▸ h2 ▸ le_maxId es e' he'
    · exact ⟨h2 ▸ (le_maxId es e' he').2, h1 ▸ (le_maxId es e' he').1⟩
  · refine (maxId_le_iff es _).mpr fun e he => ?_
    obtain ⟨e', he', h1, h2⟩ := (h e.src e.tgt).mpr (Or.inl ⟨e, he, rfl, rfl⟩)
    exact h1 ▸ h2 ▸ le_maxId L e' he'

theorem capE_dedupInto (L : List Edge) (u v : Nat) : ∀ cur, capE (dedupInto cur L) u v = capE (cur :: L) u v := by
  induction L with
  | nil => intro cur; rfl
  | cons a L ih =>
    intro cur
    simp only [dedupInto]
    split
    · rename_i hc
      rw [ih, capE_cons, capE_cons, capE_cons]
      simp only [hc.1, hc.2]
      split <;> omega
    · rw [capE_cons, ih, capE_cons, capE_cons, capE_cons]

theorem capE_dedupMerge (L : List Edge) (u v : Nat) : capE (dedupMerge L) u v = capE L u v := by
  cases L with
  | nil => rfl
  | cons a L => exact capE_dedupInto L u v a

theorem hasKey_dedupInto (L : List Edge) (u v : Nat) : ∀ cur,
    HasKey (dedupInto cur L) u v ↔ HasKey (cur :: L) u v := by
  induction L with
  | nil => intro cur; rfl
  | cons a L ih =>
    intro cur
    simp only [dedupInto]
    split
    · rename_i hc
      rw [ih, hasKey_cons, hasKey_cons, hasKey_cons, hc.1, hc.2, or_self_left]
    · rw [hasKey_cons, ih, hasKey_cons cur]

theorem hasKey_dedupMerge (L : List Edge) (u v : Nat) : HasKey (dedupMerge L) u v ↔ HasKey L u v := by
  cases L with
  | nil => rfl
  | cons a L => exact hasKey_dedupInto L u v a

theorem dedupInto_nonneg (L : List Edge) : ∀ cur, (∀ y ∈ cur :: L, 0 ≤ y.cap) →
    ∀ y ∈ dedupInto cur L, 0 ≤ y.cap := by
  induction L with
  | nil => intro cur h; exact h
  | cons a L ih =>
    intro cur h
    simp only [List.forall_mem_cons] at h
    simp only [dedupInto]
    split
    · exact ih _ (List.forall_mem_cons.mpr ⟨Int.add_nonneg h.1 h.2.1, h.2.2⟩)
    · exact List.forall_mem_cons.mpr ⟨h.1, ih a (List.forall_mem_cons.mpr h.2)⟩

theorem dedupInto_ltK (L : List Edge) : ∀ cur, (∀ y ∈ L, LeK cur y) → L.Pairwise LeK →
    (dedupInto cur L).Pairwise LtK ∧ ∀ y ∈ dedupInto cur L, LeK cur y := by
  induction L with
  | nil =>
    intro cur _ _
    exact ⟨List.pairwise_singleton _ _, fun y hy => List.mem_singleton.mp hy ▸ LeK.refl cur⟩
  | cons a L ih =>
    intro cur hle hp
    rw [List.pairwise_cons] at hp
    simp only [dedupInto]
    split
    · exact ih { cur with cap := cur.cap + a.cap } (fun y hy => hle y (List.mem_cons_of_mem _ hy)) hp.2
    · rename_i hc
      obtain ⟨i1, i2⟩ := ih a hp.1 hp.2
      have hlt : LtK cur a := (hle a List.mem_cons_self).lt_of_key_ne hc
      refine ⟨List.pairwise_cons.mpr ⟨fun y hy => hlt.trans_le (i2 y hy), i1⟩, fun y hy => ?_⟩
      rcases List.mem_cons.mp hy with rfl | h1
      · exact LeK.refl _
      · exact (hlt.trans_le (i2 y h1)).le

theorem dedupMerge_ltK (L : List Edge) (h : L.Pairwise LeK) : (dedupMerge L).Pairwise LtK := by
  cases L with
  | nil => exact List.Pairwise.nil
  | cons a L =>
    rw [List.pairwise_cons] at h
    exact (dedupInto_ltK L a h.1 h.2).1

theorem dedupMerge_nonneg (L : List Edge) (h : ∀ y ∈ L, 0 ≤ y.cap) : ∀ y ∈ dedupMerge L, 0 ≤ y.cap := by
  cases L with
  | nil => exact h
  | cons a L => exact dedupInto_nonneg L a h

/-- the list handed to `csr` by Dinic's constructor (`le = leST`); the EdmondsKarp / FordFulkerson constructor
    (`le = leOrd`) sorts it once more, which changes nothing -/
def mergedList (le : Edge → Edge → Bool) (es : List Edge) : List Edge := dedupMerge (sortBy le (extend es))

theorem mergedList_ltK (le : Edge → Edge → Bool) (hle : KeyLe le) (es : List Edge) :
    (mergedList le es).Pairwise LtK :=
  dedupMerge_ltK _ (sortBy_leK le hle _)

theorem capE_mergedList (le : Edge → Edge → Bool) (es : List Edge) (u v : Nat) :
    capE (mergedList le es) u v = capE es u v := by
  rw [mergedList, capE_dedupMerge, capE_sortBy, extend, capE, List.map_append, List.sum_append, List.map_map]
  have : (es.map ((fun e => if e.src = u ∧ e.tgt = v then e.cap else 0) ∘
      fun e => ({ src := e.tgt, tgt := e.src, cap := 0 } : Edge))).sum = 0 := by
    induction es with
    | nil => rfl
    | cons a L ih => rw [List.map_cons, List.sum_cons, ih]; simp
  rw [this, Int.add_zero]; rfl

theorem hasKey_mergedList (le : Edge → Edge → Bool) (es : List Edge) (u v : Nat) :
    HasKey (mergedList le es) u v ↔ HasKey es u v ∨ HasKey es v u := by
  rw [mergedList, hasKey_dedupMerge, hasKey_sortBy, hasKey_extend]

theorem mergedList_nonneg (le : Edge → Edge → Bool) (es : List Edge) (hnn : ∀ e ∈ es, 0 ≤ e.cap) :
    ∀ y ∈ mergedList le es, 0 ≤ y.cap := by
  refine dedupMerge_nonneg _ fun y hy => ?_
  rcases List.mem_append.mp ((mem_sortBy le y _).mp hy) with h | h
  · exact hnn y h
  · obtain ⟨e, _, rfl⟩ := List.mem_map.mp h; exact Int.le_refl _

theorem LtK.srcSorted {L : List Edge} (h : L.Pairwise LtK) : SrcSorted L :=
  h.imp fun h => by unfold LtK at h; omega

theorem csr_props (L es : List Edge) (h1 : L.Pairwise LtK) (h2 : ∀ u v, capE L u v = capE es u v)
    (h3 : ∀ u v, HasKey L u v ↔ HasKey es u v ∨ HasKey es v u) (h4 : ∀ y ∈ L, 0 ≤ y.cap) :
    WF (csr L) ∧ (csr L).numNodes = maxId es + 1 ∧ NonNeg (csr L) ∧ ∀ u v, rOf (csr L) u v = capE es u v := by
  have hs := LtK.srcSorted h1
  refine ⟨csr_wf _ hs, by rw [csr_numNodes _ hs, maxId_eq_of_keys L es h3], ?_,
    fun u v => by rw [csr_rOf _ hs, h2]⟩
  intro e
  rw [csr_cap]
  rcases Nat.lt_or_ge e L.length with hlt | hge
  · exact h4 _ (getD_mem _ e default hlt)
  · rw [List.getD_eq_getElem?_getD, List.getElem?_eq_none hge]; exact Int.le_refl _

theorem residualEK_eq (es : List Edge) : residualEK es = csr (mergedList leOrd es) :=
  congrArg csr (sortBy_eq_self leOrd leOrd_keyLe _ (mergedList_ltK leOrd leOrd_keyLe es))

theorem merge_cap (le : Edge → Edge → Bool) (hle : KeyLe le) (es : List Edge) (hnn : ∀ e, e ∈ es → 0 ≤ e.cap) :
    WF (csr (mergedList le es)) ∧ (csr (mergedList le es)).numNodes = maxId es + 1 ∧
    NonNeg (csr (mergedList le es)) ∧ ∀ u v, rOf (csr (mergedList le es)) u v = capE es u v :=
  csr_props _ es (mergedList_ltK le hle es) (capE_mergedList le es) (hasKey_mergedList le es)
    (mergedList_nonneg le es hnn)

theorem merge_cap_dinic (es : List Edge) (hnn : ∀ e, e ∈ es → 0 ≤ e.cap) :
    WF (residualDinic es) ∧ (residualDinic es).numNodes = maxId es + 1 ∧
    NonNeg (residualDinic es) ∧ ∀ u v, rOf (residualDinic es) u v = capE es u v :=
  merge_cap leST leST_keyLe es hnn

theorem merge_cap_ek (es : List Edge) (hnn : ∀ e, e ∈ es → 0 ≤ e.cap) :
    WF (residualEK es) ∧ (residualEK es).numNodes = maxId es + 1 ∧
    NonNeg (residualEK es) ∧ ∀ u v, rOf (residualEK es) u v = capE es u v := by
  rw [residualEK_eq]; exact merge_cap leOrd leOrd_keyLe es hnn

def toE (e : Edge) : E := (e.src, e.tgt, e.cap)

theorem capE_eq_capOf (es : List Edge) (u v : Nat) : capE es u v = capOf (es.map toE) u v := by
  induction es with
  | nil => rfl
  | cons a L ih => rw [capE_cons, ih]; simp [capOf, toE]

theorem maxId_eq_spec (es : List Edge) : maxId es = FlowSpec.maxId (es.map toE) := by
  apply Nat.le_antisymm
  · exact (maxId_le_iff es _).mpr fun e he => FlowTheory.le_maxId (es.map toE) (toE e) (List.mem_map_of_mem he)
  · refine (FlowTheory.maxId_le_iff (es.map toE) _).mpr fun x hx => ?_
    obtain ⟨e, he, rfl⟩ := List.mem_map.mp hx
    exact le_maxId es e he

theorem init_finv (g : Graph) (es : List Edge) (s t : Fin (nNodes (es.map toE)))
    (h : WF g ∧ g.numNodes = maxId es + 1 ∧ NonNeg g ∧ ∀ u v, rOf g u v = capE es u v) :
    FInv (cF (es.map toE) (nNodes (es.map toE))) s t g 0 := by
  obtain ⟨h1, h2, h3, h4⟩ := h
  have hrc : rF g (nNodes (es.map toE)) = cF (es.map toE) (nNodes (es.map toE)) := by
    funext u v; show rOf g u.val v.val = capOf (es.map toE) u.val v.val
    rw [h4, capE_eq_capOf]
  refine ⟨by rw [h2, maxId_eq_spec]; rfl, h1, h3, ⟨?_, ?_⟩, ?_, ?_⟩
  · intro u v; exact rOf_nonneg g h3 _ _
  · intro u v; rw [hrc]
  · intro u _ _; rw [hrc]; simp only [resFlow, sub_self, Finset.sum_const_zero]
  · rw [hrc]; simp only [value, resFlow, sub_self, Finset.sum_const_zero]

theorem residualEK_numNodes (es : List Edge) (hnn : ∀ e, e ∈ es → 0 ≤ e.cap) :
    (residualEK es).numNodes = nNodes (es.map toE) := by
  rw [(merge_cap_ek es hnn).2.1, maxId_eq_spec]; rfl

end Tbx.Flow
