import Tbx.Proofs.FlowAugment
import Tbx.Proofs.FlowGraph
import Tbx.Proofs.FlowChain
/-
What pushing flow along a path does to the CSR residual graph, for all three solvers.  One window of `pushPath` looks
up two edges and overwrites their capacities (`pushPath_cons`, through which the inductions over a push read the
model); a whole push along the node ids of a walk over `Fin n` changes the pair residuals by the walk indicator `chi`
of the flow theory (`pushPath_spec`) and keeps the state invariant `FInv` (well-formed CSR graph, non-negative
capacities, residual invariant, conservation, accumulated flow = value) while adding the amount to the value
(`push_finv`).  That no residual capacity becomes negative is seen on the edges: a push along a simple path lowers
only the capacities of the path's forward edges, by the pushed amount (`pushPath_cap_ge`, `pushPath_nonneg`); the
theory contributes the pair sums, conservation and the value (`augment_rev` of FlowAugment.lean).
-/
namespace Tbx.Flow
open Tbx Tbx.FlowTheory

def rF (g : Graph) (n : Nat) : Fin n → Fin n → ℤ := fun u v => rOf g u.val v.val

/-- the capacities after one window of `pushPath`: `pf` less on `fwd`, then `pf` more on `rev` -/
def pushCaps (c : Array Int) (fwd rev : Nat) (pf : ℤ) : Array Int :=
  st (st c fwd (gt c fwd - pf)) rev (gt (st c fwd (gt c fwd - pf)) rev + pf)

theorem pushCaps_ge (c : Array Int) (fwd rev : Nat) (pf : ℤ) (hpf : 0 ≤ pf) (e : Nat) :
    (if e = fwd then gt c e - pf else gt c e) ≤ gt (pushCaps c fwd rev pf) e := by
  have h1 : (if e = fwd then gt c e - pf else gt c e) ≤ gt (st c fwd (gt c fwd - pf)) e := by
    by_cases he : e = fwd
    · subst he; rw [if_pos rfl, gt_st]; split <;> omega
    · rw [if_neg he, gt_st_ne _ _ _ _ (Ne.symm he)]
  refine Int.le_trans h1 ?_
  unfold pushCaps
  rw [gt_st (st c fwd (gt c fwd - pf)) rev e]; split
  · rename_i hh; rw [hh.1]; exact Int.le_add_of_nonneg_right hpf
  · exact Int.le_refl _

theorem pushStep {g : Graph} (hwf : WF g) {a b rev fwd : Nat} (h1 : g.findEdge a b = some rev)
    (h2 : g.findEdge b a = some fwd) (pf : ℤ) :
    WF { g with cap := pushCaps g.cap fwd rev pf } ∧
    ∀ u v, rOf { g with cap := pushCaps g.cap fwd rev pf } u v =
      rOf g u v + ((if u = a ∧ v = b then pf else 0) - (if u = b ∧ v = a then pf else 0)) := by
  obtain ⟨_, hra, hta⟩ := findEdge_spec g a b rev h1
  obtain ⟨_, hrb, htb⟩ := findEdge_spec g b a fwd h2
  refine ⟨hwf.withCap _ (by simp [pushCaps]), fun u v => ?_⟩
  have hA := rOf_st hwf b a fwd (gt g.cap fwd - pf) hrb htb u v
  have hB := rOf_st (hwf.withCap (st g.cap fwd (gt g.cap fwd - pf)) (by simp)) a b rev
    (gt (st g.cap fwd (gt g.cap fwd - pf)) rev + pf) hra hta u v
  have e1 : gt g.cap fwd - pf - gt g.cap fwd = -pf := by rw [sub_right_comm, sub_self, zero_sub]
  have e2 : ∀ x : ℤ, x + pf - x = pf := fun x => add_sub_cancel_left x pf
  have e3 : (if u = b ∧ v = a then -pf else 0) = -(if u = b ∧ v = a then pf else 0) := by
    rw [apply_ite Neg.neg, Int.neg_zero]
  simp only [e1, e2, e3] at hA hB
  show rOf { g with cap := st (st g.cap fwd (gt g.cap fwd - pf)) rev _ } u v = _
  rw [hB, hA, Int.add_assoc, neg_add_eq_sub]

theorem pushPath_cons {g g' : Graph} {pf : ℤ} {a b : Nat} {rest : List Nat} :
    pushPath g pf (windows (a :: b :: rest)) = some g' ↔ ∃ rev fwd, g.findEdge a b = some rev ∧
      g.findEdge b a = some fwd ∧
      pushPath { g with cap := pushCaps g.cap fwd rev pf } pf (windows (b :: rest)) = some g' := by
  simp only [windows, pushPath]
  cases g.findEdge a b with
  | none => simp
  | some rev =>
    cases g.findEdge b a with
    | none => simp
    | some fwd => simp [pushCaps]

theorem pushPath_spec {n : Nat} (pf : ℤ) (p : List (Fin n)) : ∀ (g g' : Graph), WF g →
    pushPath g pf (windows (p.map Fin.val)) = some g' →
    g'.first = g.first ∧ g'.tgt = g.tgt ∧ WF g' ∧
    ∀ u v : Fin n, rOf g' u.val v.val = rOf g u.val v.val + pf * chi p u v := by
  induction p with
  | nil => intro g g' hwf h; cases h; simp [hwf, chi]
  | cons a tl ih =>
    cases tl with
    | nil => intro g g' hwf h; cases h; simp [hwf, chi]
    | cons b rest =>
      intro g g' hwf h
      obtain ⟨rev, fwd, h1, h2, h⟩ := pushPath_cons.mp h
      obtain ⟨hwf1, hstep⟩ := pushStep hwf h1 h2 pf
      obtain ⟨e1, e2, e3, e4⟩ := ih _ g' hwf1 h
      refine ⟨e1, e2, e3, fun u v => ?_⟩
      rw [e4, hstep, chi, Int.mul_add, Int.add_assoc, Int.mul_sub, mul_ite, mul_ite, Int.mul_one, Int.mul_zero]
      simp only [Fin.ext_iff]

theorem pushPath_cap_ge (pf : ℤ) (hpf : 0 ≤ pf) (path : List Nat) : ∀ (g g' : Graph), path.Nodup →
    pushPath g pf (windows path) = some g' → ∀ e, gt g.cap e - pf ≤ gt g'.cap e ∧
      ((∀ ab, ab ∈ windows path → g.findEdge ab.2 ab.1 ≠ some e) → gt g.cap e ≤ gt g'.cap e) := by
  have hsub : ∀ x : ℤ, x - pf ≤ x := fun x => Int.sub_le_self x hpf
  induction path with
  | nil => intro g g' _ h e; cases h; exact ⟨hsub _, fun _ => Int.le_refl _⟩
  | cons a tl ih =>
    cases tl with
    | nil => intro g g' _ h e; cases h; exact ⟨hsub _, fun _ => Int.le_refl _⟩
    | cons b rest =>
      intro g g' hnd h e
      obtain ⟨rev, fwd, h1, h2, h⟩ := pushPath_cons.mp h
      obtain ⟨i1, i2⟩ := ih _ g' (List.nodup_cons.mp hnd).2 h e
      simp only [findEdge_cap_irrel] at i2
      have hge := pushCaps_ge g.cap fwd rev pf hpf e
      -- `fwd` leads into `a`, which does not occur again: no later window names it
      have hlater : e = fwd → ∀ ab, ab ∈ windows (b :: rest) → g.findEdge ab.2 ab.1 ≠ some e := by
        rintro rfl ab hab he
        have h1' : ab.1 = a := by rw [← (findEdge_spec g _ _ _ he).2.2, (findEdge_spec g b a _ h2).2.2]
        exact (List.nodup_cons.mp hnd).1 (h1' ▸ (mem_windows hab).1)
      constructor
      · by_cases he : e = fwd
        · rw [if_pos he] at hge; exact Int.le_trans hge (i2 (hlater he))
        · rw [if_neg he] at hge; exact Int.le_trans (Int.sub_le_sub_right hge pf) i1
      · intro hno
        have he : e ≠ fwd := fun he => hno (a, b) (mem_windows_head a b rest) (he ▸ h2)
        rw [if_neg he] at hge
        exact Int.le_trans hge (i2 fun ab hab => hno ab (mem_windows_tail a hab))

theorem pushPath_nonneg (pf : ℤ) (hpf : 0 ≤ pf) (path : List Nat) (g g' : Graph) (hnn : NonNeg g)
    (hnd : path.Nodup)
    (hcap : ∀ ab, ab ∈ windows path → ∀ e, g.findEdge ab.2 ab.1 = some e → pf ≤ gt g.cap e)
    (h : pushPath g pf (windows path) = some g') : NonNeg g' := by
  intro e
  obtain ⟨i1, i2⟩ := pushPath_cap_ge pf hpf path g g' hnd h e
  by_cases hw : ∃ ab, ab ∈ windows path ∧ g.findEdge ab.2 ab.1 = some e
  · obtain ⟨ab, hab, he⟩ := hw
    exact Int.le_trans (Int.sub_nonneg_of_le (hcap ab hab e he)) i1
  · exact Int.le_trans (hnn e) (i2 fun ab hab he => hw ⟨ab, hab, he⟩)

structure FInv {n : Nat} (c : Fin n → Fin n → ℤ) (s t : Fin n) (g : Graph) (flow : ℤ) : Prop where
  hn   : g.numNodes = n
  wf   : WF g
  nn   : NonNeg g
  inv  : ResInv c (rF g n)
  cons : Conserved c (rF g n) s t
  val  : value (resFlow c (rF g n)) s = flow

theorem push_finv {n : Nat} {c : Fin n → Fin n → ℤ} {s t : Fin n} (hst : s ≠ t)
    (g : Graph) (flow : ℤ) (hi : FInv c s t g flow) (tail : List Nat) (hnd : (t.val :: tail).Nodup)
    (hlast : (t.val :: tail).getLast? = some s.val) (hlt : ∀ y, y ∈ t.val :: tail → y < g.numNodes)
    (pf : ℤ) (hpf : 0 ≤ pf)
    (hcap : ∀ ab, ab ∈ windows (t.val :: tail) → ∃ e, g.findEdge ab.2 ab.1 = some e ∧ pf ≤ gt g.cap e)
    (g' : Graph) (hpush : pushPath g pf (windows (t.val :: tail)) = some g') :
    FInv c s t g' (flow + pf) ∧ g'.first = g.first ∧ g'.tgt = g.tgt := by
  have hnn' : NonNeg g' := pushPath_nonneg pf hpf (t.val :: tail) g g' hi.nn hnd (fun ab hab e he => by
    obtain ⟨e', h1, h2⟩ := hcap ab hab
    rw [he] at h1; cases h1; exact h2) hpush
  -- pair sums, conservation and value: `augment_rev` speaks of walks over `Fin n`, so the path becomes such a list
  obtain ⟨rest, hrest⟩ : ∃ rest : List (Fin n), rest.map Fin.val = tail :=
    ⟨tail.pmap Fin.mk fun y hy => hi.hn ▸ hlt y (List.mem_cons_of_mem _ hy),
      by rw [List.map_pmap, List.pmap_eq_map, List.map_id']⟩
  have hmap : (t :: rest).map Fin.val = t.val :: tail := by rw [List.map_cons, hrest]
  obtain ⟨p1, p2, hwf', p4⟩ := pushPath_spec pf (t :: rest) g g' hi.wf (hmap ▸ hpush)
  have hlastF : (t :: rest).getLast (by simp) = s := by
    rw [← hmap, List.getLast?_map, List.getLast?_eq_some_getLast (by simp)] at hlast
    exact Fin.ext (Option.some.inj hlast)
  have hrF : rF g' n = fun u v => rF g n u v + pf * chi (t :: rest) u v := funext fun u => funext fun v => p4 u v
  obtain ⟨a1, a2, a3⟩ := augment_rev hst hi.inv.pair hi.cons pf rest hlastF
  rw [← hrF] at a2 a3
  exact ⟨⟨by unfold Graph.numNodes; rw [p1]; exact hi.hn, hwf', hnn',
    ⟨fun u v => rOf_nonneg g' hnn' _ _, fun u v => by rw [hrF]; exact a1 u v⟩, a2, by rw [a3, hi.val]⟩, p1, p2⟩

end Tbx.Flow
