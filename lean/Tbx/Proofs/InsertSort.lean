/-
Insertion sort, once.  The models and specifications contain several insertion functions: `Sorting.ins`,
`Huff.insertSorted` (on `Int`), `Geo.insertNat`, `Geo.insertLonLat`, `InertialFlow.insertByKey`, `Flow.insertSorted le`,
`Dijkstra.insertSorted` (edges; test a `Bool`), and, walking past `y` while a test holds instead of stopping before
the first `y` that passes one, `Csr.insertSorted` and `SList.insertSorted` (the latter with the arguments in the other
order).  Nothing here defines a generic insertion: every lemma takes ANY function `ins` that satisfies the two
recursion equations

    ins x []       = [x]
    ins x (y :: l) = if c x y then x :: y :: l else y :: ins x l

which at a model hold by `fun _ => rfl` and `fun _ _ _ => rfl` (`c` and its `Decidable` instance are found
by unification, whether the model's test is a `Prop` or a `Bool`; a model with the branches the other way
round has `c x y := ¬ t y x` and proves the second equation by `fun _ _ _ => (ite_not ..).symm`).  The sort
level takes any `srt` with `srt [] = []` and `srt (x :: l) = ins x (srt l)` (both `rfl` for a structural
recursion and for `l.foldr ins []`), or the `foldl` form literally.  Core Lean only.
-/
namespace Tbx.InsertSort

variable {α : Type _} {R : α → α → Prop} {ins : α → List α → List α}

section ins
variable {c : α → α → Prop} {dec : ∀ x y, Decidable (c x y)} (ins) (hnil : ∀ x, ins x [] = [x])
  (hcons : ∀ x y l, ins x (y :: l) = if c x y then x :: y :: l else y :: ins x l)
include hnil hcons

theorem perm_ins (x : α) (l : List α) : (ins x l).Perm (x :: l) := by
  induction l with
  | nil => rw [hnil]
  | cons y ys ih =>
    rw [hcons]; split
    · exact .refl _
    · exact (ih.cons y).trans (.swap x y ys)

theorem mem_ins {z x : α} {l : List α} : z ∈ ins x l ↔ z = x ∨ z ∈ l :=
  (perm_ins ins hnil hcons x l).mem_iff.trans List.mem_cons

theorem pairwise_ins (x : α) (l : List α) (hl : l.Pairwise R) (tr : ∀ {a b d}, R a b → R b d → R a d)
    (h : ∀ y ∈ l, (c x y → R x y) ∧ (¬ c x y → R y x)) : (ins x l).Pairwise R := by
  induction l with
  | nil => rw [hnil]; exact List.pairwise_singleton R x
  | cons y ys ih =>
    have ⟨hy, hys⟩ := List.pairwise_cons.mp hl
    have ⟨h1, h2⟩ := h y List.mem_cons_self
    rw [hcons]; split <;> rename_i hc <;> refine List.pairwise_cons.mpr ⟨fun z hz => ?_, ?_⟩
    · exact (List.mem_cons.mp hz).elim (· ▸ h1 hc) fun hz => tr (h1 hc) (hy z hz)
    · exact hl
    · exact ((mem_ins ins hnil hcons).mp hz).elim (· ▸ h2 hc) (hy z)
    · exact ih hys fun z hz => h z (List.mem_cons_of_mem _ hz)

end ins

theorem perm_sort (srt : List α → List α) (hins : ∀ x l, (ins x l).Perm (x :: l)) (h0 : srt [] = [])
    (h1 : ∀ x l, srt (x :: l) = ins x (srt l)) (l : List α) : (srt l).Perm l := by
  induction l with
  | nil => rw [h0]
  | cons x xs ih => rw [h1]; exact (hins x _).trans (ih.cons x)

theorem pairwise_sort (srt : List α → List α) (hins : ∀ x l, l.Pairwise R → (ins x l).Pairwise R)
    (h0 : srt [] = []) (h1 : ∀ x l, srt (x :: l) = ins x (srt l)) (l : List α) : (srt l).Pairwise R := by
  induction l with
  | nil => rw [h0]; exact .nil
  | cons x xs ih => rw [h1]; exact hins x _ ih

theorem perm_foldl (hins : ∀ x l, (ins x l).Perm (x :: l)) (l acc : List α) :
    (l.foldl (fun a e => ins e a) acc).Perm (l ++ acc) := by
  induction l generalizing acc with
  | nil => exact .refl _
  | cons x xs ih => exact (ih _).trans (((hins x acc).append_left xs).trans List.perm_middle)

theorem pairwise_foldl (hins : ∀ x l, l.Pairwise R → (ins x l).Pairwise R) (l acc : List α)
    (h : acc.Pairwise R) : (l.foldl (fun a e => ins e a) acc).Pairwise R := by
  induction l generalizing acc with
  | nil => exact h
  | cons x xs ih => exact ih _ (hins x acc h)

end Tbx.InsertSort
