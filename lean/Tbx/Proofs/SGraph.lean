import Tbx.Model.StaticGraph
import Tbx.Proofs.Offsets
/-
Lemmas about the static graph model: the offset computation on a list sorted by source (`cntLt inp i` = number of
edges with source < i is the offset of node i; the loops themselves are proved in `Proofs/Offsets.lean`, as is the
loop of the edge search, `findLoop`), and what lies between two consecutive offsets: the input edges of one source,
in input order (`slice_adj`: the positions are those of `Offsets.mem_slice_iff`, and a filter whose hits are the
positions of an interval is that slice of the list, `filter_eq_slice`).  The dynamic graph's constructor rests on
this module as well.
-/
namespace Tbx.SG
open Tbx Offsets

theorem getD_eq {α : Type} (l : List α) (i : Nat) (d : α) (h : i < l.length) : l.getD i d = l[i] := by
  simp [List.getD_eq_getElem?_getD, h]

def SortedBySrc (inp : List InEdge) : Prop := inp.Pairwise fun a b => a.src ≤ b.src

def cntLt (inp : List InEdge) (i : Nat) : Nat := (inp.filter fun e => decide (e.src < i)).length

theorem cntLt_le_length (inp : List InEdge) (i : Nat) : cntLt inp i ≤ inp.length :=
  List.length_filter_le _ _

theorem cntLt_mono (inp : List InEdge) (i : Nat) : cntLt inp i ≤ cntLt inp (i + 1) := by
  unfold cntLt
  rw [← List.countP_eq_length_filter, ← List.countP_eq_length_filter]
  exact List.countP_mono_left fun e _ he => decide_eq_true (Nat.lt_succ_of_lt (of_decide_eq_true he))

/-- the constructor's loops are the shared ones, read at `src j = (inp.getD j default).src` -/
theorem loops (inp : List InEdge) : Skip (fun j => (inp.getD j default).src) inp.length (skipLoop inp) ∧
    Offs inp.length (skipLoop inp) (offsetsLoop inp) :=
  ⟨⟨fun _ _ => rfl, fun _ _ _ => rfl⟩, ⟨fun _ _ _ => rfl, fun _ _ _ _ => rfl⟩⟩

theorem cntLt_eq (inp : List InEdge) (i : Nat) :
    cntLt inp i = cntBelow (fun j => (inp.getD j default).src) inp.length i :=
  List.countP_eq_length_filter.symm.trans (countP_eq_cntBelow InEdge.src inp i)

/-- the positions from the offset of `v` up to the offset of `v + 1` are those of the edges of source `v` -/
theorem mem_slice_iff (inp : List InEdge) (hs : SortedBySrc inp) (v e : Nat) :
    cntLt inp v ≤ e ∧ e < cntLt inp (v + 1) ↔ e < inp.length ∧ (inp.getD e default).src = v :=
  cntLt_eq inp v ▸ cntLt_eq inp (v + 1) ▸ Offsets.mem_slice_iff (mono_getD InEdge.src hs) v e

/-- the inner `while` lands on the offset of the next node -/
theorem skipLoop_eq (inp : List InEdge) (hs : SortedBySrc inp) (i fuel off : Nat)
    (h1 : cntLt inp i ≤ off) (h2 : off ≤ cntLt inp (i + 1)) (hf : inp.length - off ≤ fuel) :
    skipLoop inp i fuel off = cntLt inp (i + 1) := by
  rw [cntLt_eq] at h1 h2 ⊢
  exact (loops inp).1.eq (mono_getD InEdge.src hs) fuel off h1 h2 hf

theorem cntLt_zero (inp : List InEdge) : cntLt inp 0 = 0 := by
  simp [cntLt]

theorem cntLt_all (inp : List InEdge) (i : Nat) (h : ∀ e ∈ inp, e.src < i) : cntLt inp i = inp.length := by
  unfold cntLt
  rw [List.filter_eq_self.mpr]
  intro e he
  simp [h e he]

/-- when the entries of `l` that satisfy `p` are those at the positions `b ≤ j < b + k` -/
theorem filter_eq_slice {α : Type} (p : α → Bool) : ∀ (l : List α) (b k : Nat),
    (∀ j (hj : j < l.length), p l[j] = true ↔ b ≤ j ∧ j < b + k) → l.filter p = (l.drop b).take k
  | [], _, _, _ => by simp
  | a :: t, b, k, h => by
    have h0 : p a = true ↔ b ≤ 0 ∧ 0 < b + k := h 0 (Nat.succ_pos _)
    -- the tail with the interval `[b', b' + k')` moved down by one
    have ht : ∀ b' k', (∀ j, b' ≤ j ∧ j < b' + k' ↔ b ≤ j + 1 ∧ j + 1 < b + k) → t.filter p = (t.drop b').take k' :=
      fun b' k' e => filter_eq_slice p t b' k' fun j hj => (h (j + 1) (Nat.succ_lt_succ hj)).trans (e j).symm
    rw [List.filter_cons]
    cases b with
    | succ b =>
      rw [if_neg fun hp => absurd (h0.mp hp).1 (Nat.not_succ_le_zero b), List.drop_succ_cons]
      exact ht b k fun j => Nat.succ_add b k ▸ and_congr Nat.succ_le_succ_iff.symm Nat.succ_lt_succ_iff.symm
    | zero =>
      cases k with
      | zero =>
        rw [if_neg fun hp => absurd (h0.mp hp).2 (Nat.lt_irrefl 0)]
        exact (ht 0 0 fun j => iff_of_false (fun h => Nat.not_lt_zero _ h.2) fun h => Nat.not_lt_zero _ h.2).trans (by simp)
      | succ k =>
        rw [if_pos (h0.mpr ⟨Nat.le_refl 0, Nat.succ_pos _⟩), ht 0 k fun j =>
          and_congr (iff_of_true (Nat.zero_le _) (Nat.zero_le _)) Nat.succ_lt_succ_iff.symm]
        rfl

/-- `filter_eq_slice` read by index: `g j` is what `f` makes of the entry at position `j` -/
theorem map_slice_eq {α β : Type} (p : α → Bool) (f : α → β) (g : Nat → β) (l : List α) (b k : Nat) (hb : b + k ≤ l.length)
    (hp : ∀ j (hj : j < l.length), p l[j] = true ↔ b ≤ j ∧ j < b + k) (hg : ∀ j (hj : j < l.length), g j = f l[j]) :
    (List.range' b k).map g = (l.filter p).map f := by
  rw [filter_eq_slice p l b k hp]
  apply List.ext_getElem
  · rw [List.length_map, List.length_range', List.length_map, List.length_take, List.length_drop]
    exact (Nat.min_eq_left (Nat.le_sub_of_add_le' hb)).symm
  · intro i h1 h2
    simp only [List.getElem_map, List.getElem_range', List.getElem_take, List.getElem_drop, Nat.one_mul]
    exact hg _ _

theorem slice_adj (inp : List InEdge) (hs : SortedBySrc inp) (v : Nat) :
    (List.range' (cntLt inp v) (cntLt inp (v + 1) - cntLt inp v)).map
      (fun e => ((gt (inp.map fun x => (⟨x.tgt, x.data⟩ : EEntry)).toArray e).tgt,
                 (gt (inp.map fun x => (⟨x.tgt, x.data⟩ : EEntry)).toArray e).data))
    = (inp.filter fun e => e.src == v).map fun e => (e.tgt, e.data) := by
  have hle := Nat.add_sub_cancel' (cntLt_mono inp v)
  refine map_slice_eq _ _ _ inp _ _ (hle.symm ▸ cntLt_le_length inp (v + 1)) (fun j hj => ?_) fun j hj => by simp [gt, hj]
  rw [hle, mem_slice_iff inp hs v j, beq_iff_eq, getD_eq inp j default hj]
  exact (and_iff_right hj).symm

end Tbx.SG
