import Tbx.Model.AHeap
/-
Heap order with a hole: the element being sifted is imagined in the hole (`wt`).  One step of
`upLoop` keeps `OrdW` and `Below`, closing the hole gives `Ord`; a new or lowered slot of an ordered
heap is such a hole (`Ord.hole`).  Sift-down is the mirror image: one step moves the lighter child up into the hole and
keeps `OrdD` and `Below` (the hole's children dominate the hole's parent, which is what allows the move).
-/
namespace Tbx.AHeap
open Tbx

def wt (h : Array Elem) (hole : Nat) (w : Int) (k : Nat) : Int := if k = hole then w else (gt h k).weight

/-- heap order of the completed array, except possibly on the edge (hole/2, hole) -/
def OrdW (h : Array Elem) (hole : Nat) (w : Int) : Prop :=
  ∀ k, 2 ≤ k → k < h.size → k ≠ hole → wt h hole w (k/2) ≤ wt h hole w k

def Below (h : Array Elem) (hole : Nat) : Prop :=
  ∀ k, 2 ≤ k → k < h.size → k / 2 = hole → (gt h (hole/2)).weight ≤ (gt h k).weight

def Ord (h : Array Elem) : Prop :=
  ∀ k, 2 ≤ k → k < h.size → (gt h (k/2)).weight ≤ (gt h k).weight

/-- heap order of the completed array, except possibly on the edges from the hole to its children -/
def OrdD (h : Array Elem) (hole : Nat) (w : Int) : Prop :=
  ∀ k, 2 ≤ k → k < h.size → k / 2 ≠ hole → wt h hole w (k/2) ≤ wt h hole w k

theorem wt_hole (h : Array Elem) (hole : Nat) (w : Int) : wt h hole w hole = w := if_pos rfl

theorem wt_ne {h : Array Elem} {hole k : Nat} (w : Int) (e : k ≠ hole) : wt h hole w k = (gt h k).weight :=
  if_neg e

theorem up_step_ord (h : Array Elem) (key : Nat) (w : Int) (hk2 : 2 ≤ key) (hk : key < h.size)
    (hgt : w < (gt h (key / 2)).weight) (ho : OrdW h key w) (hb : Below h key) :
    OrdW (st h key (gt h (key / 2))) (key / 2) w ∧
    (2 ≤ key / 2 → Below (st h key (gt h (key / 2))) (key / 2)) := by
  have hlt : key / 2 < key := Nat.div_lt_self (by omega) (by decide)
  have hp : key / 2 ≠ key := Nat.ne_of_lt hlt
  constructor
  · intro k k2 kh kp
    rw [size_st] at kh
    rw [wt_ne w kp]
    by_cases e1 : k = key
    · -- the old hole now holds the old parent's element and its parent is the new hole
      rw [e1, wt_hole, gt_st_eq _ _ _ hk]; exact Int.le_of_lt hgt
    · have o := ho k k2 kh e1
      rw [wt_ne w e1] at o
      rw [gt_st_ne _ _ _ _ (Ne.symm e1)]
      by_cases e2 : k / 2 = key
      · -- child of the old hole: its parent slot now holds the old parent's element
        rw [e2, wt_ne w (Ne.symm hp), gt_st_eq _ _ _ hk]; exact hb k k2 kh e2
      · rw [wt_ne w e2] at o
        by_cases e3 : k / 2 = key / 2
        · -- sibling of the old hole: its parent is the new hole
          rw [e3, wt_hole]; rw [e3] at o; exact Int.le_trans (Int.le_of_lt hgt) o
        · rw [wt_ne w e3, gt_st_ne _ _ _ _ (Ne.symm e2)]; exact o
  · -- children of the new hole: the old hole (now holding the old parent's element) or its sibling
    intro h22 k k2 kh e
    rw [size_st] at kh
    have hgp : key / 2 / 2 ≠ key := Nat.ne_of_lt (Nat.lt_trans (Nat.div_lt_self (by omega) (by decide)) hlt)
    have o2 := ho (key / 2) h22 (Nat.lt_trans hlt hk) hp
    rw [wt_ne w hp, wt_ne w hgp] at o2
    rw [gt_st_ne _ _ _ _ (Ne.symm hgp)]
    by_cases e1 : k = key
    · rw [e1, gt_st_eq _ _ _ hk]; exact o2
    · have o1 := ho k k2 kh e1
      rw [wt_ne w e1, wt_ne w (e ▸ hp), e] at o1
      rw [gt_st_ne _ _ _ _ (Ne.symm e1)]; exact Int.le_trans o2 o1

/-- the order half of sift-up (the pointer half is `upLoop_pinv`); the fourth conjunct is what `close_hole` asks -/
theorem upLoop_spec (fuel : Nat) (h : Array Elem) (ns : Array Node) (key : Nat) (w : Int)
    (hk : key < h.size) (hf : key ≤ fuel)
    (hs0 : (gt h 0).weight ≤ w)
    (ho : OrdW h key w) (hb : 2 ≤ key → Below h key) :
    (upLoop fuel h ns key w).1.size = h.size ∧ (upLoop fuel h ns key w).2.2 < h.size ∧
    OrdW (upLoop fuel h ns key w).1 (upLoop fuel h ns key w).2.2 w ∧
    (2 ≤ (upLoop fuel h ns key w).2.2 →
       (gt (upLoop fuel h ns key w).1 ((upLoop fuel h ns key w).2.2/2)).weight ≤ w) ∧
    (1 ≤ key → 1 ≤ (upLoop fuel h ns key w).2.2) := by
  induction fuel generalizing h ns key with
  | zero =>
    have : key = 0 := by omega
    subst this
    simp only [upLoop]
    exact ⟨trivial, hk, ho, by omega, by omega⟩
  | succ fuel ih =>
    simp only [upLoop]
    split
    · rename_i hgt
      -- the sentinel stops the loop at the root at the latest
      have hk2 : 2 ≤ key := by
        apply Nat.le_of_not_lt; intro h1
        rw [Nat.div_eq_of_lt h1] at hgt
        exact absurd hs0 (Int.not_le.mpr hgt)
      have hk0 : key ≠ 0 := Nat.ne_of_gt (Nat.lt_of_lt_of_le Nat.zero_lt_two hk2)
      have hlt : key / 2 < key := Nat.div_lt_self (Nat.pos_of_ne_zero hk0) (by decide)
      obtain ⟨so, sb⟩ := up_step_ord h key w hk2 hk hgt ho (hb hk2)
      obtain ⟨a, b, c, d, e⟩ := ih (st h key (gt h (key / 2))) _ (key / 2)
        ((size_st h _ _).symm ▸ Nat.lt_trans hlt hk) (Nat.le_of_lt_succ (Nat.lt_of_lt_of_le hlt hf))
        (by rw [gt_st_ne _ _ _ _ hk0]; exact hs0) so sb
      exact ⟨a.trans (size_st _ _ _), (size_st h _ _) ▸ b, c, d,
        fun _ => e ((Nat.le_div_iff_mul_le Nat.two_pos).2 hk2)⟩
    · rename_i hle
      exact ⟨rfl, hk, ho, fun _ => Int.not_lt.mp hle, fun h => h⟩

theorem close_hole (h : Array Elem) (hole : Nat) (w : Int) (i : Nat) (hk : hole < h.size)
    (ho : OrdW h hole w) (hp : 2 ≤ hole → (gt h (hole/2)).weight ≤ w) :
    Ord (st h hole ⟨i, w⟩) := by
  intro k h2 hk'
  rw [size_st] at hk'
  by_cases e1 : k = hole
  · rw [e1, gt_st_eq _ _ _ hk, gt_st_ne _ _ _ _ (by omega)]
    exact hp (e1 ▸ h2)
  · have o := ho k h2 hk' e1
    rw [wt_ne w e1] at o
    rw [gt_st_ne _ _ _ _ (Ne.symm e1)]
    by_cases e2 : k / 2 = hole
    · rw [e2, wt_hole] at o
      rw [e2, gt_st_eq _ _ _ hk]; exact o
    · rw [wt_ne w e2] at o
      rw [gt_st_ne _ _ _ _ (Ne.symm e2)]; exact o

theorem Ord.hole {h h' : Array Elem} {key : Nat} {w : Int} (ho : Ord h)
    (hne : ∀ k, k < h'.size → k ≠ key → k < h.size ∧ gt h' k = gt h k)
    (hw : key < h.size → w ≤ (gt h key).weight) :
    OrdW h' key w ∧ (2 ≤ key → Below h' key) := by
  have up : ∀ k, 2 ≤ k → k / 2 < k := fun k k2 => Nat.div_lt_self (by omega) (by decide)
  constructor
  · intro k k2 kh kne
    obtain ⟨k3, e⟩ := hne k kh kne
    have o := ho k k2 k3
    rw [wt_ne w kne, e]
    by_cases e2 : k / 2 = key
    · rw [e2, wt_hole]
      exact Int.le_trans (hw (e2 ▸ Nat.lt_trans (up k k2) k3)) (e2 ▸ o)
    · rw [wt_ne w e2, (hne _ (Nat.lt_trans (up k k2) kh) e2).2]; exact o
  · intro h2 k k2 kh e2
    have hlt := e2 ▸ up k k2
    obtain ⟨k3, e⟩ := hne k kh (Nat.ne_of_gt hlt)
    rw [e, (hne _ (Nat.lt_trans (up key h2) (Nat.lt_trans hlt kh)) (Nat.ne_of_lt (up key h2))).2]
    exact Int.le_trans (ho key h2 (Nat.lt_trans hlt k3)) (e2 ▸ ho k k2 k3)

theorem down_step_ord (h : Array Elem) (key : Nat) (w : Int) (c : Nat)
    (h1 : 1 ≤ key) (hk : key < h.size) (hc2 : c / 2 = key) (hcs : c < h.size)
    (hmin : ∀ k, k < h.size → k / 2 = key → (gt h c).weight ≤ (gt h k).weight)
    (hle : (gt h c).weight ≤ w)
    (ho : OrdD h key w) (hb : 2 ≤ key → Below h key) :
    OrdD (st h key (gt h c)) c w ∧ Below (st h key (gt h c)) c := by
  have up : ∀ k, k / 2 = key → key < k := fun k e =>
    e ▸ Nat.div_lt_self (Nat.pos_of_div_pos (e.symm ▸ h1)) (by decide)
  have hck : key ≠ c := Nat.ne_of_lt (up c hc2)
  constructor
  · intro k k1 k2 k3
    rw [size_st] at k2
    rw [wt_ne w k3]
    by_cases e1 : k = c
    · rw [e1, wt_hole, hc2, gt_st_eq _ _ _ hk]; exact hle
    · rw [wt_ne w e1]
      by_cases e2 : k / 2 = key
      · rw [e2, gt_st_eq _ _ _ hk, gt_st_ne _ _ _ _ (Nat.ne_of_lt (up k e2))]
        exact hmin k k2 e2
      · have o := ho k k1 k2 e2
        rw [wt_ne w e2] at o
        rw [gt_st_ne _ _ _ _ (Ne.symm e2)]
        by_cases e3 : k = key
        · rw [e3, gt_st_eq _ _ _ hk]
          exact hb (e3 ▸ k1) c (Nat.le_trans (e3 ▸ k1) (Nat.le_of_lt (up c hc2))) hcs hc2
        · rw [wt_ne w e3] at o
          rw [gt_st_ne _ _ _ _ (Ne.symm e3)]; exact o
  · intro k k1 k2 k3
    rw [size_st] at k2
    have hkc : c < k := k3 ▸ Nat.div_lt_self (Nat.lt_of_lt_of_le Nat.zero_lt_two k1) (by decide)
    have hne : k / 2 ≠ key := k3 ▸ Ne.symm hck
    have hne' : k ≠ key := Nat.ne_of_gt (Nat.lt_trans (up c hc2) hkc)
    have o := ho k k1 k2 hne
    rw [wt_ne w hne, wt_ne w hne', k3] at o
    rw [hc2, gt_st_eq _ _ _ hk, gt_st_ne _ _ _ _ (Ne.symm hne')]; exact o

theorem close_hole_down (h : Array Elem) (hole : Nat) (w : Int) (i : Nat) (hk : hole < h.size)
    (ho : OrdD h hole w)
    (hc : ∀ k, 2 ≤ k → k < h.size → k / 2 = hole → w ≤ (gt h k).weight) :
    Ord (st h hole ⟨i, w⟩) := by
  intro k k1 k2
  rw [size_st] at k2
  by_cases e2 : k / 2 = hole
  · rw [e2, gt_st_eq _ _ _ hk, gt_st_ne _ _ _ _ (Nat.ne_of_lt (e2 ▸ Nat.div_lt_self (by omega) (by decide)))]
    exact hc k k1 k2 e2
  · have o := ho k k1 k2 e2
    rw [wt_ne w e2] at o
    rw [gt_st_ne _ _ _ _ (Ne.symm e2)]
    by_cases e1 : k = hole
    · rw [e1, wt_hole] at o
      rw [e1, gt_st_eq _ _ _ hk]; exact o
    · rw [wt_ne w e1] at o
      rw [gt_st_ne _ _ _ _ (Ne.symm e1)]; exact o

end Tbx.AHeap
