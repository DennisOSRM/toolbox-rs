import Tbx.Proofs.LruL1Move
import Tbx.Proofs.LruL0
/-
The pointer-level cache (L1) refines the recency list (L0): a simulation relation `Refines` that
every operation preserves while returning the same result, and under which no operation reaches
an error branch.  `Refines` contains the validity of the cursors stored in `access_map`.

The cache does four things to its list and map (`Refines.touch`, `setHead`, `evict`, `pushNew`); each is
proved once, with what it means for the recency list and for the values (`Conserved`), and every mutating
operation of `lru.rs` is one or two of them, composed with `Conserved.trans`.
-/
namespace Tbx.LruL1
open Tbx

set_option linter.unusedSectionVars false
variable {K V : Type} [DecidableEq K]

/-- `ch` is the chain (address, (key, value)) front first that ties the two states together -/
structure Refines (s1 : Lru K V) (s0 : LruL0.Cache K V) (ch : List (Nat × (K × V))) : Prop where
  wf : WF s1.list ch
  items : s0.items = ch.map (·.2)
  cursors : ∀ k a, s1.amap.get k = some a ↔ ∃ v, (a, (k, v)) ∈ ch
  maplen : s1.amap.len = ch.length
  cap : s0.cap = s1.cap
  cap_pos : 1 ≤ s1.cap
  inv : LruL0.Inv s0

theorem refines_new (cap : Nat) (hc : 1 ≤ cap) :
    ∃ s1, (Lru.new cap : Except Err (Lru K V)) = .ok s1 ∧ Refines s1 (LruL0.init cap) [] := by
  have : ¬ cap = 0 := by omega
  refine ⟨_, by simp [Lru.new, this]; rfl, wf_new, rfl, ?_, rfl, rfl, hc, LruL0.inv_init cap⟩
  intro k a; simp [AMap.empty]

def vals (ch : List (Nat × (K × V))) : List V := ch.map (·.2.2)

/-- across a step, dropped ∪ stored grows by exactly the values handed over (as multisets) -/
def Conserved (s1 : Lru K V) (ch : List (Nat × (K × V))) (s1' : Lru K V) (ch' : List (Nat × (K × V)))
    (nv : List V) : Prop :=
  (s1'.dropped ++ vals ch').Perm (s1.dropped ++ vals ch ++ nv)

theorem conserved_of_perm {s1 s1' : Lru K V} {ch ch' : List (Nat × (K × V))} {nv rel : List V}
    (hd : s1'.dropped = s1.dropped ++ rel) (hp : (rel ++ vals ch').Perm (vals ch ++ nv)) :
    Conserved s1 ch s1' ch' nv := by
  unfold Conserved
  rw [hd, List.append_assoc, List.append_assoc]
  exact hp.append_left _

theorem conserved_put {s1 s1' : Lru K V} {ch ch' : List (Nat × (K × V))} {v : V} {rel rest : List V}
    (hd : s1'.dropped = s1.dropped ++ rel) (hv : vals ch' = v :: rest) (hp : (vals ch).Perm (rel ++ rest)) :
    Conserved s1 ch s1' ch' [v] :=
  conserved_of_perm hd (hv ▸ (List.perm_middle.trans (List.perm_append_singleton v _).symm).trans
    (hp.symm.append_right [v]))

theorem conserved_refl (s1 : Lru K V) (ch : List (Nat × (K × V))) : Conserved s1 ch s1 ch [] :=
  conserved_of_perm (rel := []) (List.append_nil _).symm (by rw [List.append_nil]; exact List.Perm.refl _)

theorem Conserved.trans {a b c : Lru K V} {cha chb chc : List (Nat × (K × V))} {n1 n2 : List V}
    (h1 : Conserved a cha b chb n1) (h2 : Conserved b chb c chc n2) : Conserved a cha c chc (n1 ++ n2) :=
  List.Perm.trans h2 (by rw [← List.append_assoc]; exact List.Perm.append_right n2 h1)

namespace Refines
variable {s1 : Lru K V} {s0 : LruL0.Cache K V} {ch : List (Nat × (K × V))}

theorem keys_eq (r : Refines s1 s0 ch) : LruL0.keys s0 = ch.map (·.2.1) := by
  simp [LruL0.keys, r.items, List.map_map, Function.comp_def]

theorem contains_eq (r : Refines s1 s0 ch) (k : K) : LruL0.contains s0 k = (s1.amap.get k).isSome := by
  rw [Bool.eq_iff_iff, LruL0.contains_iff, r.keys_eq, Option.isSome_iff_exists]
  simp [r.cursors]

theorem len_eq (r : Refines s1 s0 ch) : s1.list.len = s0.items.length := by
  rw [r.wf.len, r.items]; simp

/-- `move_to_front` of the node `access_map` binds `k` to: a hit of the recency list's `get` -/
theorem touch (r : Refines s1 s0 ch) {k : K} {b : Nat} (hb : s1.amap.get k = some b) :
    ∃ sl v0 rest, s1.list.moveToFront b = .ok sl ∧ (LruL0.get s0 k).2 = some v0 ∧
      Refines { s1 with list := sl } (LruL0.get s0 k).1 ((b, (k, v0)) :: rest) ∧
      Conserved s1 ch { s1 with list := sl } ((b, (k, v0)) :: rest) [] := by
  obtain ⟨v0, hv⟩ := (r.cursors k b).1 hb
  obtain ⟨l1, l2, rfl⟩ := List.append_of_mem hv
  obtain ⟨sl, e1, wf1, _⟩ := moveToFront_wf s1.list l1 l2 b (k, v0) r.wf
  have hitems : s0.items = l1.map (·.2) ++ (k, v0) :: l2.map (·.2) := by rw [r.items]; simp
  have hn : (s0.items.map (·.1)).Nodup := r.inv.nodup
  rw [hitems] at hn
  obtain ⟨hfind, hrem⟩ := LruL0.find_remove_of_split _ _ k v0 hn
  rw [← hitems] at hfind hrem
  have hget : LruL0.get s0 k = ({ s0 with items := ((b, (k, v0)) :: (l1 ++ l2)).map (·.2) }, some v0) := by
    simp only [LruL0.get, hfind, hrem, List.map_cons, List.map_append]
  have hi := LruL0.inv_get s0 k r.inv
  rw [hget] at hi ⊢
  -- the chain is permuted: same bindings, same number, same values
  have hp : ((b, (k, v0)) :: (l1 ++ l2)).Perm (l1 ++ (b, (k, v0)) :: l2) := List.perm_middle.symm
  exact ⟨sl, v0, l1 ++ l2, e1, rfl,
    ⟨wf1, rfl, fun k' a => (r.cursors k' a).trans (exists_congr fun _ => hp.mem_iff.symm),
      r.maplen.trans hp.length_eq.symm, r.cap, r.cap_pos, hi⟩,
    conserved_of_perm (rel := []) (List.append_nil _).symm (by simpa [vals] using hp.map (·.2.2))⟩

/-- `*get_front_mut() = (k, v)` on the front node, which holds key `k`: the recency list's `setFront` -/
theorem setHead {f : Nat} {k : K} {v0 : V} {rest : List (Nat × (K × V))}
    (r : Refines s1 s0 ((f, (k, v0)) :: rest)) (v : V) :
    ∃ sl, s1.list.setFront (k, v) = .ok (sl, (k, v0)) ∧ (LruL0.setFront s0 v).2 = some (k, v0) ∧
      Refines { s1 with list := sl, dropped := s1.dropped ++ [v0] } (LruL0.setFront s0 v).1 ((f, (k, v)) :: rest) ∧
      Conserved s1 ((f, (k, v0)) :: rest) { s1 with list := sl, dropped := s1.dropped ++ [v0] }
        ((f, (k, v)) :: rest) [v] := by
  obtain ⟨sl, e, wf1, _⟩ := setFront_wf s1.list f (k, v0) (k, v) rest r.wf
  have hset : LruL0.setFront s0 v = ({ s0 with items := ((f, (k, v)) :: rest).map (·.2) }, some (k, v0)) := by
    simp [LruL0.setFront, r.items]
  have hi := LruL0.inv_setFront s0 v r.inv
  rw [hset] at hi ⊢
  refine ⟨sl, e, rfl, ⟨wf1, rfl, fun k' a => (r.cursors k' a).trans ?_, r.maplen, r.cap, r.cap_pos, hi⟩,
    conserved_put (rel := [v0]) rfl rfl (List.Perm.refl _)⟩
  simp [exists_or]

/-- `pop_back` with removal of the popped key from `access_map`: the last entry leaves the recency list -/
theorem evict {l : List (Nat × (K × V))} {a : Nat} {ek : K} {ev : V} (r : Refines s1 s0 (l ++ [(a, (ek, ev))])) :
    ∃ sl, s1.list.popBack = .ok (sl, some (ek, ev)) ∧
      Refines { s1 with list := sl, amap := s1.amap.remove ek, dropped := s1.dropped ++ [ev] }
        { s0 with items := s0.items.dropLast } l ∧
      Conserved s1 (l ++ [(a, (ek, ev))])
        { s1 with list := sl, amap := s1.amap.remove ek, dropped := s1.dropped ++ [ev] } l [] := by
  obtain ⟨sl, e, wf1, _⟩ := popBack_wf_concat s1.list l a (ek, ev) r.wf
  have hek : s1.amap.get ek = some a := (r.cursors ek a).2 ⟨ev, by simp⟩
  have hnk : (LruL0.keys s0).Nodup := r.inv.nodup
  have hekl : ∀ a' v', (a', (ek, v')) ∉ l := by
    rw [r.keys_eq, List.map_append, List.nodup_append] at hnk
    exact fun a' v' hm => hnk.2.2 ek (List.mem_map.2 ⟨_, hm, rfl⟩) ek (by simp) rfl
  refine ⟨sl, e, ⟨wf1, by rw [r.items]; simp, fun k' a' => ?_, ?_, r.cap, r.cap_pos, ?_, ?_⟩, conserved_of_perm rfl ?_⟩
  · show (if k' = ek then none else s1.amap.get k') = some a' ↔ _
    by_cases hk' : k' = ek
    · subst hk'; simp [hekl]
    · simp [hk', r.cursors]
  · simp only [AMap.remove, hek, Option.isSome_some, if_true, r.maplen, List.length_append, List.length_cons,
      List.length_nil, Nat.add_sub_cancel]
  · show (s0.items.dropLast.map (·.1)).Nodup
    exact List.map_dropLast ▸ r.inv.nodup.sublist (List.dropLast_sublist _)
  · have := r.inv.le_cap
    simp only [List.length_dropLast]; omega
  · simp only [vals, List.map_append, List.map_cons, List.map_nil, List.append_nil]
    exact (List.perm_append_singleton ev _).symm

/-- `push_front` of an entry whose key is not cached, with room left, and its binding in `access_map` -/
theorem pushNew (r : Refines s1 s0 ch) {k : K} (v : V) (hk : s1.amap.get k = none) (hroom : ch.length < s1.cap) :
    ∃ sl, s1.list.pushFront (k, v) = .ok (sl, s1.list.mem.cells.size) ∧
      Refines { s1 with list := sl, amap := s1.amap.insert k s1.list.mem.cells.size }
        { s0 with items := (k, v) :: s0.items } ((s1.list.mem.cells.size, (k, v)) :: ch) ∧
      Conserved s1 ch { s1 with list := sl, amap := s1.amap.insert k s1.list.mem.cells.size }
        ((s1.list.mem.cells.size, (k, v)) :: ch) [v] := by
  obtain ⟨sl, e, wf1, _⟩ := pushFront_wf s1.list ch (k, v) r.wf
  have hc : k ∉ LruL0.keys s0 := (LruL0.contains_false_iff s0 k).1 (by rw [r.contains_eq, hk]; rfl)
  refine ⟨sl, e, ⟨wf1, by rw [r.items]; rfl, fun k' a' => ?_, ?_, r.cap, r.cap_pos,
    List.nodup_cons.2 ⟨hc, r.inv.nodup⟩, ?_⟩, conserved_put (rel := []) (List.append_nil _).symm rfl (List.Perm.refl _)⟩
  · show (if k' = k then some _ else s1.amap.get k') = some a' ↔ _
    simp only [List.mem_cons, Prod.mk.injEq, exists_or, exists_and_left, ← r.cursors]
    by_cases hk' : k' = k
    · subst hk'; simp [hk, eq_comm]
    · simp [hk']
  · simp only [AMap.insert, hk, Option.isSome_none, Bool.false_eq_true, if_false, r.maplen, List.length_cons]
  · simp only [List.length_cons, r.items, List.length_map, r.cap]; omega

end Refines

theorem push_refines (s1 : Lru K V) (s0 : LruL0.Cache K V) (ch : List (Nat × (K × V)))
    (r : Refines s1 s0 ch) (k : K) (v : V) :
    ∃ s1' ch', Lru.push s1 k v = .ok s1' ∧ Refines s1' (LruL0.push s0 k v) ch' ∧
      Conserved s1 ch s1' ch' [v] := by
  have hlen : ¬ s1.list.len > s1.cap := by
    rw [r.len_eq, ← r.cap]; exact Nat.not_lt.2 r.inv.le_cap
  have hlenitems : s0.items.length = ch.length := by rw [r.items]; simp
  cases hb : s1.amap.get k with
  | some b =>
    -- move_to_front, then assignment through get_front_mut
    obtain ⟨sl1, v0, rest, e1, _, r1, c1⟩ := r.touch hb
    obtain ⟨sl2, e2, _, r2, c2⟩ := r1.setHead v
    refine ⟨_, _, ?_, ?_, c1.trans c2⟩
    · simp only [Lru.push, if_neg hlen, hb]
      rw [e1]; simp only []
      rw [e2]
    · rw [LruL0.push_hit s0 k v (by rw [r.contains_eq, hb]; rfl)]; exact r2
  | none =>
    have hc : LruL0.contains s0 k = false := by rw [r.contains_eq, hb]; rfl
    by_cases hfull : s1.amap.len = s1.cap
    · -- full: evict the back, then push_front
      have hne : ¬ s1.amap.len = 0 := by have := r.cap_pos; omega
      obtain ⟨l, ⟨a, ek, ev⟩, rfl⟩ : ∃ l y, ch = l ++ [y] :=
        (eq_nil_or_snoc ch).resolve_left fun e => hne (by rw [r.maplen, e]; rfl)
      obtain ⟨sl1, e1, r1, c1⟩ := r.evict
      have hroom : l.length < s1.cap := by rw [← hfull, r.maplen]; simp
      have hk : (s1.amap.remove ek).get k = none := by
        show (if k = ek then none else s1.amap.get k) = none
        split
        · rfl
        · exact hb
      obtain ⟨sl2, e2, r2, c2⟩ := r1.pushNew v hk hroom
      refine ⟨_, _, ?_, ?_, c1.trans c2⟩
      · simp only [Lru.push, if_neg hlen, hb, Lru.evictIfFull, if_pos hfull, if_neg hne]
        rw [e1]; simp only []
        rw [e2]
      · have : LruL0.push s0 k v = { s0 with items := (k, v) :: s0.items.dropLast } := by
          simp only [LruL0.push, hc, Bool.false_eq_true, if_false]
          rw [if_pos (by rw [hlenitems, ← r.maplen, hfull, r.cap])]
        rw [this]; exact r2
    · -- room left
      have hroom : ch.length < s1.cap := by
        have := r.inv.le_cap
        rw [hlenitems, r.cap] at this
        rw [r.maplen] at hfull
        omega
      obtain ⟨sl2, e2, r2, c2⟩ := r.pushNew v hb hroom
      refine ⟨_, _, ?_, ?_, c2⟩
      · simp only [Lru.push, if_neg hlen, hb, Lru.evictIfFull, if_neg hfull]
        rw [e2]
      · have : LruL0.push s0 k v = { s0 with items := (k, v) :: s0.items } := by
          simp only [LruL0.push, hc, Bool.false_eq_true, if_false]
          rw [if_neg (by rw [hlenitems, ← r.maplen, r.cap]; exact hfull)]
        rw [this]; exact r2

theorem get_refines (s1 : Lru K V) (s0 : LruL0.Cache K V) (ch : List (Nat × (K × V)))
    (r : Refines s1 s0 ch) (k : K) :
    ∃ s1' ch', Lru.get s1 k = .ok (s1', (LruL0.get s0 k).2) ∧ Refines s1' (LruL0.get s0 k).1 ch' ∧
      Conserved s1 ch s1' ch' [] := by
  cases hb : s1.amap.get k with
  | none =>
    have hg := LruL0.get_miss s0 k (by rw [r.contains_eq, hb]; rfl)
    rw [hg]
    exact ⟨s1, ch, by simp [Lru.get, hb], r, conserved_refl s1 ch⟩
  | some b =>
    obtain ⟨sl1, v0, rest, e1, hv, r1, c1⟩ := r.touch hb
    refine ⟨_, _, ?_, r1, c1⟩
    simp only [Lru.get, hb]
    rw [e1]; simp only []
    rw [getFront_wf sl1 b (k, v0) rest r1.wf, hv]

theorem len_refines (s1 : Lru K V) (s0 : LruL0.Cache K V) (ch : List (Nat × (K × V)))
    (r : Refines s1 s0 ch) : Lru.len s1 = .ok (LruL0.len s0) := by
  have : s1.list.len = s1.amap.len := by rw [r.wf.len, r.maplen]
  simp [Lru.len, this, LruL0.len, ← r.len_eq]

theorem isEmpty_refines (s1 : Lru K V) (s0 : LruL0.Cache K V) (ch : List (Nat × (K × V)))
    (r : Refines s1 s0 ch) : Lru.isEmpty s1 = .ok (ch.length == 0) := by
  simp only [Lru.isEmpty, len_refines s1 s0 ch r, LruL0.len, r.items]; simp

theorem getFront_refines (s1 : Lru K V) (s0 : LruL0.Cache K V) (ch : List (Nat × (K × V)))
    (r : Refines s1 s0 ch) : Lru.getFront s1 = .ok (LruL0.getFront s0) := by
  cases ch with
  | nil =>
    simp only [Lru.getFront, isEmpty_refines s1 s0 [] r, LruL0.getFront, r.items]; rfl
  | cons p rest =>
    obtain ⟨f, e⟩ := p
    have := getFront_wf s1.list f e rest r.wf
    simp only [Lru.getFront, isEmpty_refines s1 s0 _ r, LruL0.getFront, r.items]
    simp [this]

theorem contains_refines (s1 : Lru K V) (s0 : LruL0.Cache K V) (ch : List (Nat × (K × V)))
    (r : Refines s1 s0 ch) (k : K) : Lru.contains s1 k = LruL0.contains s0 k := by
  rw [r.contains_eq]; rfl

theorem setFront_refines (s1 : Lru K V) (s0 : LruL0.Cache K V) (ch : List (Nat × (K × V)))
    (r : Refines s1 s0 ch) (v : V) :
    ∃ s1' ch', Lru.setFront s1 v = .ok (s1', (LruL0.setFront s0 v).2) ∧
      Refines s1' (LruL0.setFront s0 v).1 ch' ∧ Conserved s1 ch s1' ch' (LruSpec.newValues s0 (.setFront v)) := by
  cases ch with
  | nil =>
    have hi : s0.items = [] := by rw [r.items]; rfl
    refine ⟨s1, [], ?_, ?_, ?_⟩
    · simp only [Lru.setFront, isEmpty_refines s1 s0 [] r, LruL0.setFront, hi]; rfl
    · simpa [LruL0.setFront, hi] using r
    · simp only [LruSpec.newValues, hi, List.isEmpty_nil, if_true]; exact conserved_refl s1 []
  | cons p rest =>
    obtain ⟨f, k, v0⟩ := p
    obtain ⟨sl1, e2, hv, r1, c1⟩ := r.setHead v
    refine ⟨_, _, ?_, r1, ?_⟩
    · have hie : Lru.isEmpty s1 = .ok false := by rw [isEmpty_refines s1 s0 _ r]; simp
      simp only [Lru.setFront, hie]
      rw [getFront_wf s1.list f (k, v0) rest r.wf]; simp only []
      rw [e2, hv]
    · simp only [LruSpec.newValues, r.items, List.map_cons, List.isEmpty_cons, Bool.false_eq_true, if_false]
      exact c1

theorem clear_refines (s1 : Lru K V) (s0 : LruL0.Cache K V) (ch : List (Nat × (K × V)))
    (r : Refines s1 s0 ch) :
    ∃ s1', Lru.clear s1 = .ok s1' ∧ Refines s1' (LruL0.clear s0) [] ∧
      s1'.list.mem.cells.size = s1.list.mem.cells.size ∧ Conserved s1 ch s1' [] [] := by
  obtain ⟨sl1, e1, wf1, hsz⟩ := clear_wf s1.list ch r.wf
  refine ⟨{ s1 with list := sl1, amap := AMap.empty,
                    dropped := s1.dropped ++ ((ch.map (·.2)).reverse).map (·.2) }, ?_, ?_, hsz, ?_⟩
  rotate_left 2
  · refine conserved_of_perm rfl ?_
    simp only [vals, List.map_nil, List.append_nil, List.map_reverse, List.map_map]
    exact List.reverse_perm _
  · simp only [Lru.clear]; rw [e1]
  · refine ⟨wf1, rfl, ?_, rfl, r.cap, r.cap_pos, ⟨by simp [LruL0.clear, LruL0.keys], by simp [LruL0.clear]⟩⟩
    intro k a; simp [AMap.empty]

theorem step_refines (s1 : Lru K V) (s0 : LruL0.Cache K V) (ch : List (Nat × (K × V)))
    (r : Refines s1 s0 ch) (op : LruL0.Op K V) :
    ∃ s1' ch', Lru.step s1 op = .ok (s1', (LruL0.step s0 op).2) ∧ Refines s1' (LruL0.step s0 op).1 ch' ∧
      Conserved s1 ch s1' ch' (LruSpec.newValues s0 op) := by
  cases op with
  | push k v =>
    obtain ⟨s1', ch', e, r', c⟩ := push_refines s1 s0 ch r k v
    exact ⟨s1', ch', by simp [Lru.step, e, LruL0.step], r', c⟩
  | get k =>
    obtain ⟨s1', ch', e, r', c⟩ := get_refines s1 s0 ch r k
    exact ⟨s1', ch', by simp [Lru.step, e, LruL0.step], r', c⟩
  | contains k =>
    exact ⟨s1, ch, by simp [Lru.step, LruL0.step, contains_refines s1 s0 ch r k], r, conserved_refl s1 ch⟩
  | front =>
    exact ⟨s1, ch, by simp [Lru.step, LruL0.step, getFront_refines s1 s0 ch r], r, conserved_refl s1 ch⟩
  | setFront v =>
    obtain ⟨s1', ch', e, r', c⟩ := setFront_refines s1 s0 ch r v
    exact ⟨s1', ch', by simp [Lru.step, e, LruL0.step], r', c⟩
  | clear =>
    obtain ⟨s1', e, r', _, c⟩ := clear_refines s1 s0 ch r
    exact ⟨s1', [], by simp [Lru.step, e, LruL0.step], r', c⟩
  | len =>
    exact ⟨s1, ch, by simp [Lru.step, LruL0.step, len_refines s1 s0 ch r], r, conserved_refl s1 ch⟩

theorem run_refines (s1 : Lru K V) (s0 : LruL0.Cache K V) (ch : List (Nat × (K × V)))
    (r : Refines s1 s0 ch) (ops : List (LruL0.Op K V)) :
    ∃ s1' ch', Lru.run s1 ops = .ok (s1', (LruL0.runOut s0 ops).2) ∧
      Refines s1' (LruL0.runOut s0 ops).1 ch' ∧ Conserved s1 ch s1' ch' (LruSpec.introduced s0 ops) := by
  induction ops generalizing s1 s0 ch with
  | nil => exact ⟨s1, ch, rfl, r, conserved_refl s1 ch⟩
  | cons op ops ih =>
    obtain ⟨s1', ch', e, r', c1⟩ := step_refines s1 s0 ch r op
    obtain ⟨s1'', ch'', e2, r'', c2⟩ := ih s1' _ ch' r'
    exact ⟨s1'', ch'', by simp only [Lru.run, e, e2, LruL0.runOut], r'', c1.trans c2⟩

end Tbx.LruL1
