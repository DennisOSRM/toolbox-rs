import Tbx.Proofs.DGraphOps
import Tbx.Spec.Adj
namespace Tbx.DG
open Tbx
open Tbx.SG (maxId)
open Tbx.Adj (adjOf)

structure Refines (g : Graph) (σ : Adj.S) : Prop where
  inv : Inv g
  nodes : g.numNodes = σ.n
  edges : g.numEdges = σ.es.length
  adj : ∀ v, (adjM g v).Perm (adjOf σ.es v)

theorem adjOf_append_single (es : List Adj.Edge) (s t : Nat) (d : Int) (v : Nat) :
    adjOf (es ++ [⟨s, t, d⟩]) v = adjOf es v ++ (if v = s then [(t, d)] else []) := by
  unfold adjOf
  rw [List.filter_append, List.map_append]
  congr 1
  by_cases c : v = s
  · subst c; simp
  · have : ¬ s = v := fun h => c h.symm
    simp [c, this]

theorem adjOf_perm (es es' : List Adj.Edge) (h : es.Perm es') (v : Nat) : (adjOf es v).Perm (adjOf es' v) :=
  (h.filter _).map _

theorem adjOf_cons (x : Adj.Edge) (es : List Adj.Edge) (v : Nat) :
    adjOf (x :: es) v = if x.src = v then (x.tgt, x.data) :: adjOf es v else adjOf es v := by
  unfold adjOf
  by_cases c : x.src = v
  · simp [c]
  · simp [c]

theorem mem_adjOf (es : List Adj.Edge) (v t : Nat) (d : Int) :
    (t, d) ∈ adjOf es v ↔ (⟨v, t, d⟩ : Adj.Edge) ∈ es := by
  unfold adjOf
  simp only [List.mem_map, List.mem_filter, beq_iff_eq, Prod.mk.injEq]
  constructor
  · rintro ⟨x, ⟨hx, hs⟩, ht, hd⟩
    have : x = ⟨v, t, d⟩ := by cases x; simp_all
    exact this ▸ hx
  · intro h; exact ⟨_, ⟨h, rfl⟩, rfl, rfl⟩

theorem replaceFirst_perm (a b : Adj.Edge) (es : List Adj.Edge) (h : a ∈ es) :
    (a :: Adj.replaceFirst a b es).Perm (b :: es) := by
  induction es with
  | nil => cases h
  | cons x xs ih =>
    simp only [Adj.replaceFirst]
    by_cases c : x = a
    · subst c; rw [if_pos rfl]; exact List.Perm.swap _ _ _
    · rw [if_neg c]
      have hm : a ∈ xs := by
        rcases List.mem_cons.mp h with h | h
        · exact absurd h.symm c
        · exact h
      exact ((List.Perm.swap _ _ _).trans (List.Perm.cons _ (ih hm))).trans (List.Perm.swap _ _ _)

theorem replaceFirst_length (a b : Adj.Edge) (es : List Adj.Edge) : (Adj.replaceFirst a b es).length = es.length := by
  induction es with
  | nil => rfl
  | cons x xs ih =>
    simp only [Adj.replaceFirst]
    split <;> simp [ih]

/-- the edges of `σ` are the live slots of `g`, read through `target` and `data` -/
theorem Refines.mem_es {g : Graph} {σ : Adj.S} (h : Refines g σ) (s t : Nat) (d : Int) :
    (⟨s, t, d⟩ : Adj.Edge) ∈ σ.es ↔ s < g.numNodes ∧ ∃ e, owns g s e ∧ target g e = t ∧ data g e = d := by
  rw [← mem_adjOf, ← (h.adj s).mem_iff, adjM]
  split
  · rename_i hs
    unfold adjList edgeRange beginEdges outDegree
    simp only [List.mem_map, Prod.mk.injEq]
    exact ⟨fun ⟨e, he, hp⟩ => ⟨hs, e, List.mem_range'_1.mp he, hp⟩,
      fun ⟨_, e, he, hp⟩ => ⟨e, List.mem_range'_1.mpr he, hp⟩⟩
  · rename_i hs
    exact ⟨fun hm => (List.not_mem_nil hm).elim, fun hm => absurd hm.1 hs⟩

theorem refines_insertNode (g : Graph) (σ : Adj.S) (h : Refines g σ) :
    ∃ g', insertNode g = some g' ∧ Refines g' (Adj.insertNode σ) := by
  obtain ⟨g', hg', hI, hn, hm, ha⟩ := insertNode_inv g h.inv
  refine ⟨g', hg', hI, ?_, ?_, ?_⟩
  · rw [hn, h.nodes]; rfl
  · rw [hm, h.edges]; rfl
  · intro v; rw [ha v]; exact h.adj v

theorem refines_insertEdge (g : Graph) (σ : Adj.S) (s t : Nat) (d : Int) (h : Refines g σ) (ht : t ≠ maxId) :
    ∃ g', insertEdge g s t d = some g' ∧ Refines g' (Adj.insertEdge σ s t d) := by
  obtain ⟨g', hg', hI, hn, hm, hs, ha⟩ := insertEdge_inv g s t d h.inv ht
  refine ⟨g', hg', hI, ?_, ?_, ?_⟩
  · rw [hn, h.nodes]; rfl
  · rw [hm, h.edges]; simp [Adj.insertEdge]
  · intro v
    show (adjM g' v).Perm (adjOf (σ.es ++ [⟨s, t, d⟩]) v)
    rw [adjOf_append_single]
    by_cases c : v = s
    · subst c; rw [if_pos rfl]
      exact hs.trans (List.Perm.append_right _ (h.adj v))
    · rw [if_neg c, ha v c, List.append_nil]; exact h.adj v

theorem refines_removeEdge (g : Graph) (σ : Adj.S) (s e : Nat) (h : Refines g σ) (hs : s < g.numNodes)
    (ho : owns g s e) :
    ∃ g', removeEdge g s e = some g' ∧ Refines g' (Adj.removeEdge σ s (target g e) (data g e)) := by
  obtain ⟨g', hg', hI, hn, hm, hp, ha⟩ := removeEdge_inv g s e h.inv hs ho
  have hmem : (⟨s, target g e, data g e⟩ : Adj.Edge) ∈ σ.es :=
    (h.mem_es s _ _).mpr ⟨hs, e, ho, rfl, rfl⟩
  have hpe := List.perm_cons_erase hmem
  refine ⟨g', hg', hI, ?_, ?_, ?_⟩
  · rw [hn, h.nodes]; rfl
  · show g'.numEdges = (σ.es.erase _).length
    rw [List.length_erase_of_mem hmem, ← h.edges]; omega
  · intro v
    show (adjM g' v).Perm (adjOf (σ.es.erase _) v)
    have hv := adjOf_perm _ _ hpe v
    rw [adjOf_cons] at hv
    by_cases c : v = s
    · subst c
      rw [if_pos rfl] at hv
      -- (t,d) :: adjM g' v ~ adjM g v ~ adjOf es v ~ (t,d) :: adjOf (erase) v
      exact List.Perm.cons_inv ((hp.symm.trans (h.adj v)).trans hv)
    · rw [if_neg (fun h' => c h'.symm)] at hv
      rw [ha v c]
      exact (h.adj v).trans hv

theorem refines_setData (g : Graph) (σ : Adj.S) (s e : Nat) (d' : Int) (h : Refines g σ) (hs : s < g.numNodes)
    (ho : owns g s e) :
    Refines (setData g e d') (Adj.setData σ s (target g e) (data g e) d') := by
  obtain ⟨hI, hn, hm, _, _, hp, ha⟩ := setData_inv g s e d' h.inv hs ho
  have hmem : (⟨s, target g e, data g e⟩ : Adj.Edge) ∈ σ.es :=
    (h.mem_es s _ _).mpr ⟨hs, e, ho, rfl, rfl⟩
  have hr := replaceFirst_perm ⟨s, target g e, data g e⟩ ⟨s, target g e, d'⟩ σ.es hmem
  refine ⟨hI, ?_, ?_, ?_⟩
  · rw [hn, h.nodes]; rfl
  · show (setData g e d').numEdges = (Adj.replaceFirst _ _ σ.es).length
    rw [replaceFirst_length, hm, h.edges]
  · intro v
    show (adjM (setData g e d') v).Perm (adjOf (Adj.replaceFirst _ _ σ.es) v)
    have hv := adjOf_perm _ _ hr v
    rw [adjOf_cons, adjOf_cons] at hv
    by_cases c : v = s
    · subst c
      rw [if_pos rfl, if_pos rfl] at hv
      -- (t,d) :: adjM g' ~ (t,d') :: adjM g ~ (t,d') :: adjOf es ~ (t,d) :: adjOf rf
      exact List.Perm.cons_inv ((hp.trans (List.Perm.cons _ (h.adj v))).trans hv.symm)
    · rw [if_neg (fun h' => c h'.symm), if_neg (fun h' => c h'.symm)] at hv
      rw [ha v c]
      exact (h.adj v).trans hv.symm

inductive DOp where
  | ins (s t : Nat) (d : Int)
  | node
  | rem (s e : Nat)
  | setd (s e : Nat) (d : Int)

def stepM (g : Graph) : DOp → Option Graph
  | .ins s t d => insertEdge g s t d
  | .node => insertNode g
  | .rem s e => removeEdge g s e
  | .setd _ e d => some (setData g e d)

/-- the same operation on the Spec (edge ids are translated through what the API shows of them) -/
def stepS (g : Graph) (σ : Adj.S) : DOp → Adj.S
  | .ins s t d => Adj.insertEdge σ s t d
  | .node => Adj.insertNode σ
  | .rem s e => Adj.removeEdge σ s (target g e) (data g e)
  | .setd s e d => Adj.setData σ s (target g e) (data g e) d

/-- domain of an operation: targets are not `usize::MAX`; edge ids belong to the named source -/
def okOp (g : Graph) : DOp → Prop
  | .ins _ t _ => t ≠ maxId
  | .node => True
  | .rem s e => s < g.numNodes ∧ owns g s e
  | .setd s e _ => s < g.numNodes ∧ owns g s e

def runM (g : Graph) : List DOp → Option Graph
  | [] => some g
  | o :: os => (stepM g o).bind fun g' => runM g' os

def runS (g : Graph) (σ : Adj.S) : List DOp → Adj.S
  | [] => σ
  | o :: os => match stepM g o with
    | some g' => runS g' (stepS g σ o) os
    | none => σ

def ValidHistory (g : Graph) : List DOp → Prop
  | [] => True
  | o :: os => okOp g o ∧ ∀ g', stepM g o = some g' → ValidHistory g' os

end Tbx.DG
