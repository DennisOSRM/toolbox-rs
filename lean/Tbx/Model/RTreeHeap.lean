import Tbx.Model.RTree
/-
Two priority queues that satisfy the contract `PQOps.Lawful` the R-tree iterator is verified against
(core Lean only; the driver links this file):
* `listPQ`  — a plain list with a linear scan (kernel-evaluable, used in examples);
* `heapPQ`  — a leftist heap, carried together with its heap-order invariant (used by the driver).
Which entry wins among equal keys differs between them (and from Rust's `BinaryHeap`): the contract
leaves it free.
-/
namespace Tbx.RTree

theorem extractMin_spec (l : List Entry) :
    match extractMin l with
    | none => l = []
    | some (m, r) => l.Perm (m :: r) ∧ ∀ y ∈ l, m.key ≤ y.key := by
  fun_induction extractMin l with
  | case1 => rfl
  | case2 e es hn ih =>
    rw [hn] at ih
    rw [show es = [] from ih]
    exact ⟨.refl _, List.forall_mem_singleton.mpr (Nat.le_refl _)⟩
  | case3 e es m rest hs hle ih =>
    rw [hs] at ih
    exact ⟨.refl _, List.forall_mem_cons.mpr ⟨Nat.le_refl _, fun y hy => Nat.le_trans hle (ih.2 y hy)⟩⟩
  | case4 e es m rest hs hgt ih =>
    rw [hs] at ih
    exact ⟨(ih.1.cons e).trans (.swap ..), List.forall_mem_cons.mpr ⟨Nat.le_of_not_le hgt, ih.2⟩⟩

theorem listPQ_lawful : listPQ.Lawful where
  abs_empty := rfl
  abs_push _ _ := List.Perm.refl _
  pop_none q h := by
    have := extractMin_spec q
    rwa [show extractMin q = none from h] at this
  pop_some q _ _ h := by
    have := extractMin_spec q
    rwa [show extractMin q = some _ from h] at this

inductive LHeap where
  | nil
  | node (rank : Nat) (e : Entry) (l r : LHeap)
deriving Repr, Inhabited

namespace LHeap
def rank : LHeap → Nat
  | nil => 0
  | node r _ _ _ => r
def makeT (e : Entry) (a b : LHeap) : LHeap :=
  if rank b ≤ rank a then node (rank b + 1) e a b else node (rank a + 1) e b a
def merge : LHeap → LHeap → LHeap
  | nil, h => h
  | node r x a b, nil => node r x a b
  | node r1 x a1 b1, node r2 y a2 b2 =>
    if x.key ≤ y.key then makeT x a1 (merge b1 (node r2 y a2 b2))
    else makeT y a2 (merge (node r1 x a1 b1) b2)
def toList : LHeap → List Entry
  | nil => []
  | node _ e l r => e :: (toList l ++ toList r)
def Ordered : LHeap → Prop
  | nil => True
  | node _ e l r => (∀ y ∈ toList l ++ toList r, e.key ≤ y.key) ∧ Ordered l ∧ Ordered r
def pop : LHeap → Option (Entry × LHeap)
  | nil => none
  | node _ e l r => some (e, merge l r)

theorem toList_makeT (e : Entry) (a b : LHeap) : (toList (makeT e a b)).Perm (e :: (toList a ++ toList b)) := by
  unfold makeT
  split
  · exact List.Perm.refl _
  · simp only [toList]
    exact List.Perm.cons e List.perm_append_comm

theorem ordered_makeT {e : Entry} {a b : LHeap} (h : ∀ y ∈ toList a ++ toList b, e.key ≤ y.key)
    (ha : Ordered a) (hb : Ordered b) : Ordered (makeT e a b) := by
  unfold makeT
  split
  · exact ⟨h, ha, hb⟩
  · refine ⟨?_, hb, ha⟩
    intro y hy
    exact h y (List.perm_append_comm.mem_iff.mp hy)

theorem toList_merge (a b : LHeap) : (toList (merge a b)).Perm (toList a ++ toList b) := by
  fun_induction merge a b with
  | case1 h => exact .refl _
  | case2 r x a b => exact .of_eq (List.append_nil _).symm
  | case3 r1 x a1 b1 r2 y a2 b2 hle ih =>
    exact (toList_makeT _ _ _).trans (.cons x ((ih.append_left _).trans (.of_eq (List.append_assoc ..).symm)))
  | case4 r1 x a1 b1 r2 y a2 b2 hgt ih =>
    -- with `X` the list of the first heap: `a2 ++ (X ++ b2) ~ X ++ (a2 ++ b2)`, then `y` goes to the middle
    exact (toList_makeT _ _ _).trans
      ((List.Perm.cons y ((ih.append_left _).trans (List.perm_append_comm_assoc ..))).trans List.perm_middle.symm)

theorem Ordered.root_le {r : Nat} {e : Entry} {a b : LHeap} (h : Ordered (node r e a b)) :
    ∀ z ∈ toList (node r e a b), e.key ≤ z.key := by
  intro z hz
  rcases List.mem_cons.mp hz with rfl | hz
  · exact Nat.le_refl _
  · exact h.1 z hz

theorem ordered_merge {a b : LHeap} (ha : Ordered a) (hb : Ordered b) : Ordered (merge a b) := by
  fun_induction merge a b with
  | case1 h => exact hb
  | case2 r x a b => exact ha
  | case3 r1 x a1 b1 r2 y a2 b2 hle ih =>
    refine ordered_makeT (fun z hz => ?_) ha.2.1 (ih ha.2.2 hb)
    -- below the new root `x` lie the rest of its own heap and the whole other heap
    rw [((toList_merge _ _).append_left _).mem_iff, ← List.append_assoc] at hz
    exact (List.mem_append.mp hz).elim (ha.1 z) fun h => Nat.le_trans hle (hb.root_le z h)
  | case4 r1 x a1 b1 r2 y a2 b2 hgt ih =>
    refine ordered_makeT (fun z hz => ?_) hb.2.1 (ih ha hb.2.2)
    rw [(((toList_merge _ _).append_left _).trans (List.perm_append_comm_assoc ..)).mem_iff] at hz
    exact (List.mem_append.mp hz).elim (fun h => Nat.le_trans (Nat.le_of_not_le hgt) (ha.root_le z h)) (hb.1 z)

end LHeap

def heapPQ : PQOps { h : LHeap // h.Ordered } where
  empty := ⟨.nil, trivial⟩
  push q e := ⟨LHeap.merge (.node 1 e .nil .nil) q.1,
    LHeap.ordered_merge ⟨by intro y hy; simp [LHeap.toList] at hy, trivial, trivial⟩ q.2⟩
  pop q :=
    match q with
    | ⟨.nil, _⟩ => none
    | ⟨.node _ e l r, h⟩ => some (e, ⟨LHeap.merge l r, LHeap.ordered_merge h.2.1 h.2.2⟩)
  abs q := q.1.toList

theorem heapPQ_lawful : heapPQ.Lawful where
  abs_empty := rfl
  abs_push q e := by
    show (LHeap.toList (LHeap.merge (.node 1 e .nil .nil) q.1)).Perm (e :: LHeap.toList q.1)
    simpa [LHeap.toList] using LHeap.toList_merge (.node 1 e .nil .nil) q.1
  pop_none q h := by
    obtain ⟨hq, ho⟩ := q
    cases hq with
    | nil => rfl
    | node _ e l r => simp [heapPQ] at h
  pop_some q e q' h := by
    obtain ⟨hq, ho⟩ := q
    cases hq with
    | nil => simp [heapPQ] at h
    | node rk x l r =>
      simp only [heapPQ, Option.some.injEq, Prod.mk.injEq] at h
      obtain ⟨rfl, rfl⟩ := h
      refine ⟨?_, ?_⟩
      · show (LHeap.toList (.node rk x l r)).Perm (x :: LHeap.toList (LHeap.merge l r))
        exact List.Perm.cons x (LHeap.toList_merge l r).symm
      · exact ho.root_le

end Tbx.RTree
