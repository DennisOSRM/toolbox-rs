import Tbx.Model.Arr
/-
Executable model of the parts shared by the three max-flow solvers
(`src/edmonds_karp.rs`, `src/ford_fulkerson.rs`, `src/dinic.rs`, `src/static_graph.rs`, and the
single-source/single-target use of `src/dfs.rs` / `src/bfs.rs` with a capacity filter).

  Graph            : StaticGraph<ResidualEdgeData> as its two arrays (node_array, edge_array)
  residualEdges    : append reversed zero-capacity copies, sort, `dedup_by` summing parallel capacities
  csr              : `StaticGraph::new_from_sorted_list`
  findEdge         : `find_edge_unchecked`   (`none` where the Rust returns EdgeID::MAX and then panics)
  Search / search  : `DFS::run_with_filter` (pop = popBack) and `BFS::run_with_filter` (pop = popFront)
                     for sources = [s], targets = [t], filter = `capacity <= 0`
  pathIter         : `PathIter` (target → … → source)
  Solver / run     : EdmondsKarp (uses the DFS struct) and FordFulkerson (uses the BFS struct)
  sweep            : the reachability sweep of `assignment`

Node ids are `Nat`, capacities `Int` (the Rust uses i32; its overflow is not modelled: the driver skips inputs
whose merged pair capacities or maximum flow value exceed i32::MAX, Drv/FlowCommon.lean).
`sort_unstable` / `sort_unstable_by` / `sort` are modelled by their contract through an insertion sort
with the same comparator (the merged result does not depend on the order among equal keys).
All loops are structurally recursive on a count or on explicit fuel; `none` = out of fuel or a branch in
which the Rust would panic.
-/
namespace Tbx.Flow

structure Edge where
  src : Nat
  tgt : Nat
  cap : Int
deriving Repr, Inhabited, DecidableEq

/-- `INVALID_NODE_ID` = `NodeID::MAX` = `usize::MAX` -/
def INV : Nat := 18446744073709551615

structure Graph where
  first : Array Nat      -- node_array[i].first_edge, including the sentinel
  tgt   : Array Nat      -- edge_array[e].target
  cap   : Array Int      -- edge_array[e].data.capacity
deriving Repr, Inhabited

namespace Graph
def numNodes (g : Graph) : Nat := g.first.size - 1
def numEdges (g : Graph) : Nat := g.tgt.size
def beginEdges (g : Graph) (u : Nat) : Nat := gt g.first u
def endEdges (g : Graph) (u : Nat) : Nat := gt g.first (u + 1)
def deg (g : Graph) (u : Nat) : Nat := g.endEdges u - g.beginEdges u

/-- the `for edge in edge_range(s)` loop of `find_edge_unchecked`: `k` edges starting at `e` -/
def findFrom (g : Graph) (t : Nat) : Nat → Nat → Option Nat
  | _, 0 => none
  | e, k + 1 => if gt g.tgt e = t then some e else findFrom g t (e + 1) k

/-- `find_edge_unchecked(s, t)`; `none` stands for `EdgeID::MAX` -/
def findEdge (g : Graph) (s t : Nat) : Option Nat :=
  if s ≥ g.numNodes then none else findFrom g t (g.beginEdges s) (g.deg s)

/-- (source, target, capacity) of every edge, in edge order — what `verif_residual()` returns -/
def triplesFrom (g : Graph) (u : Nat) : Nat → Nat → List (Nat × Nat × Int)
  | _, 0 => []
  | e, k + 1 => (u, gt g.tgt e, gt g.cap e) :: triplesFrom g u (e + 1) k

def triples (g : Graph) : List (Nat × Nat × Int) :=
  (List.range g.numNodes).flatMap fun u => triplesFrom g u (g.beginEdges u) (g.deg u)
end Graph

/-! ### residual graph construction (`from_edge_list`) -/

/-- `extend_from_within(..)` + `reverse()` + `capacity = 0` on the second half -/
def extend (es : List Edge) : List Edge := es ++ es.map fun e => { src := e.tgt, tgt := e.src, cap := 0 }

/-- comparator of Dinic's `sort_unstable_by` (as `≤`) -/
def leST (a b : Edge) : Bool := if a.src = b.src then decide (a.tgt ≤ b.tgt) else decide (a.src ≤ b.src)

/-- derived `Ord` of `InputEdge<ResidualEdgeData>`: lexicographic (source, target, capacity) -/
def leOrd (a b : Edge) : Bool :=
  if a.src ≠ b.src then decide (a.src < b.src)
  else if a.tgt ≠ b.tgt then decide (a.tgt < b.tgt) else decide (a.cap ≤ b.cap)

def insertSorted (le : Edge → Edge → Bool) (x : Edge) : List Edge → List Edge
  | [] => [x]
  | y :: ys => if le x y then x :: y :: ys else y :: insertSorted le x ys

def sortBy (le : Edge → Edge → Bool) : List Edge → List Edge
  | [] => []
  | x :: xs => insertSorted le x (sortBy le xs)

/-- `dedup_by(|a, b| parallel → { b.cap += a.cap; true })`: `cur` is the retained element `b` -/
def dedupInto (cur : Edge) : List Edge → List Edge
  | [] => [cur]
  | a :: rest =>
    if a.src = cur.src ∧ a.tgt = cur.tgt then dedupInto { cur with cap := cur.cap + a.cap } rest
    else cur :: dedupInto a rest

def dedupMerge : List Edge → List Edge
  | [] => []
  | e :: es => dedupInto e es

/-- `number_of_nodes` as computed at the top of `new_from_sorted_list` (the largest id) -/
def maxId (es : List Edge) : Nat := es.foldl (fun m e => max e.tgt (max e.src m)) 0

/-- `while offset != input.len() && input[offset].source() == i { offset += 1 }` -/
def advance (inp : Array Edge) (i : Nat) : Nat → Nat → Nat
  | 0, off => off
  | f + 1, off => if off ≠ inp.size ∧ (gt inp off).src = i then advance inp i f (off + 1) else off

/-- `for i in 0..number_of_nodes { …; node_array.push(offset) }`, `k` iterations left -/
def buildNodes (inp : Array Edge) : Nat → Nat → Nat → Array Nat → Array Nat
  | 0, _, _, acc => acc
  | k + 1, i, off, acc =>
    let off' := advance inp i (inp.size - off) off
    buildNodes inp k (i + 1) off' (acc.push off')

/-- `StaticGraph::new_from_sorted_list` -/
def csr (sorted : List Edge) : Graph :=
  let inp := sorted.toArray
  let nn := maxId sorted
  { first := (buildNodes inp nn 0 0 #[0]).push inp.size,
    tgt := inp.map (·.tgt),
    cap := inp.map (·.cap) }

/-- residual graph of Dinic: sort by (source, target), merge parallels, `new_from_sorted_list` -/
def residualDinic (es : List Edge) : Graph := csr (dedupMerge (sortBy leST (extend es)))

/-- residual graph of EdmondsKarp / FordFulkerson: `sort_unstable()` by the derived `Ord`, merge
    parallels, `StaticGraph::new` (which sorts once more) -/
def residualEK (es : List Edge) : Graph := csr (sortBy leOrd (dedupMerge (sortBy leOrd (extend es))))

/-! ### single-source single-target search with the filter `capacity <= 0` -/

structure Search where
  parents : Array Nat
  wl      : List Nat          -- stack / queue contents, oldest first
deriving Repr, Inhabited

/-- `Vec::pop` -/
def popBack (l : List Nat) : Option (Nat × List Nat) :=
  match l.getLast? with
  | none => none
  | some x => some (x, l.dropLast)

/-- `VecDeque::pop_front` -/
def popFront : List Nat → Option (Nat × List Nat)
  | [] => none
  | x :: r => some (x, r)

inductive Relax where
  | found (s : Search)
  | cont (s : Search)
deriving Inhabited

/-- the `for edge in graph.edge_range(node)` loop of `run_with_filter` -/
def relax (g : Graph) (target node : Nat) (nodeIsSource : Bool) : Nat → Nat → Search → Relax
  | _, 0, st => .cont st
  | e, k + 1, st =>
    if gt g.cap e ≤ 0 then relax g target node nodeIsSource (e + 1) k st
    else
      let v := gt g.tgt e
      if gt st.parents v ≠ INV ∨ (nodeIsSource = true ∧ gt st.parents v = v) then
        relax g target node nodeIsSource (e + 1) k st
      else
        let ps := Tbx.st st.parents v node
        if v = target then .found { st with parents := ps }
        else relax g target node nodeIsSource (e + 1) k { parents := ps, wl := st.wl ++ [v] }

/-- the `while let Some(node) = pop()` loop; result `true` = target found -/
def searchLoop (g : Graph) (target : Nat) (pop : List Nat → Option (Nat × List Nat)) :
    Nat → Search → Option (Bool × Search)
  | 0, _ => none
  | fuel + 1, st =>
    match pop st.wl with
    | none => some (false, st)
    | some (node, rest) =>
      let nodeIsSource := gt st.parents node == node
      match relax g target node nodeIsSource (g.beginEdges node) (g.deg node) { st with wl := rest } with
      | .found st' => some (true, st')
      | .cont st' => searchLoop g target pop fuel st'

/-- `run_with_filter` for sources = [s], targets = [t] -/
def search (g : Graph) (s t : Nat) (pop : List Nat → Option (Nat × List Nat)) : Option (Bool × Search) :=
  searchLoop g t pop (g.numNodes + 1)
    { parents := Tbx.st (Array.replicate g.numNodes INV) s s, wl := [s] }

/-- `PathIter`: target, parent, …, source -/
def pathIter (parents : Array Nat) : Nat → Nat → Option (List Nat)
  | 0, _ => none
  | fuel + 1, id =>
    if id = INV then some []
    else if id = gt parents id then some [id]
    else (pathIter parents fuel (gt parents id)).map (id :: ·)

/-- `tuple_windows()` -/
def windows : List Nat → List (Nat × Nat)
  | a :: b :: rest => (a, b) :: windows (b :: rest)
  | _ => []

/-- capacity of the path edge of a window (a,b) = (head, tail): edge b → a -/
def windowCap (g : Graph) (ab : Nat × Nat) : Option Int :=
  (g.findEdge ab.2 ab.1).map fun e => gt g.cap e

/-- `min_by_key` (first minimum) over the windows; `none` = empty (`expect` panics) or missing edge -/
def minByCap (g : Graph) : List (Nat × Nat) → Option ((Nat × Nat) × Int)
  | [] => none
  | [p] => (windowCap g p).map fun k => (p, k)
  | p :: q :: rest =>
    match windowCap g p, minByCap g (q :: rest) with
    | some k, some (m, km) => if km < k then some (m, km) else some (p, k)
    | _, _ => none

/-- the flow-assignment loop over the windows -/
def pushPath (g : Graph) (pf : Int) : List (Nat × Nat) → Option Graph
  | [] => some g
  | (a, b) :: rest =>
    match g.findEdge a b, g.findEdge b a with
    | some rev, some fwd =>
      let c1 := st g.cap fwd (gt g.cap fwd - pf)
      let c2 := st c1 rev (gt c1 rev + pf)
      pushPath { g with cap := c2 } pf rest
    | _, _ => none

/-! ### EdmondsKarp / FordFulkerson -/

structure Solver where
  g        : Graph
  maxFlow  : Int
  finished : Bool
  source   : Nat
  target   : Nat
  augs     : Nat := 0        -- ghost: number of augmentations
deriving Repr, Inhabited

/-- result of `max_flow()` / `assignment()`: `Err(_)`, `Ok(_)`, or the model got stuck -/
inductive Out (α : Type) where
  | err
  | ok (a : α)
  | stuck
deriving Repr, Inhabited, DecidableEq

def Solver.fromEdgeList (es : List Edge) (s t : Nat) : Solver :=
  { g := residualEK es, maxFlow := 0, finished := false, source := s, target := t }

/-- the `while search.run_with_filter(..)` loop of `run` -/
def augmentLoop (pop : List Nat → Option (Nat × List Nat)) (s t : Nat) :
    Nat → Graph → Int → Nat → Option (Graph × Int × Nat)
  | 0, _, _, _ => none
  | fuel + 1, g, flow, augs =>
    match search g s t pop with
    | none => none
    | some (false, _) => some (g, flow, augs)
    | some (true, st) =>
      match pathIter st.parents (g.numNodes + 1) t with
      | none => none
      | some path =>
        match minByCap g (windows path) with
        | none => none
        | some (m, _) =>
          match windowCap g m with
          | none => none
          | some pf =>
            if pf ≤ 0 then none          -- debug_assert!(path_flow > 0)
            else
              match pushPath g pf (windows path) with
              | none => none
              | some g' => augmentLoop pop s t fuel g' (flow + pf) (augs + 1)

/-- `run()`; `DFS::new` / `BFS::new` index their arrays with source and target -/
def Solver.run (sv : Solver) (pop : List Nat → Option (Nat × List Nat)) (fuel : Nat) : Option Solver :=
  if sv.source ≥ sv.g.numNodes ∨ sv.target ≥ sv.g.numNodes then none
  else
    match augmentLoop pop sv.source sv.target fuel sv.g sv.maxFlow sv.augs with
    | none => none
    | some (g, flow, augs) => some { sv with g := g, maxFlow := flow, finished := true, augs := augs }

def Solver.runEK (sv : Solver) (fuel : Nat) : Option Solver := sv.run popBack fuel
def Solver.runFF (sv : Solver) (fuel : Nat) : Option Solver := sv.run popFront fuel

/-- `k` further calls of `run()` on the same object: `Solver.run` starts from the stored flow counter
    (`self.max_flow += path_flow`), so a re-run of EdmondsKarp / FordFulkerson is `run` itself -/
def Solver.runN (pop : List Nat → Option (Nat × List Nat)) (fuel : Nat) : Nat → Solver → Option Solver
  | 0, sv => some sv
  | k + 1, sv => match sv.run pop fuel with
    | none => none
    | some sv' => Solver.runN pop fuel k sv'

def maxFlowOut (finished : Bool) (flow : Int) : Out Int := if !finished then .err else .ok flow

def Solver.maxFlow? (sv : Solver) : Out Int := maxFlowOut sv.finished sv.maxFlow

/-! ### `assignment`: reachability sweep over edges with capacity > 0 -/

def sweepEdges (g : Graph) : Nat → Nat → Array Bool → List Nat → Array Bool × List Nat
  | _, 0, reach, stack => (reach, stack)
  | e, k + 1, reach, stack =>
    let target := gt g.tgt e
    if !(gt reach target) && decide (gt g.cap e > 0) then
      sweepEdges g (e + 1) k (st reach target true) (target :: stack)
    else sweepEdges g (e + 1) k reach stack

/-- `while let Some(node) = stack.pop()`; the head of the list is the top of the stack -/
def sweepLoop (g : Graph) : Nat → Array Bool → List Nat → Option (Array Bool)
  | 0, _, _ => none
  | _ + 1, reach, [] => some reach
  | fuel + 1, reach, node :: rest =>
    let r := sweepEdges g (g.beginEdges node) (g.deg node) reach rest
    sweepLoop g fuel r.1 r.2

def assignmentOut (g : Graph) (finished : Bool) (source : Nat) : Out (Array Bool) :=
  if !finished then .err
  else if source ≥ g.numNodes then .stuck           -- `reachable.set(source, true)` panics
  else
    match sweepLoop g (g.numNodes + 1) (st (Array.replicate g.numNodes false) source true) [source] with
    | none => .stuck
    | some r => .ok r

def Solver.assignment? (sv : Solver) (source : Nat) : Out (Array Bool) :=
  assignmentOut sv.g sv.finished source

end Tbx.Flow
