import Tbx.Model.Flow
/-
Executable model of `src/dinic.rs` (Cherkassky's variant of Dinitz' algorithm as implemented there):

  bfs   : one reverse BFS from the target; the source is never queued and may be relabelled
  dfs   : a single stack DFS over edges with `level[u] >= level[v]` and capacity != 0; when the target
          is reached the bottleneck is RECOMPUTED along the parent chain (`chainMin`, the fix of D1),
          flow is pushed along the parents (`augChain`), the stack is unwound to (one child of) the tail
          of the saturated edge closest to the source (`unwind`), `parents[target]` is reset and the
          `for` loop over the edges of `u` is left
  run   : `while bfs() { flow += dfs() }` without an upper bound (the loop with the bound is
          `InertialFlow.boundedLoop`, Model/InertialFlow.lean; C04 models how runs share the bound)

The bottleneck value that the Rust still carries on the stack (`(NodeID, i32)`) is mirrored although it
is dead after the fix; `Tbx.FlowLegacy` keeps the pre-fix `dfs` that used it.
-/
namespace Tbx.Flow

structure Dinic where
  g        : Graph
  maxFlow  : Int
  finished : Bool
  level    : Array Nat
  parents  : Array Nat
  stack    : List (Nat × Int)      -- head = top of the Vec
  dfsCount : Nat
  bfsCount : Nat
  source   : Nat
  target   : Nat
  trace    : List (Nat × List Nat × Int) := []   -- ghost: (bfs_count, path target…source, flow) per augmentation
deriving Repr, Inhabited

/-- `i32::MAX` -/
def I32MAX : Int := 2147483647

/-- `from_edge_list`; `none` = `debug_assert!(!edge_list.is_empty())` -/
def Dinic.fromEdgeList (es : List Edge) (s t : Nat) : Option Dinic :=
  if es.isEmpty then none
  else some { g := residualDinic es, maxFlow := 0, finished := false, level := #[], parents := #[],
              stack := [], dfsCount := 0, bfsCount := 0, source := s, target := t }

/-- the `for edge in edge_range(u)` loop of `bfs` -/
def bfsEdges (g : Graph) (source u : Nat) : Nat → Nat → Array Nat → List Nat → Option (Array Nat × List Nat)
  | _, 0, lv, q => some (lv, q)
  | e, k + 1, lv, q =>
    let v := gt g.tgt e
    if v ≠ source ∧ gt lv v ≠ INV then bfsEdges g source u (e + 1) k lv q
    else
      match g.findEdge v u with
      | none => none
      | some rev =>
        if gt g.cap rev < 1 then bfsEdges g source u (e + 1) k lv q
        else
          let lv' := st lv v (gt lv u + 1)
          if v ≠ source then bfsEdges g source u (e + 1) k lv' (q ++ [v])
          else bfsEdges g source u (e + 1) k lv' q

/-- `while let Some(u) = queue.pop_front()` -/
def bfsLoop (g : Graph) (source : Nat) : Nat → Array Nat → List Nat → Option (Array Nat)
  | 0, _, _ => none
  | _ + 1, lv, [] => some lv
  | fuel + 1, lv, u :: q =>
    match bfsEdges g source u (g.beginEdges u) (g.deg u) lv q with
    | none => none
    | some (lv', q') => bfsLoop g source fuel lv' q'

/-- `bfs()` -/
def Dinic.bfs (d : Dinic) : Option (Dinic × Bool) :=
  let lv0 := st (Array.replicate d.level.size INV) d.target 0
  match bfsLoop d.g d.source (d.g.numNodes + 1) lv0 [d.target] with
  | none => none
  | some lv => some ({ d with level := lv, bfsCount := d.bfsCount + 1 }, gt lv d.source != INV)

/-- the bottleneck recomputation `while parents[w] != w { … }` (D1 fix) -/
def chainMin (g : Graph) (parents : Array Nat) : Nat → Nat → Int → Option Int
  | 0, _, _ => none
  | fuel + 1, w, flow =>
    let p := gt parents w
    if p = w then some flow
    else
      match g.findEdge p w with
      | none => none
      | some e => chainMin g parents fuel p (min flow (gt g.cap e))

/-- the augmentation `loop { let u = parents[v]; if u == v { break } … }`; returns the new graph and
    `closest_tail` -/
def augChain (parents : Array Nat) (flow : Int) : Nat → Nat → Nat → Graph → Option (Graph × Nat)
  | 0, _, _, _ => none
  | fuel + 1, v, ct, g =>
    let u := gt parents v
    if u = v then some (g, ct)
    else
      match g.findEdge u v, g.findEdge v u with
      | some fwd, some rev =>
        let c1 := st g.cap fwd (gt g.cap fwd - flow)
        let ct' := if gt c1 fwd = 0 then u else ct
        let c2 := st c1 rev (gt c1 rev + flow)
        augChain parents flow fuel u ct' { g with cap := c2 }
      | _, _ => none

/-- `while let Some((node, _)) = stack.pop() { if parents[node] == closest_tail { break } }` -/
def unwind (parents : Array Nat) (ct : Nat) : List (Nat × Int) → List (Nat × Int)
  | [] => []
  | (node, _) :: rest => if gt parents node = ct then rest else unwind parents ct rest

/-- what happens when the edge `u → v` reaches the target with capacity `avail` (after
    `parents[v] = u`): recompute, augment, unwind, reset `parents[target]` -/
def reachTarget (d : Dinic) (parents : Array Nat) (u v : Nat) (avail : Int) (bf : Int) :
    Option (Dinic × Int) :=
  match chainMin d.g parents (d.g.numNodes + 1) u avail with
  | none => none
  | some fl =>
    match augChain parents fl (d.g.numNodes + 1) v u d.g with
    | none => none
    | some (g', ct) =>
      some ({ d with g := g', parents := st parents d.target INV, stack := unwind parents ct d.stack,
                     dfsCount := d.dfsCount + 1,
                     trace := (d.bfsCount, (pathIter parents (d.g.numNodes + 1) v).getD [], fl) :: d.trace },
            bf + fl)

/-- the `for edge in edge_range(u)` loop of `dfs` for the popped entry `(u, flow)` -/
def dfsEdges (u : Nat) (flow : Int) : Nat → Nat → Dinic → Int → Option (Dinic × Int)
  | _, 0, d, bf => some (d, bf)
  | e, k + 1, d, bf =>
    let v := gt d.g.tgt e
    if gt d.parents v ≠ INV then dfsEdges u flow (e + 1) k d bf
    else if gt d.level u < gt d.level v then dfsEdges u flow (e + 1) k d bf
    else
      let avail := gt d.g.cap e
      if avail = 0 then dfsEdges u flow (e + 1) k d bf
      else
        let parents := st d.parents v u
        let flow' := min flow avail
        if v = d.target then reachTarget d parents u v avail bf      -- … `break`
        else dfsEdges u flow (e + 1) k { d with parents := parents, stack := (v, flow') :: d.stack } bf

/-- `while let Some((u, flow)) = stack.pop()` -/
def dfsLoop : Nat → Dinic → Int → Option (Dinic × Int)
  | 0, _, _ => none
  | fuel + 1, d, bf =>
    match d.stack with
    | [] => some (d, bf)
    | (u, flow) :: rest =>
      match dfsEdges u flow (d.g.beginEdges u) (d.g.deg u) { d with stack := rest } bf with
      | none => none
      | some (d', bf') => dfsLoop fuel d' bf'

/-- `dfs()`: returns the blocking flow -/
def Dinic.dfs (d : Dinic) : Option (Dinic × Int) :=
  let ps := st (Array.replicate d.parents.size INV) d.source d.source
  dfsLoop (2 * d.g.numNodes + 2)
    { d with dfsCount := d.dfsCount + 1, stack := [(d.source, I32MAX)], parents := ps } 0

/-- `while self.bfs() { flow += self.dfs() }` -/
def dinicLoop : Nat → Dinic → Int → Option (Dinic × Int)
  | 0, _, _ => none
  | fuel + 1, d, flow =>
    match d.bfs with
    | none => none
    | some (d1, false) => some (d1, flow)
    | some (d1, true) =>
      match d1.dfs with
      | none => none
      | some (d2, bf) => dinicLoop fuel d2 (flow + bf)

/-- `run()` (no bound); `level[target]` / `parents[source]` are indexed -/
def Dinic.run (d : Dinic) (fuel : Nat) : Option Dinic :=
  let n := d.g.numNodes
  if d.source ≥ n ∨ d.target ≥ n then none
  else
    let d0 := { d with parents := Array.replicate n 0, level := Array.replicate n INV }
    match dinicLoop fuel d0 0 with
    | none => none
    | some (d', flow) => some { d' with maxFlow := flow, finished := true }

/-- `run()` called on an object in ANY state - in particular a second time on a finished solver, or after an
    aborted bounded run (fix D24: `let mut flow = self.max_flow`).  `parents.resize(n, 0)` /
    `level.resize(n, usize::MAX)` keep the old contents when the vectors already have `n` entries; `bfs` and
    `dfs` overwrite both completely before reading them (they use only the sizes), so the contents written here
    are unobservable and the model fills in the fresh values.  `Dinic.run` is the special case `maxFlow = 0`
    (`run_eq_runAgain`). -/
def Dinic.runAgain (d : Dinic) (fuel : Nat) : Option Dinic :=
  let n := d.g.numNodes
  if d.source ≥ n ∨ d.target ≥ n then none
  else
    let d0 := { d with parents := Array.replicate n 0, level := Array.replicate n INV }
    match dinicLoop fuel d0 d.maxFlow with
    | none => none
    | some (d', flow) => some { d' with maxFlow := flow, finished := true }

/-- `k` further calls of `run()` on the same object -/
def Dinic.runAgainN (fuel : Nat) : Nat → Dinic → Option Dinic
  | 0, d => some d
  | k + 1, d => match d.runAgain fuel with
    | none => none
    | some d' => Dinic.runAgainN fuel k d'

def Dinic.maxFlow? (d : Dinic) : Out Int := maxFlowOut d.finished d.maxFlow
def Dinic.assignment? (d : Dinic) (source : Nat) : Out (Array Bool) := assignmentOut d.g d.finished source

end Tbx.Flow
