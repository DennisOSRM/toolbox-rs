import Tbx.Model.Arr
/-
Executable model of /repo/src/bfs.rs and /repo/src/dfs.rs (the two files are the same text up to
`VecDeque::pop_front` / `Vec::pop`), core Lean only.

ONE worklist search, parameterised by the pop discipline:

* `Searcher`            the `BFS` / `DFS` object (all six fields, including the `target` field and the
                        worklist, which persist between runs),
* `new`                 `BFS::new` / `DFS::new` (+ `populate_sources`),
* `edges`, `loop`       the `for edge in graph.edge_range(node)` loop and the `while let Some(node) = pop`
                        loop of `run_with_filter` (marking on discovery, the source special case in the
                        guard, early return when a target is discovered),
* `runWith`             `run_with_filter` (`run` is `runWith` with the filter `fun _ => false`),
* `nodePath`, `edgePath`, `pathIter`   `fetch_node_path`, `fetch_edge_path`, `path_iter().collect()`.

Graph: `g u` is the list of `(target, edge id)` of the out-edges of `u` in `edge_range(u)` order
(StaticGraph: CSR order).  The filter is the set of edge ids to skip (`filt e = true` = skipped).
`INVALID_NODE_ID` (= `usize::MAX`) is `none`.

Panics of the Rust are explicit: every `self.parents[i]` with `i` out of range yields `.panic`
(never a silent default).  `graph.edge_range(node)` is not bounds-modelled: the graph is assumed to have
exactly `number_of_nodes` nodes ("the graph is consistent by construction", bfs.rs:82).
Loops are fuelled; `runWith` passes `sources.length + number_of_nodes + 1`, which is sufficient
(`Tbx.Props.C15.fuel_sufficient`); running out of fuel is reported as `.fuel`, never truncated.

`bfsRun` / `dfsRun` (fresh object + one run) are the entry points of the C15 driver and examples.  The max-flow
solvers of this repo search with these structs (Edmonds-Karp with DFS, Ford-Fulkerson with BFS); their models in
Model/Flow.lean carry their own single-source single-target text of the same loop (`Flow.searchLoop`).
-/
namespace Tbx.Search

abbrev Graph := Nat → List (Nat × Nat)

/-- result of a computation that may hit a Rust panic or exhaust the model's fuel -/
inductive Res (α : Type) where
  | panic
  | fuel
  | ok (a : α)
deriving Repr, Inhabited

/-- loop state of one run: the parents vector and the queue / stack -/
structure S where
  par : Array (Option Nat)
  wl  : List Nat
deriving Repr, Inhabited

/-- `VecDeque::pop_front` -/
def popFront : List Nat → Option (Nat × List Nat)
  | [] => none
  | x :: xs => some (x, xs)

/-- `Vec::pop` (the worklist grows at the end) -/
def popBack (l : List Nat) : Option (Nat × List Nat) :=
  match l.getLast? with
  | none => none
  | some x => some (x, l.dropLast)

/-- the guard `self.parents[target] != INVALID_NODE_ID || (node_is_source && self.parents[target] == target)` -/
def seen (par : Array (Option Nat)) (uIsSrc : Bool) (v : Nat) : Bool :=
  (gt par v).isSome || (uIsSrc && gt par v == some v)

inductive ER where
  | panic
  | found (v : Nat) (s : S)
  | cont (s : S)
deriving Repr, Inhabited

/-- `for edge in graph.edge_range(node) { … }` for the popped node `u` -/
def edges (filt : Nat → Bool) (isT : Nat → Bool) (u : Nat) (uIsSrc : Bool) : List (Nat × Nat) → S → ER
  | [], s => .cont s
  | (v, e) :: rest, s =>
    if filt e then edges filt isT u uIsSrc rest s                 -- `continue`
    else if s.par.size ≤ v then .panic                            -- `self.parents[target]` out of range
    else if seen s.par uIsSrc v then edges filt isT u uIsSrc rest s
    else
      let par' := st s.par v (some u)                             -- `self.parents[target] = node`
      if isT v then .found v { s with par := par' }               -- `self.target = target; return true`
      else edges filt isT u uIsSrc rest { par := par', wl := s.wl ++ [v] }   -- `push_back` / `push`

inductive LR where
  | panic
  | fuel
  | done (found : Option Nat) (s : S)
deriving Repr, Inhabited

/-- `while let Some(node) = self.queue.pop_front()` / `self.stack.pop()` -/
def loop (g : Graph) (filt : Nat → Bool) (isT : Nat → Bool) (pop : List Nat → Option (Nat × List Nat)) :
    Nat → S → LR
  | 0, _ => .fuel
  | fuel + 1, s =>
    match pop s.wl with
    | none => .done none s
    | some (u, rest) =>
      if s.par.size ≤ u then .panic                                -- `self.parents[node]`
      else
        let uIsSrc := gt s.par u == some u                         -- `node_is_source`
        match edges filt isT u uIsSrc (g u) { s with wl := rest } with
        | .panic => .panic
        | .found v s' => .done (some v) s'
        | .cont s' => loop g filt isT pop fuel s'

/-- the `BFS` / `DFS` struct -/
structure Searcher where
  sources      : List Nat
  targetSet    : Array Bool
  parents      : Array (Option Nat)
  target       : Option Nat
  wl           : List Nat
  emptyTargets : Bool
deriving Repr, Inhabited

/-- `for i in idx { a[i] = f(i) }`, `none` = index out of range -/
def setAll {α : Type} (a : Array α) (f : Nat → α) : List Nat → Option (Array α)
  | [] => some a
  | i :: is => if i < a.size then setAll (st a i (f i)) f is else none

/-- `BFS::new(source_list, target_list, number_of_nodes)` -/
def new (srcs tgts : List Nat) (n : Nat) : Option Searcher :=
  match setAll (Array.replicate n false) (fun _ => true) tgts with
  | none => none
  | some ts =>
    match setAll (Array.replicate n (none : Option Nat)) some srcs with
    | none => none
    | some ps =>
      some { sources := srcs, targetSet := ts, parents := ps, target := none, wl := [],
             emptyTargets := tgts.isEmpty }

/-- `self.parents.fill(INVALID_NODE_ID); for s in &self.sources { self.parents[*s] = *s; }` -/
def resetParents (sr : Searcher) : Option (Array (Option Nat)) :=
  setAll (Array.replicate sr.parents.size (none : Option Nat)) some sr.sources

def runFuel (sr : Searcher) : Nat := sr.sources.length + sr.parents.size + 1

/-- `run_with_filter(graph, filter)`; returns the flag and the object afterwards -/
def runWith (pop : List Nat → Option (Nat × List Nat)) (g : Graph) (filt : Nat → Bool) (sr : Searcher) :
    Res (Bool × Searcher) :=
  match resetParents sr with
  | none => .panic
  | some par =>
    match loop g filt (gt sr.targetSet) pop (runFuel sr) { par := par, wl := sr.sources } with
    | .panic => .panic
    | .fuel => .fuel
    | .done (some v) s' => .ok (true, { sr with parents := s'.par, wl := s'.wl, target := some v })
    | .done none s' => .ok (sr.emptyTargets, { sr with parents := s'.par, wl := s'.wl })

/-! ### path unpacking -/

/-- `while id != self.parents[id] { path.push(id); id = self.parents[id]; } path.push(id); path.reverse()`;
    `acc` is the part of the reversed path already produced.  `none` = panic (index out of range, which is
    what happens one step after an unseen node: `parents[INVALID_NODE_ID]`) or out of fuel. -/
def nodePathLoop (par : Array (Option Nat)) : Nat → Nat → List Nat → Option (List Nat)
  | 0, _, _ => none
  | fuel + 1, id, acc =>
    if par.size ≤ id then none
    else match gt par id with
      | none => none
      | some p => if p = id then some (id :: acc) else nodePathLoop par fuel p (id :: acc)

/-- `fetch_node_path_from_node(t)` -/
def nodePathFrom (par : Array (Option Nat)) (t : Nat) : Option (List Nat) :=
  nodePathLoop par (par.size + 1) t []

/-- `fetch_node_path()` -/
def nodePath (sr : Searcher) : Option (List Nat) :=
  match sr.target with
  | none => none                       -- `parents[usize::MAX]`
  | some t => nodePathFrom sr.parents t

/-- `Graph::find_edge(s, t)`: the first edge of `s` whose target is `t` (filtered or not) -/
def findEdge (g : Graph) (s t : Nat) : Option Nat :=
  ((g s).find? (fun p => p.1 == t)).map (·.2)

def edgePathLoop (g : Graph) (par : Array (Option Nat)) : Nat → Nat → List Nat → Option (List Nat)
  | 0, _, _ => none
  | fuel + 1, id, acc =>
    if par.size ≤ id then none
    else match gt par id with
      | none => none
      | some p =>
        if p = id then some acc
        else match findEdge g p id with
          | none => none               -- `.unwrap()`
          | some e => edgePathLoop g par fuel p (e :: acc)

/-- `fetch_edge_path(graph)` -/
def edgePath (g : Graph) (sr : Searcher) : Option (List Nat) :=
  match sr.target with
  | none => none
  | some t => edgePathLoop g sr.parents (sr.parents.size + 1) t []

/-- the items yielded by `PathIter`, `cur` is its `id` field (`none` = `INVALID_NODE_ID`) -/
def iterLoop (par : Array (Option Nat)) : Nat → Option Nat → Option (List Nat)
  | 0, _ => none
  | _ + 1, none => some []
  | fuel + 1, some id =>
    if par.size ≤ id then none
    else
      let nxt := if gt par id == some id then none else gt par id
      (iterLoop par fuel nxt).map (id :: ·)

/-- `path_iter().collect()` -/
def pathIter (sr : Searcher) : Option (List Nat) :=
  iterLoop sr.parents (sr.parents.size + 2) sr.target

/-! ### entry points for other slices -/

/-- fresh object + one run with the queue discipline -/
def bfsRun (n : Nat) (g : Graph) (filt : Nat → Bool) (srcs tgts : List Nat) : Res (Bool × Searcher) :=
  match new srcs tgts n with
  | none => .panic
  | some sr => runWith popFront g filt sr

/-- fresh object + one run with the stack discipline -/
def dfsRun (n : Nat) (g : Graph) (filt : Nat → Bool) (srcs tgts : List Nat) : Res (Bool × Searcher) :=
  match new srcs tgts n with
  | none => .panic
  | some sr => runWith popBack g filt sr

end Tbx.Search
