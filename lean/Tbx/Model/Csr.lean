import Tbx.Model.Arr
/-
The part of `src/static_graph.rs` that the C16 analyses read, as an executable model.
Edge data never influences the analyses, so an input edge is a pair `(source, target)`.

  StaticGraph::new(input)        = ofEdges   : sort by (source, target), then
  new_from_sorted_list           = ofSorted  : node_array = [0, off_0, …, off_{max-1}, len]
  number_of_nodes()              = node_array.len() - 1   ( = max id + 1; the empty edge list gives ONE node)
  begin_edges / end_edges / out_degree / target / edge_range

`input.sort()` is modelled by its contract (a stable insertion sort on the derived
lexicographic order; parallel edges have equal targets so their relative order is unobservable
here).
-/
namespace Tbx.Csr

/-- `usize::MAX`, the "unset" sentinel of all C16 algorithms -/
def maxU : Nat := 18446744073709551615

structure Graph where
  nodes : Array Nat      -- `first_edge` of every node, plus the sentinel
  targets : Array Nat    -- `edge_array[e].target`
deriving Repr, Inhabited

def numNodes (g : Graph) : Nat := g.nodes.size - 1
def numEdges (g : Graph) : Nat := g.targets.size
def beginEdges (g : Graph) (n : Nat) : Nat := gt g.nodes n
def endEdges (g : Graph) (n : Nat) : Nat := gt g.nodes (n + 1)
def outDegree (g : Graph) (n : Nat) : Nat := endEdges g n - beginEdges g n
def target (g : Graph) (e : Nat) : Nat := gt g.targets e

/-- lexicographic `Ord` on (source, target) -/
def edgeLe (a b : Nat × Nat) : Bool := a.1 < b.1 || (a.1 == b.1 && a.2 ≤ b.2)

def insertSorted (e : Nat × Nat) : List (Nat × Nat) → List (Nat × Nat)
  | [] => [e]
  | x :: xs => if edgeLe x e then x :: insertSorted e xs else e :: x :: xs

def sortEdges (es : List (Nat × Nat)) : List (Nat × Nat) :=
  es.foldl (fun acc e => insertSorted e acc) []

/-- running maximum over sources and targets, from 0 -/
def maxId : List (Nat × Nat) → Nat → Nat
  | [], n => n
  | e :: es, n => maxId es (max e.2 (max e.1 n))

/-- `while offset != input.len() && input[offset].source() == i { offset += 1 }` -/
def skipLoop (inp : Array (Nat × Nat)) (i : Nat) : Nat → Nat → Nat
  | 0, off => off
  | fuel + 1, off =>
    if off ≠ inp.size ∧ (gt inp off).1 = i then skipLoop inp i fuel (off + 1) else off

/-- `for i in 0..number_of_nodes { while …; node_array.push(offset) }`; `k` iterations left -/
def offsetsLoop (inp : Array (Nat × Nat)) : Nat → Nat → Nat → Array Nat → Array Nat
  | 0, _, _, acc => acc
  | k + 1, i, off, acc =>
    let off' := skipLoop inp i (inp.size - off) off
    offsetsLoop inp k (i + 1) off' (acc.push off')

def ofSorted (inp : List (Nat × Nat)) : Graph :=
  let a := inp.toArray
  let n := maxId inp 0
  let nodes := offsetsLoop a n 0 0 #[0]
  { nodes := nodes.push a.size, targets := a.map (·.2) }

def ofEdges (es : List (Nat × Nat)) : Graph := ofSorted (sortEdges es)

/-- what `check_integrity` checks, plus the sentinel -/
structure WF (g : Graph) : Prop where
  size_pos : 1 ≤ g.nodes.size
  mono : ∀ i, i < numNodes g → gt g.nodes i ≤ gt g.nodes (i + 1)
  last : gt g.nodes (numNodes g) = g.targets.size
  tgt : ∀ e, e < g.targets.size → gt g.targets e < numNodes g

def wfB (g : Graph) : Bool :=
  decide (1 ≤ g.nodes.size) &&
  (List.range (numNodes g)).all (fun i => decide (gt g.nodes i ≤ gt g.nodes (i + 1))) &&
  decide (gt g.nodes (numNodes g) = g.targets.size) &&
  (List.range g.targets.size).all (fun e => decide (gt g.targets e < numNodes g))

theorem wfB_sound (g : Graph) (h : wfB g = true) : WF g := by
  simp only [wfB, Bool.and_eq_true, decide_eq_true_eq, List.all_eq_true, List.mem_range] at h
  obtain ⟨⟨⟨h1, h2⟩, h3⟩, h4⟩ := h
  exact ⟨h1, h2, h3, h4⟩

def succs (g : Graph) (u : Nat) : List Nat :=
  (List.range' (beginEdges g u) (outDegree g u)).map (target g)

/-- all edges `(u, v)` as pairs, node by node -/
def edgesOf (g : Graph) : List (Nat × Nat) :=
  (List.range (numNodes g)).flatMap fun u => (succs g u).map fun v => (u, v)

end Tbx.Csr
