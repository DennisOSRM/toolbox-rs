import Tbx.Model.Arr
/-
Executable model of `src/medium_size_hash_table.rs` (MediumSizeHashTable<u32, _, Hash>), mirroring
the Rust statement by statement.

  positions         : Vec<HashCell{time,key,value}>   (length MAX_ELEMENTS, here the parameter `N`)
  current_timestamp : Wrapping<u32>                   (`ts`, kept < 2^32 by `clear`)
  length            : usize
  hasher            : the hash function is DATA: `h : Nat → Nat` (for the real table the harness
                      sends `hasher.hash(key)` of every key it uses; `fibHash` below mirrors
                      FibonacciHash::hash exactly and is compared with those values)

Keys are `Nat` (u32 in the harness), values `Int` with `Value::default() = 0`.
The `while` loop shared by get_mut / peek_value / contains_key is `probe` with explicit fuel; every
caller passes fuel `N`, which `Tbx.Props.C13.probing_terminates` (Props/C13.lean) shows sufficient
whenever fewer cells are live than there are slots.  `none` = the Rust loop would not terminate.
-/
namespace Tbx.HashTable

def u32Max : Nat := 4294967295

structure Cell where
  time : Nat
  key : Nat
  val : Int
deriving Repr, DecidableEq

/-- `HashCell::default()`: stamp u32::MAX, key 0, value 0 -/
instance : Inhabited Cell := ⟨⟨u32Max, 0, 0⟩⟩

structure Table where
  cells : Array Cell
  ts : Nat
  length : Nat
deriving Repr

/-- `new()` -/
def init (N : Nat) : Table := { cells := Array.replicate N default, ts := 0, length := 0 }

/-- `while positions[position].time == current_timestamp && positions[position].key != key
      { position = (position + 1) % MAX_ELEMENTS }` ; returns the final position -/
def probe (N : Nat) (cells : Array Cell) (ts key : Nat) : Nat → Nat → Option Nat
  | 0, _ => none
  | fuel + 1, pos =>
    if (gt cells pos).time = ts ∧ (gt cells pos).key ≠ key then
      probe N cells ts key fuel ((pos + 1) % N)
    else some pos

/-- `get_mut`: the table afterwards and the position of the cell whose value is handed out -/
def getMut (N : Nat) (h : Nat → Nat) (t : Table) (key : Nat) : Option (Table × Nat) :=
  match probe N t.cells t.ts key N (h key) with
  | none => none
  | some p =>
    let c := gt t.cells p
    if c.time ≠ t.ts then
      -- new cell: length += 1, value reset to the default, then stamp and key
      some ({ cells := st t.cells p ⟨t.ts, key, 0⟩, ts := t.ts, length := t.length + 1 }, p)
    else
      some ({ cells := st t.cells p ⟨t.ts, key, c.val⟩, ts := t.ts, length := t.length }, p)

/-- writing through the reference returned by `get_mut` -/
def setVal (t : Table) (p : Nat) (v : Int) : Table :=
  { t with cells := st t.cells p { gt t.cells p with val := v } }

def valAt (t : Table) (p : Nat) : Int := (gt t.cells p).val

/-- `insert`: `*self.get_mut(key) = value` -/
def insert (N : Nat) (h : Nat → Nat) (t : Table) (key : Nat) (v : Int) : Option Table :=
  match getMut N h t key with
  | none => none
  | some (t', p) => some (setVal t' p v)

/-- `peek_value` (outer `none`: the loop does not terminate) -/
def peek (N : Nat) (h : Nat → Nat) (t : Table) (key : Nat) : Option (Option Int) :=
  match probe N t.cells t.ts key N (h key) with
  | none => none
  | some p => if (gt t.cells p).time = t.ts then some (some (gt t.cells p).val) else some none

/-- `contains_key` -/
def containsKey (N : Nat) (h : Nat → Nat) (t : Table) (key : Nat) : Option Bool :=
  match probe N t.cells t.ts key N (h key) with
  | none => none
  | some p => if (gt t.cells p).time = t.ts then some true else some false

/-- `clear`: bump the generation (wrapping); rebuild at the wrap to 0; restamp at u32::MAX -/
def clear (N : Nat) (t : Table) : Table :=
  let ts' := (t.ts + 1) % 4294967296
  if ts' = 0 then { cells := Array.replicate N default, ts := ts', length := 0 }
  else if ts' = u32Max then { cells := t.cells.map (fun c => { c with time := 0 }), ts := ts', length := 0 }
  else { cells := t.cells, ts := ts', length := 0 }

/-- `n` successive `clear`s -/
def clearN (N : Nat) : Nat → Table → Table
  | 0, t => t
  | n + 1, t => clearN N n (clear N t)

/-- `n` successive `clear`s, jumping over the stretches in which `clear` only increments the generation
(used by the driver for the 2^32-clear histories; equal to `clearN` by `Tbx.HashTable.clearMany_eq`) -/
def clearMany (N : Nat) (n : Nat) (t : Table) : Table :=
  if n = 0 then t
  else if t.ts + n < 4294967295 then { cells := t.cells, ts := t.ts + n, length := 0 }
  else if t.ts + 1 < 4294967295 then
    clearMany N (n - (4294967294 - t.ts)) { cells := t.cells, ts := 4294967294, length := 0 }
  else clearMany N (n - 1) (clear N t)
termination_by n
decreasing_by all_goals omega

/-- the `verif_set_generation` hook (asserts an empty table) -/
def setGeneration (N : Nat) (t : Table) (g : Nat) : Option Table :=
  if t.length = 0 then
    let fresh : Array Cell := Array.replicate N default
    if g = u32Max then some { cells := fresh.map (fun c => { c with time := 0 }), ts := g, length := 0 }
    else some { cells := fresh, ts := g, length := 0 }
  else none

def len (t : Table) : Nat := t.length
def isEmpty (t : Table) : Bool := t.length == 0
def capacity (N : Nat) : Nat := N

/-- `FibonacciHash::hash` for a u32 key: `(GOLDEN_RATIO.wrapping_mul(key ^ (key >> 16)) >> 16) as u16` -/
def fibHash (key : Nat) : Nat :=
  let hash := key ^^^ (key >>> 16)
  (((11400714819323198485 * hash) % 18446744073709551616) >>> 16) % 65536

end Tbx.HashTable
