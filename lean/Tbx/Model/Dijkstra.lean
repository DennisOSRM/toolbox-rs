import Tbx.Model.AHeap
/-
Executable model of
  src/unidirectional_dijkstra.rs   UnidirectionalDijkstra::{new, clear, run, retrieve_node_path}
  src/one_to_many_dijkstra.rs      OneToManyDijkstra::{new, clear, run, distance, retrieve_node_path}
  src/cell.rs                      BaseCell::process, MatrixCell::{get_distance_row, overlay_edges}
on top of the heap model `Tbx.AHeap` (queue: AddressableHeap<NodeID, usize, NodeID>), mirroring the
Rust statement by statement.

Graphs (`Graph<usize>`: StaticGraph / DynamicGraph) are abstracted to what the searches use:
`adj u` = the list of (target, weight) of `graph.edge_range(u)` in edge order.  Node ids are `Nat`
on the graph side and `Int` inside the heap (the heap model is generic over integer ids).

`Res`: `.panic` where the Rust would panic (indexing an absent id, out-of-range index), `.fuel` where
a fuelled loop ran out of fuel.  The fuel passed by the callers is `n + 1` for a graph with `n`
nodes (every iteration settles a different node; see `Enough` in Proofs/DijkstraLoop.lean) and
`inserted_len + 1` for path retrieval.  The drivers report `.fuel` as a failure.

usize arithmetic is modelled in `Int` without wrap-around; the side condition "all path weights
< 2^64 - 1" is checked by the drivers (sum of all edge weights).
-/
namespace Tbx.Dijkstra
open Tbx Tbx.AHeap

abbrev Adj := Nat → List (Nat × Nat)

/-- `usize::MAX` (64-bit) = `graph::UNREACHABLE` = `Weight::max_value()` of the queue -/
def UMAX : Int := 18446744073709551615

inductive Res (α : Type) where
  | ok (a : α)
  | panic
  | fuel
deriving Repr, Inhabited

/-- body of `for edge in graph.edge_range(u)`: the edge `u → v` of weight `w` -/
def relax (q : Heap) (u distance : Int) (v w : Nat) : Option Heap :=
  let newDistance := distance + (w : Int)
  -- if !self.queue.inserted(v) { self.queue.insert(v, new_distance, u); }
  let q1 := if !(inserted q (v : Int)) then insert q (v : Int) newDistance u else q
  -- if self.queue.contains(v) && self.queue.weight(v) > new_distance { decrease_key_and_update_data(v, new_distance, u) }
  if contains q1 (v : Int) && decide (weight q1 (v : Int) > newDistance) then
    decreaseKeyData q1 (v : Int) newDistance u
  else some q1

/-- the whole `for` loop over the out-edges of `u`, in edge order -/
def relaxAll (q : Heap) (u distance : Int) : List (Nat × Nat) → Option Heap
  | [] => some q
  | e :: es =>
    match relax q u distance e.1 e.2 with
    | none => none
    | some q' => relaxAll q' u distance es

/-! ### UnidirectionalDijkstra -/

structure Uni where
  queue : Heap
  upperBound : Int
deriving Repr

def Uni.new : Uni := { queue := init 0 UMAX, upperBound := UMAX }

def Uni.clear (st : Uni) : Uni := { queue := AHeap.clear st.queue, upperBound := UMAX }

/-- `while !self.queue.is_empty() && self.upper_bound == usize::MAX { … }` followed by
`self.upper_bound`; the second component is the value `run` returns -/
def uniLoop (adj : Adj) (t : Int) : Nat → Uni → Res (Uni × Int)
  | 0, _ => .fuel
  | fuel + 1, st =>
    if !(isEmpty st.queue) && st.upperBound == UMAX then
      match deleteMin st.queue with
      | none => .panic
      | some (q1, u) =>
        let distance := weight q1 u
        if u == t then
          .ok ({ queue := q1, upperBound := distance }, distance)
        else
          match relaxAll q1 u distance (adj u.toNat) with
          | none => .panic
          | some q2 => uniLoop adj t fuel { st with queue := q2 }
    else .ok (st, st.upperBound)

/-- `run(graph, s, t)` on a graph with `n` nodes -/
def uniRun (adj : Adj) (n : Nat) (st : Uni) (s t : Nat) : Res (Uni × Int) :=
  let st := st.clear
  let st := { st with queue := insert st.queue (s : Int) 0 (s : Int) }
  uniLoop adj (t : Int) (n + 1) st

/-- the `loop` of `retrieve_node_path` -/
def pathLoop (q : Heap) : Nat → Int → Array Int → Res (Array Int)
  | 0, _, _ => .fuel
  | fuel + 1, node, path =>
    match data? q node with
    | none => .panic
    | some parent =>
      if parent == node then .ok path.reverse
      else pathLoop q fuel parent (path.push parent)

def retrievePath (q : Heap) (target : Nat) : Res (Option (Array Int)) :=
  match pathLoop q (insertedLen q + 1) (target : Int) #[(target : Int)] with
  | .ok p => .ok (some p)
  | .panic => .panic
  | .fuel => .fuel

/-- `UnidirectionalDijkstra::retrieve_node_path` -/
def Uni.retrieveNodePath (st : Uni) (target : Nat) : Res (Option (Array Int)) :=
  if st.upperBound == UMAX || !(inserted st.queue (target : Int)) then .ok none
  else retrievePath st.queue target

/-! ### OneToManyDijkstra -/

structure O2M where
  queue : Heap
  reached : Nat
deriving Repr

def O2M.new : O2M := { queue := init 0 UMAX, reached := 0 }

def O2M.clear (st : O2M) : O2M := { queue := AHeap.clear st.queue, reached := 0 }

/-- `targets.contains(&u)` -/
def isTarget (targets : List Nat) (u : Int) : Bool := targets.any fun x => (x : Int) == u

/-- `while !self.queue.is_empty() && self.reached_target_count < targets.len() { … }` -/
def o2mLoop (adj : Adj) (targets : List Nat) : Nat → O2M → Res O2M
  | 0, _ => .fuel
  | fuel + 1, st =>
    if !(isEmpty st.queue) && decide (st.reached < targets.length) then
      match deleteMin st.queue with
      | none => .panic
      | some (q1, u) =>
        let distance := weight q1 u
        let reached := if isTarget targets u then st.reached + 1 else st.reached
        match relaxAll q1 u distance (adj u.toNat) with
        | none => .panic
        | some q2 => o2mLoop adj targets fuel { queue := q2, reached := reached }
    else .ok st

/-- `run(graph, source, targets)`; the Bool is the returned success flag -/
def o2mRun (adj : Adj) (n : Nat) (st : O2M) (source : Nat) (targets : List Nat) : Res (O2M × Bool) :=
  let st := st.clear
  let st := { st with queue := insert st.queue (source : Int) 0 (source : Int) }
  match o2mLoop adj targets (n + 1) st with
  | .ok st' => .ok (st', st'.reached == targets.length)
  | .panic => .panic
  | .fuel => .fuel

/-- `distance(node)` = `queue.weight(node)`: `usize::MAX` for a node that was never inserted -/
def O2M.distance (st : O2M) (node : Nat) : Int := weight st.queue (node : Int)

/-- `OneToManyDijkstra::retrieve_node_path` -/
def O2M.retrieveNodePath (st : O2M) (target : Nat) : Res (Option (Array Int)) :=
  if !(inserted st.queue (target : Int)) then .ok none
  else retrievePath st.queue target

/-! ### StaticGraph::new on an edge list (what `BaseCell::process` builds) -/

abbrev Edge := Nat × Nat × Nat     -- source, target, data  (field order = derive(Ord) order)

def edgeLe (a b : Edge) : Bool :=
  a.1 < b.1 || (a.1 == b.1 && (a.2.1 < b.2.1 || (a.2.1 == b.2.1 && a.2.2 ≤ b.2.2)))

def insertSorted (e : Edge) : List Edge → List Edge
  | [] => [e]
  | x :: xs => if edgeLe e x then e :: x :: xs else x :: insertSorted e xs

/-- `input.sort()` (total order on the full triple, so the result does not depend on stability) -/
def sortEdges (es : List Edge) : List Edge := es.foldr insertSorted []

/-- edge range of `u` in the adjacency array built from the sorted list -/
def staticAdj (es : List Edge) : Adj := fun u =>
  (sortEdges es).filterMap fun e => if e.1 = u then some (e.2.1, e.2.2) else none

/-- `number_of_nodes()` of `StaticGraph::new(es)`: largest endpoint + 1 (1 for an empty list) -/
def staticNodes (es : List Edge) : Nat := es.foldl (fun m e => max (max m e.1) e.2.1) 0 + 1

/-! ### cell.rs -/

structure BaseCell where
  incoming : List Nat
  outgoing : List Nat
  edges : List Edge
deriving Repr

structure MatrixCell where
  incoming : List Nat
  outgoing : List Nat
  matrix : Array Int
deriving Repr

/-- `seen_nodes.entry(k).or_insert(seen_nodes.len())` on the FxHashMap modelled as an association list -/
def orInsert (m : List (Nat × Nat)) (k : Nat) : List (Nat × Nat) :=
  match m.lookup k with
  | some _ => m
  | none => (k, m.length) :: m

/-- the `.map(|edge| …)` closure over all edges, threading `seen_nodes`; returns the renumbered
edges and the final map -/
def renumber : List Edge → List (Nat × Nat) → Option (List Edge × List (Nat × Nat))
  | [], seen => some ([], seen)
  | e :: es, seen =>
    let seen1 := orInsert seen e.1
    match seen1.lookup e.1 with
    | none => none                       -- expect("renumbering broken")
    | some src =>
      let seen2 := orInsert seen1 e.2.1
      match seen2.lookup e.2.1 with
      | none => none
      | some tgt =>
        match renumber es seen2 with
        | none => none
        | some (rest, seenF) => some ((src, tgt, e.2.2) :: rest, seenF)

/-- `nodes.iter().map(|node| *seen_nodes.get(node).expect("renumbering broken")).collect_vec()` -/
def lookupAll (seen : List (Nat × Nat)) : List Nat → Option (List Nat)
  | [] => some []
  | x :: xs =>
    match seen.lookup x, lookupAll seen xs with
    | some i, some r => some (i :: r)
    | _, _ => none

/-- `for (target_index, &target) in target_ids.iter().enumerate() { matrix[row + target_index] = dijkstra.distance(target) }`
(`ti` = the running `target_index`) -/
def fillRow (dist : Nat → Int) (row : Nat) : Nat → List Nat → Array Int → Option (Array Int)
  | _, [], mx => some mx
  | ti, target :: ts, mx =>
    let idx := row + ti
    if idx < mx.size then fillRow dist row (ti + 1) ts (st mx idx (dist target)) else none

/-- `for (target_index, &target) in … { if target == source { matrix[row + target_index] = 0 } }` -/
def zeroRow (source row : Nat) : Nat → List Nat → Array Int → Option (Array Int)
  | _, [], mx => some mx
  | ti, target :: ts, mx =>
    if target == source then
      let idx := row + ti
      if idx < mx.size then zeroRow source row (ti + 1) ts (st mx idx 0) else none
    else zeroRow source row (ti + 1) ts mx

/-- `for (source_index, &source) in source_ids.iter().enumerate() { … }` on ONE reused search
object (`si` = the running `source_index`, `nn = graph.number_of_nodes()`) -/
def processLoop (adj : Adj) (nn : Nat) (edgesEmpty : Bool) (targetIds : List Nat) (nOut : Nat) :
    Nat → List Nat → O2M → Array Int → Res (O2M × Array Int)
  | _, [], st, mx => .ok (st, mx)
  | si, source :: rest, st, mx =>
    let row := si * nOut
    if edgesEmpty || decide (source ≥ nn) then
      -- a boundary node that no edge of the cell touches reaches only itself
      match zeroRow source row 0 targetIds mx with
      | none => .panic
      | some mx' => processLoop adj nn edgesEmpty targetIds nOut (si + 1) rest st mx'
    else
      match o2mRun adj nn st source targetIds with
      | .panic => .panic
      | .fuel => .fuel
      | .ok (st', _) =>
        match fillRow (fun t => st'.distance t) row 0 targetIds mx with
        | none => .panic
        | some mx' => processLoop adj nn edgesEmpty targetIds nOut (si + 1) rest st' mx'

/-- `BaseCell::process` -/
def process (c : BaseCell) : Res MatrixCell :=
  let seen := c.incoming.foldl orInsert []
  let seen := c.outgoing.foldl orInsert seen
  match renumber c.edges seen with
  | none => .panic
  | some (newEdges, seenF) =>
    let nOut := c.outgoing.length
    let matrix : Array Int := Array.replicate (c.incoming.length * nOut) UMAX
    match lookupAll seenF c.incoming, lookupAll seenF c.outgoing with
    | some sourceIds, some targetIds =>
      match processLoop (staticAdj newEdges) (staticNodes newEdges) c.edges.isEmpty targetIds nOut 0 sourceIds
              O2M.new matrix with
      | .panic => .panic
      | .fuel => .fuel
      | .ok (_, mx) => .ok { incoming := c.incoming, outgoing := c.outgoing, matrix := mx }
    | _, _ => .panic

/-- `incoming_nodes.binary_search(&u)` by its contract on a strictly sorted slice: the index of
`u`, `none` (→ panic in the caller) if absent.  (std's probing order is not modelled; on a strictly
sorted slice the result is unique.) -/
def indexOf? : List Nat → Nat → Option Nat
  | [], _ => none
  | x :: xs, u => if x = u then some 0 else (indexOf? xs u).map (· + 1)

/-- `MatrixCell::get_distance_row(u)` -/
def distanceRow (c : MatrixCell) (u : Nat) : Option (Array Int) :=
  match indexOf? c.incoming u with
  | none => none
  | some index =>
    let m := c.outgoing.length
    if (index + 1) * m ≤ c.matrix.size then some (c.matrix.extract (index * m) ((index + 1) * m)) else none

/-- inner loop `for j in 0..|out|` of `overlay_edges` -/
def overlayInner (c : MatrixCell) (i source : Nat) : List Nat → Array (Nat × Nat × Int) → Option (Array (Nat × Nat × Int))
  | [], acc => some acc
  | j :: js, acc =>
    let idx := i * c.outgoing.length + j
    if idx < c.matrix.size then
      let distance := gt c.matrix idx
      if distance != UMAX then
        match c.outgoing[j]? with
        | none => none
        | some target => overlayInner c i source js (acc.push (source, target, distance))
      else overlayInner c i source js acc
    else none

/-- outer loop `for i in 0..|in|` -/
def overlayOuter (c : MatrixCell) : List Nat → Array (Nat × Nat × Int) → Option (Array (Nat × Nat × Int))
  | [], acc => some acc
  | i :: is, acc =>
    match c.incoming[i]? with
    | none => none
    | some source =>
      match overlayInner c i source (List.range c.outgoing.length) acc with
      | none => none
      | some acc' => overlayOuter c is acc'

/-- `MatrixCell::overlay_edges` -/
def overlayEdges (c : MatrixCell) : Option (Array (Nat × Nat × Int)) :=
  overlayOuter c (List.range c.incoming.length) #[]

end Tbx.Dijkstra
