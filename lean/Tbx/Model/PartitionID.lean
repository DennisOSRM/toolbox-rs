/-
Model of /repo/src/partition_id.rs (`PartitionID(pub u32)`) and /repo/src/level_directory.rs on `Nat`
with the 32-bit width explicit: `<<` on u32 wraps (`% U32`) and panics only for a shift amount ≥ 32,
`+`/`+=` are overflow-checked, `PartitionID::new` carries `debug_assert!(id != 0)`.
`none` = a panic of the checked build.  `leading_zeros` is a hardware primitive, modelled by its
contract (`32` for 0, else `31 - log2`).
-/
namespace Tbx.PartitionID

def U32 : Nat := 4294967296

def leadingZeros (x : Nat) : Nat := if x = 0 then 32 else 31 - Nat.log2 x

/-- `PartitionID::new`: `debug_assert!(id != 0)` -/
def new (id : Nat) : Option Nat := if id ≠ 0 then some id else none

def root : Nat := 1

/-- `parent`: `new(max(1, self.0 >> 1))`; the assertion in `new` can never fire here -/
def parent (x : Nat) : Nat := max 1 (x >>> 1)

def leftChild (x : Nat) : Nat := (x <<< 1) % U32
/-- `temp + 1` cannot overflow: `temp` is even -/
def rightChild (x : Nat) : Nat := (x <<< 1) % U32 + 1
def children (x : Nat) : Nat × Nat := ((x <<< 1) % U32, (x <<< 1) % U32 + 1)

/-- `self.0 <<= k` (k: usize): shift-amount overflow panics for k ≥ 32 -/
def makeLeftmostDescendant (x k : Nat) : Option Nat := if k < 32 then some ((x <<< k) % U32) else none

/-- `self.make_leftmost_descendant(k); self.0 += (1 << k) - 1` -/
def makeRightmostDescendant (x k : Nat) : Option Nat :=
  match makeLeftmostDescendant x k with
  | none => none
  | some t =>
    let r := t + ((1 <<< k) % U32 - 1)
    if r < U32 then some r else none

def makeLeftChild (x : Nat) : Option Nat := makeLeftmostDescendant x 1
def makeRightChild (x : Nat) : Option Nat := makeRightmostDescendant x 1

/-- `(31 - leading_zeros).try_into::<u8>().unwrap()`: the subtraction underflows for id 0 -/
def level (x : Nat) : Option Nat := if leadingZeros x ≤ 31 then some (31 - leadingZeros x) else none

def isLeftChild (x : Nat) : Bool := x % 2 == 0
def isRightChild (x : Nat) : Bool := x % 2 == 1

/-- `new(self.0 & (0xffff_ffff ^ ((1 << level) - 1)))` (level: u32) -/
def parentAtLevel (x lvl : Nat) : Option Nat :=
  if lvl < 32 then new (x &&& (0xffffffff ^^^ ((1 <<< lvl) % U32 - 1))) else none

/-- the `while left != right` loop -/
def lcaLoop : Nat → Nat → Nat → Option Nat
  | 0, l, r => if l = r then some l else none        -- out of fuel; never with fuel 32 (`lcaLoop_spec`)
  | fuel + 1, l, r => if l ≠ r then lcaLoop fuel (parent l) (parent r) else some l

def lowestCommonAncestor (x y : Nat) : Option Nat :=
  match level x, level y with
  | some ll, some rl =>
    let l := if ll > rl then x >>> (ll - rl) else x
    let r := if rl > ll then y >>> (rl - ll) else y
    lcaLoop 32 l r
  | _, _ => none

/-- `let mask = 1 << index; mask & self.0 > 0` (index: usize, mask: u32) -/
def extractBit (x idx : Nat) : Option Bool :=
  if idx < 32 then some (decide (((1 <<< idx) % U32) &&& x > 0)) else none

/-! level_directory.rs -/

/-- `crosses_at_level(u, v, level)`; `ids` = `partition_ids`; indexing out of range panics -/
def crossesAtLevel (ids : Array Nat) (u v lvl : Nat) : Option Bool :=
  match ids[u]?, ids[v]? with
  | some a, some b =>
    match parentAtLevel a lvl, parentAtLevel b lvl with
    | some pa, some pb => some (pa != pb)
    | _, _ => none
  | _, _ => none

/-- `get_crossing_levels`: the longest prefix of `levels` on which u and v cross -/
def crossingCount (ids : Array Nat) (u v : Nat) : List Nat → Option Nat
  | [] => some 0
  | l :: ls =>
    match crossesAtLevel ids u v l with
    | none => none
    | some true => (crossingCount ids u v ls).map (· + 1)
    | some false => some 0

def getCrossingLevels (ids : Array Nat) (levels : List Nat) (u v : Nat) : Option (List Nat) :=
  (crossingCount ids u v levels).map fun i => levels.take i

end Tbx.PartitionID
