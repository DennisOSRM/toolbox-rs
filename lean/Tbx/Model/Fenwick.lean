import Tbx.Model.Arr
/-
Executable model of `src/fenwick.rs` (Fenwick) and of `math::prev_power_of_two`.
`tree : Vec<T>` is one-indexed (slot 0 unused), values are modelled as `Int`
(the Rust is generic over `num::Integer`; the harness instantiates `i64` with values far from
overflow).  Loops carry fuel; the fuel handed in by the callers is shown sufficient in
`Tbx/Proofs/Fenwick*.lean`.
-/
namespace Tbx.Fenwick
open Tbx

/-- `largest_power_of_two_divisor(n) = n & n.wrapping_neg()` on 64-bit `usize` -/
def lsbBits (n : Nat) : Nat := n &&& ((2 ^ 64 - n) % 2 ^ 64)

/-- the same value by recursion on the binary representation: the largest power of two dividing n
    (0 for 0); `Tbx.Fenwick.lsbBits_eq` proves `lsbBits n = lsb n` for n < 2^64 -/
def lsb (n : Nat) : Nat :=
  if h : n = 0 then 0
  else if n % 2 = 1 then 1
  else 2 * lsb (n / 2)
decreasing_by omega

structure FW where
  tree : Array Int
deriving Repr

/-- `with_size(n)` -/
def withSize (n : Nat) : FW := ⟨Array.replicate (n + 1) 0⟩

/-- the `for index in 1..tree.len()` loop of `from_values` -/
def fvLoop : Nat → Nat → Array Int → Array Int
  | 0, _, t => t
  | fuel + 1, index, t =>
    if index < t.size then
      let parent := index + lsb index
      let t' := if parent < t.size then st t parent (gt t parent + gt t index) else t
      fvLoop fuel (index + 1) t'
    else t

/-- `from_values(values)` -/
def fromValues (values : List Int) : FW :=
  let tree := (#[0] : Array Int) ++ values.toArray
  ⟨fvLoop tree.size 1 tree⟩

def len (f : FW) : Nat := f.tree.size - 1
def isEmpty (f : FW) : Bool := len f == 0

/-- the `while index > 0` loop shared by `rank` and (twice) by `range`: walks down while `index > stop` -/
def downLoop (t : Array Int) (stop : Nat) : Nat → Nat → Int → Nat × Int
  | 0, index, sum => (index, sum)
  | fuel + 1, index, sum =>
    if index > stop then downLoop t stop fuel (index - lsb index) (sum + gt t index)
    else (index, sum)

/-- `rank(index)`: prefix sum of the entries 0..=index -/
def rank (f : FW) (index : Nat) : Option Int :=
  if index ≥ len f then none
  else some (downLoop f.tree 0 (index + 1) (index + 1) 0).2

/-- the `while index < self.tree.len()` loop of `update` -/
def upLoop (value : Int) : Nat → Nat → Array Int → Array Int
  | 0, _, t => t
  | fuel + 1, index, t =>
    if index < t.size then upLoop value fuel (index + lsb index) (st t index (gt t index + value))
    else t

/-- `update(index, value)`; `none` = `Err(IndexOutOfRangeError)` -/
def update (f : FW) (index : Nat) (value : Int) : Option FW :=
  if index ≥ len f then none
  else some ⟨upLoop value f.tree.size (index + 1) f.tree⟩

/-- `range(i, j)`; `none` where the Rust indexes `tree[j + 1]` out of bounds (j ≥ len, i < j) -/
def range (f : FW) (i j : Nat) : Option Int :=
  if i ≥ j then some 0
  else if j + 1 ≥ f.tree.size then none
  else
    let a := downLoop f.tree i (j + 1) (j + 1) 0
    -- second loop subtracts: run it on the negated accumulator
    let b := downLoop f.tree a.1 (i + 1) (i + 1) 0
    some (a.2 - b.2)

/-- `slow_range(i, j)`; `none` where a `rank(..).unwrap()` panics -/
def slowRange (f : FW) (i j : Nat) : Option Int :=
  if i > j then some 0
  else
    match rank f j, rank f i with
    | some a, some b => some (a - b)
    | _, _ => none

/-- `math::prev_power_of_two(n)`: largest power of two ≤ n, 0 for 0 -/
def prevPow2 (n : Nat) : Nat := if n = 0 then 0 else 2 ^ Nat.log2 n

/-- the `while step > 0` loop of `select` -/
def selLoop (t : Array Int) : Nat → Nat → Nat → Int → Nat
  | 0, index, _, _ => index
  | fuel + 1, index, step, value =>
    if step > 0 then
      if index + step < t.size ∧ gt t (index + step) ≤ value then
        selLoop t fuel (index + step) (step / 2) (value - gt t (index + step))
      else selLoop t fuel index (step / 2) value
    else index

/-- `select(value)` -/
def select (f : FW) (value : Int) : Option Nat :=
  let step := prevPow2 (len f)
  let index := selLoop f.tree (step + 1) 0 step value
  if index = 0 then none else some (index - 1)

end Tbx.Fenwick
