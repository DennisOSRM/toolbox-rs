/-
Model of /repo/src/polyline.rs — the INTEGER layer.

`encode` = float glue (`(p * 10^prec).round() as i32`, executed with Lean `Float` in the driver, never
reasoned about) followed by `polyline_encode_line` on the rounded `[i32; 2]` sequence; `decode` =
the accumulation of `lat`/`lng` (i32) followed by float glue (`lat as f64 / factor`).  This file models
everything between the two float steps.  Bytes are `Nat`s (`u8`), i32 values are `Int`s with the
checks the harness build performs (`overflow-checks = true`):

* `+`, `-`, `+=` on i32 panic on overflow       → `chk32 … = none`
* `<<` panics only when the shift AMOUNT is ≥ 32; the value wraps silently.  Every place where the
  real code could wrap is modelled as `none` as well (`shl32`): the property's quantifier (|lat| ≤ 90·10^6,
  |lon| ≤ 180·10^6) excludes those inputs (`Tbx.Props.C20.polyline_int_roundtrip` proves `some` there).
-/
namespace Tbx.Polyline

def I32_MIN : Int := -2147483648
def I32_MAX : Int := 2147483647

/-- result of an overflow-checked i32 operation -/
def chk32 (x : Int) : Option Int := if I32_MIN ≤ x ∧ x ≤ I32_MAX then some x else none

/-- `b << shift` on i32: panics for `shift ≥ 32`; `none` as well where the value would wrap -/
def shl32 (b : Int) (shift : Nat) : Option Int := if shift < 32 then chk32 (b * 2 ^ shift) else none

/-- `polyline_encode_unsigned` for a non-negative i32 `value`:
    `while value >= 0x20 { push((0x20 | (value & 0x1f)) + 63); value >>= 5 } push(value + 63)`.
    Fuelled; called with `fuel = value`, which always suffices (`value ≥ 0x20 → value >>> 5 < value`), the
    fuel-0 branch is reached only with `value = 0` and then coincides with the loop exit. -/
def encU : Nat → Nat → List Nat
  | 0, value => [value + 63]
  | fuel + 1, value =>
    if value ≥ 0x20 then ((0x20 ||| (value &&& 0x1f)) + 63) :: encU fuel (value >>> 5)
    else [value + 63]

def encodeUnsigned (value : Nat) : List Nat := encU value value

/-- `polyline_encode_signed(value)`: `encode_unsigned(if value < 0 { !(value << 1) } else { value << 1 })`.
    `none` where `value << 1` wraps (|value| ≥ 2^30; the real code then emits a garbage byte). -/
def encodeSigned (value : Int) : Option (List Nat) :=
  match chk32 (value * 2) with
  | none => none
  | some sh =>
    let u : Int := if value < 0 then -sh - 1 else sh     -- `!x = -x - 1`
    some (encodeUnsigned u.toNat)

/-- the `for point in path` loop of `polyline_encode_line` after `transform`; `start` is the previous point -/
def encodeLine : List (Int × Int) → Int × Int → Option (List Nat)
  | [], _ => some []
  | e :: rest, start =>
    match chk32 (e.1 - start.1), chk32 (e.2 - start.2) with
    | some d0, some d1 =>
      match encodeSigned d0, encodeSigned d1, encodeLine rest e with
      | some a, some b, some c => some (a ++ b ++ c)
      | _, _, _ => none
    | _, _ => none

/-- integer layer of `encode` -/
def encodeInts (xs : List (Int × Int)) : Option (List Nat) := encodeLine xs (0, 0)

/-- `decode_unsigned(encoded, index)` on the remaining bytes; returns the value and the remaining bytes.
    `result`/`shift` are the loop variables (initially 1 and 0). -/
def decodeUnsigned : List Nat → Int → Nat → Option (Int × List Nat)
  | [], result, _ => some (result, [])
  | byte :: rest, result, shift =>
    let b : Int := (byte : Int) - 63 - 1
    match shl32 b shift with
    | none => none
    | some t =>
      match chk32 (result + t) with
      | none => none
      | some r' => if b < 0x1f then some (r', rest) else decodeUnsigned rest r' (shift + 5)

/-- `if result & 1 != 0 { !(result >> 1) } else { result >> 1 }` (`& 1` on two's complement = parity) -/
def unzig (result : Int) : Int := if result % 2 != 0 then -(result >>> 1) - 1 else result >>> 1

/-- the `while index < len` loop of `decode`.  Every iteration consumes at least one byte, so
    `fuel = bytes.length` suffices (on the encoder's output: `Tbx.Proofs.Polyline.decodeLoop_bytesOf`);
    `none` = an i32 overflow panic. -/
def decodeLoop : Nat → List Nat → Int → Int → Option (List (Int × Int))
  | _, [], _, _ => some []
  | 0, _ :: _, _, _ => none
  | fuel + 1, b :: bs, lat, lng =>
    match decodeUnsigned (b :: bs) 1 0 with
    | none => none
    | some (r1, rest1) =>
      match chk32 (lat + unzig r1) with
      | none => none
      | some lat' =>
        match decodeUnsigned rest1 1 0 with
        | none => none
        | some (r2, rest2) =>
          match chk32 (lng + unzig r2) with
          | none => none
          | some lng' =>
            match decodeLoop fuel rest2 lat' lng' with
            | none => none
            | some tail => some ((lat', lng') :: tail)

/-- integer layer of `decode` -/
def decodeInts (cs : List Nat) : Option (List (Int × Int)) := decodeLoop cs.length cs 0 0

/-- the property's domain on the integer layer for precision ≤ 6 (10^6 · 90 / 180) -/
def InRange (p : Int × Int) : Prop :=
  -90000000 ≤ p.1 ∧ p.1 ≤ 90000000 ∧ -180000000 ≤ p.2 ∧ p.2 ≤ 180000000

instance (p : Int × Int) : Decidable (InRange p) := by unfold InRange; infer_instance

end Tbx.Polyline
