/-
The two array accessors all array-based models are written with, and the lemmas through which
proofs use them.

`gt a i` reads with a default for out-of-range indices, `st a i x` writes if in range.  They are
`def`s, not `abbrev`s (DESIGN.md Appendix A.3: `abbrev` accessors are unfolded by `simp` and make
goals unreadable).
-/
namespace Tbx

def gt {α : Type} [Inhabited α] (a : Array α) (i : Nat) : α := a.getD i default
def st {α : Type} (a : Array α) (i : Nat) (x : α) : Array α := a.setIfInBounds i x

theorem gt_st {α : Type} [Inhabited α] (a : Array α) (i j : Nat) (x : α) :
    gt (st a i x) j = if i = j ∧ i < a.size then x else gt a j := by
  simp only [gt, st, Array.getD_eq_getD_getElem?, Array.getElem?_setIfInBounds]
  split
  · rename_i h; subst h
    by_cases hi : i < a.size <;> simp [hi]
  · rename_i h; simp [h]

theorem gt_st_eq {α : Type} [Inhabited α] (a : Array α) (i : Nat) (x : α) (h : i < a.size) :
    gt (st a i x) i = x := by
  rw [gt_st]; simp [h]

theorem gt_st_ne {α : Type} [Inhabited α] (a : Array α) (i j : Nat) (x : α) (h : i ≠ j) :
    gt (st a i x) j = gt a j := by
  rw [gt_st]; simp [h]

@[simp] theorem size_st {α : Type} (a : Array α) (i : Nat) (x : α) : (st a i x).size = a.size := by
  simp [st]

theorem st_st {α : Type} (a : Array α) (i : Nat) (x y : α) : st (st a i x) i y = st a i y := by
  simp [st]

theorem gt_push_lt {α : Type} [Inhabited α] (a : Array α) (x : α) (i : Nat) (h : i < a.size) :
    gt (a.push x) i = gt a i := by
  simp only [gt, Array.getD_eq_getD_getElem?]
  rw [Array.getElem?_push]
  have : ¬ (i = a.size) := Nat.ne_of_lt h
  simp [this]

theorem gt_push_eq {α : Type} [Inhabited α] (a : Array α) (x : α) :
    gt (a.push x) a.size = x := by
  simp [gt, Array.getD_eq_getD_getElem?]

theorem gt_of_ge {α : Type} [Inhabited α] (a : Array α) (i : Nat) (h : a.size ≤ i) :
    gt a i = default := by
  simp [gt, Array.getD_eq_getD_getElem?, Array.getElem?_eq_none h]

theorem gt_eq_getElem {α : Type} [Inhabited α] (a : Array α) (i : Nat) (h : i < a.size) : gt a i = a[i] := by
  simp [gt, h]

theorem gt_st_lt {α : Type} [Inhabited α] (a : Array α) (i j : Nat) (x : α) (h : i < a.size) :
    gt (st a i x) j = if j = i then x else gt a j := by
  rw [gt_st]
  by_cases c : j = i
  · rw [if_pos ⟨c.symm, h⟩, if_pos c]
  · rw [if_neg fun h' => c h'.1.symm, if_neg c]

theorem gt_push {α : Type} [Inhabited α] (a : Array α) (x : α) (i : Nat) :
    gt (a.push x) i = if i < a.size then gt a i else if i = a.size then x else default := by
  split
  · exact gt_push_lt a x i ‹_›
  · split
    · rename_i h; rw [h]; exact gt_push_eq a x
    · rename_i h1 h2
      exact gt_of_ge _ _ (Array.size_push .. ▸ Nat.lt_of_le_of_ne (Nat.le_of_not_lt h1) (Ne.symm h2))

theorem gt_pop_lt {α : Type} [Inhabited α] (a : Array α) (i : Nat) (h : i < a.size - 1) : gt a.pop i = gt a i := by
  simp only [gt, Array.getD_eq_getD_getElem?, Array.getElem?_pop, if_pos h]

theorem gt_replicate {α : Type} [Inhabited α] (n : Nat) (v : α) (i : Nat) (h : i < n) :
    gt (Array.replicate n v) i = v := by
  simp [gt, h]

theorem gt_replicate_default {α : Type} [Inhabited α] (n i : Nat) :
    gt (Array.replicate n (default : α)) i = default := by
  by_cases h : i < n
  · exact gt_replicate n default i h
  · exact gt_of_ge _ _ (Array.size_replicate .. ▸ Nat.le_of_not_lt h)

theorem gt_toArray {α : Type} [Inhabited α] (l : List α) (i : Nat) : gt l.toArray i = l.getD i default := by
  simp [gt, List.getD_eq_getElem?_getD]

theorem gt_eq_getD {α : Type} [Inhabited α] (a : Array α) (i : Nat) : gt a i = a.toList.getD i default := by
  simp [gt, Array.getD_eq_getD_getElem?, List.getD_eq_getElem?_getD]

theorem gt_map {α β : Type} [Inhabited α] [Inhabited β] (f : α → β) (hd : f default = default)
    (a : Array α) (i : Nat) : gt (a.map f) i = f (gt a i) := by
  simp only [gt, Array.getD_eq_getD_getElem?, Array.getElem?_map]
  cases a[i]? <;> simp [hd]

theorem st_map {α β : Type} (f : α → β) (a : Array α) (i : Nat) (x : α) :
    st (a.map f) i (f x) = (st a i x).map f := by
  simp only [st, Array.map_setIfInBounds]

theorem getD_mem {α : Type} (l : List α) (i : Nat) (d : α) (h : i < l.length) : l.getD i d ∈ l := by
  rw [List.getD_eq_getElem?_getD, List.getElem?_eq_getElem h]; exact List.getElem_mem h

structure Grid {α : Type} (c : Array (Array α)) (k m : Nat) : Prop where
  rows : c.size = k
  cols : ∀ r, r < k → (gt c r).size = m

theorem Grid.st_st {α : Type} {c : Array (Array α)} {k m : Nat} (G : Grid c k m) (r b : Nat) (v : α) :
    Grid (st c r (st (gt c r) b v)) k m := by
  refine ⟨by rw [size_st]; exact G.rows, fun r' hr' => ?_⟩
  rw [gt_st]
  split
  · rename_i h; rw [size_st, h.1]; exact G.cols r' hr'
  · exact G.cols r' hr'

theorem Grid.gt_st_st {α : Type} [Inhabited α] {c : Array (Array α)} {k m r b : Nat} (G : Grid c k m)
    (hr : r < k) (hb : b < m) (v : α) (r' b' : Nat) :
    gt (gt (st c r (st (gt c r) b v)) r') b' = if r' = r ∧ b' = b then v else gt (gt c r') b' := by
  rw [gt_st]
  by_cases h1 : r = r'
  · subst h1
    rw [if_pos ⟨rfl, G.rows ▸ hr⟩, gt_st]
    by_cases h2 : b = b'
    · subst h2; rw [if_pos ⟨rfl, (G.cols r hr).symm ▸ hb⟩, if_pos ⟨rfl, rfl⟩]
    · rw [if_neg (fun h => h2 h.1), if_neg (fun h => h2 h.2.symm)]
  · rw [if_neg (fun h => h1 h.1), if_neg (fun h => h1 h.1.symm)]

/-! ### a matrix of rows of length `m`, stored row by row: entry `(i, j)` is at `i * m + j` -/

theorem idx_lt {n m i j : Nat} (hi : i < n) (hj : j < m) : i * m + j < n * m := by
  have h1 : i * m + j < (i + 1) * m := by rw [Nat.succ_mul]; omega
  exact Nat.lt_of_lt_of_le h1 (Nat.mul_le_mul_right m hi)

theorem idx_inj {m i j i' j' : Nat} (hj : j < m) (hj' : j' < m) (h : i * m + j = i' * m + j') : i = i' ∧ j = j' := by
  have hm : 0 < m := by omega
  have a : (i * m + j) / m = i := by rw [Nat.mul_comm, Nat.mul_add_div hm, Nat.div_eq_of_lt hj]; rfl
  have b : (i' * m + j') / m = i' := by rw [Nat.mul_comm, Nat.mul_add_div hm, Nat.div_eq_of_lt hj']; rfl
  have e : i = i' := by rw [← a, ← b, h]
  subst e
  exact ⟨rfl, by omega⟩

end Tbx
