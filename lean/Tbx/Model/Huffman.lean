/-
Model of /repo/src/huffman_code.rs: both constructions and `retrieve_codebook`.

Symbols are `Nat`s, frequencies `Int`s (i32; the driver checks that the total fits, the sum
`left.frequency + right.frequency` is overflow-checked in the real code), code words `List Bool`
(`false` = '0', `true` = '1'; `prefix.clone() + "0"` appends at the END).

* sorted input: two queues (`VecDeque`, modelled as lists, front = head); `min_node` takes from `q1`
  only when `q1.front < q2.front` STRICTLY (ties go to the internal nodes of `q2`).
* unsorted input: `std::collections::BinaryHeap<Reverse<Rc<RefCell<HuffmanNode>>>>`, nodes compared by
  frequency only.  To mirror which of several equal-frequency nodes is popped, the heap is modelled
  with std's algorithm (`push` = append + `sift_up(0, old_len)`; `pop` = take the last element, swap it
  with the root, `sift_down_to_bottom(0)` = walk the hole down along the greater child in `Reverse` order,
  i.e. the SMALLER frequency, the right one on ties, then `sift_up`).  std moves a hole; the model swaps
  the element along, which yields the same array.
`none` = a panic (`unwrap` on an empty queue: the sorted construction on a one-symbol table).
-/
namespace Tbx.Huffman

inductive Tree where
  | leaf (sym : Nat) (freq : Int)
  | node (freq : Int) (left right : Tree)
deriving Repr, Inhabited, DecidableEq

namespace Tree
def freq : Tree → Int
  | leaf _ f => f
  | node f _ _ => f
/-- number of nodes -/
def size : Tree → Nat
  | leaf _ _ => 1
  | node _ l r => l.size + r.size + 1
end Tree

abbrev Code := List Bool
abbrev Book := List (Nat × Code)

/-- `retrieve_codebook`: the `while let Some((current, prefix)) = stack.pop()` loop; the stack's top is
    the list head.  An interior node pushes left then right, so the right child is popped first. -/
def retrieveLoop : Nat → List (Tree × Code) → Book → Option Book
  | _, [], book => some book
  | 0, _ :: _, _ => none                                  -- out of fuel (`retrieveLoop_cons`)
  | fuel + 1, (cur, pre) :: stack, book =>
    match cur with
    | .leaf s _ => retrieveLoop fuel stack (book ++ [(s, pre)])
    | .node _ l r => retrieveLoop fuel ((r, pre ++ [true]) :: (l, pre ++ [false]) :: stack) book

def retrieveCodebook (root : Tree) : Option Book := retrieveLoop root.size [(root, [])] []

/-! ### sorted input: two queues -/

/-- `min_node(q1, q2)`: the popped node and the two queues afterwards -/
def minNode (q1 q2 : List Tree) : Option (Tree × List Tree × List Tree) :=
  match q1, q2 with
  | [], [] => none                                        -- `q2.pop_front().unwrap()` on empty
  | [], y :: q2' => some (y, [], q2')
  | x :: q1', [] => some (x, q1', [])
  | x :: q1', y :: q2' => if x.freq < y.freq then some (x, q1', y :: q2') else some (y, x :: q1', q2')

/-- `while !q1.is_empty() || q2.len() > 1`; every iteration removes two nodes and adds one, so
    `fuel = q1.length + q2.length` suffices -/
def sortedLoop : Nat → List Tree → List Tree → Option Tree
  | fuel, q1, q2 =>
    if !q1.isEmpty || q2.length > 1 then
      match fuel with
      | 0 => none                                         -- out of fuel
      | fuel' + 1 =>
        match minNode q1 q2 with
        | none => none
        | some (left, q1a, q2a) =>
          match minNode q1a q2a with
          | none => none
          | some (right, q1b, q2b) =>
            sortedLoop fuel' q1b (q2b ++ [.node (left.freq + right.freq) left right])
    else q2.head?                                         -- `q2.pop_front().unwrap()`

def leaves (v : List (Nat × Int)) : List Tree := v.map fun (t, f) => .leaf t f

def sortedTree (v : List (Nat × Int)) : Option Tree := sortedLoop v.length (leaves v) []

/-- `generate_huffman_code_from_sorted` -/
def fromSorted (v : List (Nat × Int)) : Option Book :=
  if v.isEmpty then some []
  else match sortedTree v with
    | none => none
    | some root => retrieveCodebook root

/-! ### unsorted input: std BinaryHeap of `Reverse(node)` -/

def swp (a : Array Tree) (i j : Nat) : Array Tree := a.swapIfInBounds i j
def fr (a : Array Tree) (i : Nat) : Int := (a.getD i default).freq

/-- `sift_up(start, pos)`: `while pos > start { parent = (pos-1)/2; if elem <= parent {break}; move }`;
    in `Reverse` order `elem <= parent` means `freq parent ≤ freq elem` -/
def siftUp (start : Nat) : Nat → Array Tree → Nat → Array Tree
  | 0, a, _ => a
  | fuel + 1, a, pos =>
    if pos > start then
      let parent := (pos - 1) / 2
      if fr a parent ≤ fr a pos then a else siftUp start fuel (swp a pos parent) parent
    else a

/-- the descent of `sift_down_to_bottom`; returns the array and the final hole position -/
def siftDownLoop (end_ : Nat) : Nat → Array Tree → Nat → Array Tree × Nat
  | 0, a, pos => (a, pos)
  | fuel + 1, a, pos =>
    let child := 2 * pos + 1
    if child ≤ end_ - 2 then
      -- `child += (get(child) <= get(child+1)) as usize`, in Reverse order: freq(child+1) ≤ freq(child)
      let child := if fr a (child + 1) ≤ fr a child then child + 1 else child
      siftDownLoop end_ fuel (swp a pos child) child
    else if child = end_ - 1 then (swp a pos child, child)
    else (a, pos)

def siftDownToBottom (a : Array Tree) (pos : Nat) : Array Tree :=
  let r := siftDownLoop a.size a.size a pos
  siftUp pos a.size r.1 r.2

def heapPush (a : Array Tree) (x : Tree) : Array Tree := siftUp 0 (a.size + 1) (a.push x) a.size

/-- `pop`: `data.pop().map(|mut item| { if !is_empty() { swap(item, data[0]); sift_down_to_bottom(0) } item })` -/
def heapPop (a : Array Tree) : Option (Tree × Array Tree) :=
  match a.back? with
  | none => none
  | some item =>
    let d := a.pop
    if d.size > 0 then some (d.getD 0 default, siftDownToBottom (d.setIfInBounds 0 item) 0)
    else some (item, d)

/-- `while q1.len() > 1 { x = pop; y = pop; push(node(x.f + y.f, x, y)) }`; fuel = number of nodes -/
def unsortedLoop : Nat → Array Tree → Option (Array Tree)
  | fuel, a =>
    if a.size > 1 then
      match fuel with
      | 0 => none                                         -- out of fuel
      | fuel' + 1 =>
        match heapPop a with
        | none => none
        | some (x, a1) =>
          match heapPop a1 with
          | none => none
          | some (y, a2) => unsortedLoop fuel' (heapPush a2 (.node (x.freq + y.freq) x y))
    else some a

def buildHeap (v : List (Nat × Int)) : Array Tree := (leaves v).foldl heapPush #[]

def unsortedTree (v : List (Nat × Int)) : Option Tree :=
  match unsortedLoop v.length (buildHeap v) with
  | none => none
  | some a => (heapPop a).map (·.1)

/-- `generate_huffman_code_from_unsorted` -/
def fromUnsorted (v : List (Nat × Int)) : Option Book :=
  if v.isEmpty then some []
  else match unsortedTree v with
    | none => none
    | some root => retrieveCodebook root

end Tbx.Huffman
